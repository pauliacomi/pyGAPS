/-
C15 — characterisation results do not depend on the units the isotherm is stored in.

Statements are about the hand-written, correspondence-checked models `Model/IsoState.lean` (permanent conversions),
`Model/Access.lean` (accessors), `Model/Linear.lean`, `Model/Meso.lean`, `Model/Micro.lean` and the GENERATED formulas
`Gen/CharR.lean`, `Gen/ModelsR.lean`.  Helpers are `lemma`, properties are `theorem`.

Two kinds of statement.
(ii) Homogeneity under a change of the loading unit `n ↦ k n` (and, for the isosteric enthalpy and the Henry constant, of the
     pressure unit): a pointwise law of a formula is lifted to the columns (section Columns) and through the regression
     (`ols_scale_y`, `ols_shift`, `ols_scale_x`).  In the order of the file: B3 least squares; B4 BET and Langmuir (with the
     automatic BET window and the model isotherms `simple_bet`, `simple_lang`); B6 DR / DA; B5 t-plot and alpha-s; B9 isosteric
     enthalpy; C the initial Henry constant, a result in the isotherm's OWN units, under the hypothesis that the fit returns the
     MINIMISER (`Props/C15/Optimiser.lean`: that hypothesis is what the code lacks in findings S45-C15a / S46-C15b); B7 the
     mesopore recurrences; B8 the micropore bookkeeping.
(i)  Part A, representation invariance of what the routines read (builds on C01, C02 `run_any_history`, C03
     `accessPressure_SI`): one lemma, `reads_after_history` — a reader that on every valid typed state is a function of the
     canonical columns (Pa, mol / g) and of the material representation returns that function of the ORIGINAL columns after any
     history — and its instances for the pressure and loading columns, `access_after_history`, `routine_invariant`,
     `routine_invariant_two`.  The interpolating accessors `loading_at` / `pressure_at` are in `Props/C15/Interp.lean`.
     NOT modelled here: export / re-import (C05 / C06 / C07).
Then the witnesses (`material_conversion_witness`, `fraction_target_witness`: the two explicit restrictions of part A cannot be
dropped; `saturation_pressure_unit_witness`: the saturation pressure enters in the isotherm's own pressure unit) and D, non-vacuity.
-/
import PgVerif.Gen.CharR
import PgVerif.Gen.ModelsR
import PgVerif.Model.Linear
import PgVerif.Model.Meso
import PgVerif.Model.Micro
import PgVerif.Props.C14
import PgVerif.Props.C02
import PgVerif.Props.C03
import Mathlib.Tactic

namespace PgVerif.Props.C15
open PgVerif.Gen.CharR PgVerif.Model.Linear
open PgVerif.Props.C14 (sum_map_mul_left mean_map_scale ols_scale)

/-! ## Columns: pointwise laws lifted to lists -/
section Columns
variable {α β γ : Type}

lemma map_map_of_comm {f : α → β} {s : α → α} {g : α → γ} {t : γ → β} {l : List α}
    (h : ∀ x ∈ l, f (s x) = t (g x)) : (l.map s).map f = (l.map g).map t := by
  rw [List.map_map, List.map_map]
  exact List.map_congr_left h

lemma map_eq_map_map {f : α → β} {g : β → γ} {h : α → γ} {l : List α} (hh : ∀ x ∈ l, h x = g (f x)) :
    l.map h = (l.map f).map g := by
  rw [List.map_map]
  exact List.map_congr_left hh

lemma map_ite_congr {δ : Type} {c : Prop} [Decidable c] {f : α → δ} {g : β → δ} {x y : Option α} {x' y' : Option β}
    (h1 : c → x.map f = x'.map g) (h2 : ¬ c → y.map f = y'.map g) :
    (if c then x else y).map f = (if c then x' else y').map g := by
  by_cases h : c
  · rw [if_pos h, if_pos h]
    exact h1 h
  · rw [if_neg h, if_neg h]
    exact h2 h

lemma zipWith_map_left_of {F : α → β → γ} {f : α → α} {h : γ → γ} (hF : ∀ x y, F (f x) y = h (F x y))
    (xs : List α) (ys : List β) : List.zipWith F (xs.map f) ys = (List.zipWith F xs ys).map h := by
  rw [List.zipWith_map_left, List.map_zipWith]
  simp only [hF]

lemma zipWith_map_right_of {F : α → β → γ} {g : β → β} {h : γ → γ} (hF : ∀ x y, F x (g y) = h (F x y))
    (xs : List α) (ys : List β) : List.zipWith F xs (ys.map g) = (List.zipWith F xs ys).map h := by
  rw [List.zipWith_map_right, List.map_zipWith]
  simp only [hF]

end Columns

/-! ## B3. least squares: homogeneity and translation -/
section OlsAlgebra
variable {α : Type} [Field α]

lemma sum_zipWith_of_mul {F G : α → α → α} {k : α} (h : ∀ x y, F x y = k * G x y) (xs ys : List α) :
    sum (List.zipWith F xs ys) = k * sum (List.zipWith G xs ys) := by
  simpa only [id, List.map_id', List.map_zipWith, ← h] using sum_map_mul_left k id (List.zipWith G xs ys)

lemma sxy_scale_left (k : α) (xs ys : List α) :
    sxy (xs.map fun x => k * x) ys = k * sxy xs ys := by
  unfold sxy
  rw [mean_map_scale, List.zipWith_map_left]
  exact sum_zipWith_of_mul (fun x y => by ring) xs ys

lemma sxy_scale_right (k : α) (xs ys : List α) :
    sxy xs (ys.map fun y => k * y) = k * sxy xs ys := by
  unfold sxy
  rw [mean_map_scale, List.zipWith_map_right]
  exact sum_zipWith_of_mul (fun x y => by ring) xs ys

variable [CharZero α]

lemma mean_map_add_const (c : α) (ys : List α) (h : ys ≠ []) :
    mean (ys.map fun y => y + c) = mean ys + c := by
  simpa only [one_mul] using C14.mean_map_affine 1 c ys h

lemma sxy_shift_right (c : α) (xs ys : List α) (h : ys ≠ []) :
    sxy xs (ys.map fun y => y + c) = sxy xs ys := by
  simp only [sxy, mean_map_add_const c ys h, List.zipWith_map_right, add_sub_add_right_eq_sub]

/-- C14 `ols_scale` under the name the homogeneity statements of this file use: every `…_end_to_end_scale` in the loading
starts from it. -/
theorem ols_scale_y (k : α) (xs ys : List α) :
    ols xs (ys.map fun y => k * y) = (k * (ols xs ys).1, k * (ols xs ys).2) :=
  ols_scale k xs ys

/-- Guard `ys ≠ []`: for the empty list the totalised mean is `0` and nothing is added.  No condition on the abscissae. -/
theorem ols_shift (c : α) (xs ys : List α) (h : ys ≠ []) :
    ols xs (ys.map fun y => y + c) = ((ols xs ys).1, (ols xs ys).2 + c) := by
  unfold ols
  simp only [sxy_shift_right c xs ys h, mean_map_add_const c ys h, Prod.mk.injEq, true_and]
  ring

lemma ols_shift_of {ι : Type} {f g : ι → α} {c : α} {l : List ι} (hl : l ≠ []) (h : ∀ x ∈ l, g x = f x + c)
    (xs : List α) : ols xs (l.map g) = ((ols xs (l.map f)).1, (ols xs (l.map f)).2 + c) := by
  rw [List.map_congr_left h]
  simpa only [List.map_map, Function.comp_def] using ols_shift c xs (l.map f) (mt List.map_eq_nil_iff.1 hl)

omit [CharZero α] in
lemma div_mul_mul_cancel_left {a : α} (ha : a ≠ 0) (x p : α) : x / a * (a * p) = x * p := by
  rw [div_mul_comm, mul_div_cancel_left₀ _ ha, mul_comm]

omit [CharZero α] in
theorem ols_scale_x (k : α) (hk : k ≠ 0) (xs ys : List α) :
    ols (xs.map fun x => k * x) ys = ((ols xs ys).1 / k, (ols xs ys).2) := by
  have e : k * sxy xs ys / (k * (k * sxy xs xs)) = sxy xs ys / sxy xs xs / k := by
    rw [mul_div_mul_left _ _ hk, div_mul_eq_div_div_swap]
  simp only [ols, sxy_scale_left, sxy_scale_right, mean_map_scale, e, Prod.mk.injEq, true_and]
  -- intercept: the slope is divided by `k`, the mean abscissa multiplied by `k`
  rw [div_mul_mul_cancel_left hk]

end OlsAlgebra

/-! ## B4. BET and Langmuir: homogeneity in the loading -/
section BET

theorem roq_transform_homogeneous (p n k : ℝ) : roq_transform p (k * n) = k * roq_transform p n := by
  unfold roq_transform; ring

/-- The guard `k ≠ 0` is not used by the proof: at `k = 0` both sides are `0` by the convention `x / 0 = 0`. -/
theorem bet_transform_homogeneous (p n k : ℝ) (hk : k ≠ 0) : bet_transform p (k * n) = bet_transform p n / k := by
  unfold bet_transform roq_transform
  rw [mul_assoc, div_mul_eq_div_div_swap]

lemma ols_zipWith_inv_scale {F : ℝ → ℝ → ℝ} {k : ℝ} (hF : ∀ p n, F p (k * n) = F p n / k) (xs ps ns : List ℝ) :
    ols xs (List.zipWith F ps (ns.map fun n => k * n))
      = ((ols xs (List.zipWith F ps ns)).1 / k, (ols xs (List.zipWith F ps ns)).2 / k) := by
  rw [zipWith_map_right_of (h := fun y => k⁻¹ * y) (fun p n => by rw [hF, div_eq_inv_mul]), ols_scale]
  simp only [div_eq_inv_mul]

theorem bet_ols_scale (k : ℝ) (hk : k ≠ 0) (xs ps ns : List ℝ) :
    ols xs (List.zipWith bet_transform ps (ns.map fun n => k * n))
      = ((ols xs (List.zipWith bet_transform ps ns)).1 / k, (ols xs (List.zipWith bet_transform ps ns)).2 / k) :=
  ols_zipWith_inv_scale (fun p n => bet_transform_homogeneous p n k hk) xs ps ns

theorem bet_area_homogeneous (cs nm k : ℝ) : bet_area cs (k * nm) = k * bet_area cs nm := by
  unfold bet_area; ring

/-- Holds also on the degenerate line through the origin (`intercept = 0`, where `c` is the totalised `s / 0`).
Generated argument orders: `bet_c_const slope intercept`, `bet_n_monolayer intercept c_const`,
`bet_area cross_section n_monolayer`. -/
theorem bet_results_scale (s i cs k : ℝ) (hk : k ≠ 0) :
    bet_c_const (s / k) (i / k) = bet_c_const s i ∧
    bet_n_monolayer (i / k) (bet_c_const (s / k) (i / k)) = k * bet_n_monolayer i (bet_c_const s i) ∧
    bet_p_monolayer (bet_c_const (s / k) (i / k)) = bet_p_monolayer (bet_c_const s i) ∧
    bet_area cs (bet_n_monolayer (i / k) (bet_c_const (s / k) (i / k)))
      = k * bet_area cs (bet_n_monolayer i (bet_c_const s i)) := by
  have hc : bet_c_const (s / k) (i / k) = bet_c_const s i := by
    unfold bet_c_const
    rw [div_div_div_cancel_right₀ hk]
  have hn : bet_n_monolayer (i / k) (bet_c_const s i) = k * bet_n_monolayer i (bet_c_const s i) := by
    unfold bet_n_monolayer
    rw [div_mul_eq_mul_div, one_div_div, mul_one_div]
  rw [hc, hn]
  exact ⟨rfl, rfl, rfl, bet_area_homogeneous cs _ k⟩

/-- BET end to end: the same window fitted on the scaled isotherm.  The guard on the unscaled intercept is not used by the proof
(`bet_results_scale` holds on the degenerate line too). -/
theorem bet_end_to_end_scale (k cs : ℝ) (hk : k ≠ 0) (xs ps ns : List ℝ)
    (hi : (ols xs (List.zipWith bet_transform ps ns)).2 ≠ 0) :
    let r := ols xs (List.zipWith bet_transform ps ns)
    let r' := ols xs (List.zipWith bet_transform ps (ns.map fun n => k * n))
    bet_c_const r'.1 r'.2 = bet_c_const r.1 r.2 ∧
    bet_n_monolayer r'.2 (bet_c_const r'.1 r'.2) = k * bet_n_monolayer r.2 (bet_c_const r.1 r.2) ∧
    bet_p_monolayer (bet_c_const r'.1 r'.2) = bet_p_monolayer (bet_c_const r.1 r.2) ∧
    bet_area cs (bet_n_monolayer r'.2 (bet_c_const r'.1 r'.2))
      = k * bet_area cs (bet_n_monolayer r.2 (bet_c_const r.1 r.2)) := by
  rw [bet_ols_scale k hk]
  exact bet_results_scale _ _ cs k hk

theorem langmuir_transform_homogeneous (p n k : ℝ) (hk : k ≠ 0) :
    langmuir_transform p (k * n) = langmuir_transform p n / k := by
  unfold langmuir_transform
  rw [div_mul_eq_div_div_swap]

theorem langmuir_ols_scale (k : ℝ) (hk : k ≠ 0) (xs ps ns : List ℝ) :
    ols xs (List.zipWith langmuir_transform ps (ns.map fun n => k * n))
      = ((ols xs (List.zipWith langmuir_transform ps ns)).1 / k,
         (ols xs (List.zipWith langmuir_transform ps ns)).2 / k) :=
  ols_zipWith_inv_scale (fun p n => langmuir_transform_homogeneous p n k hk) xs ps ns

/-- Generated argument orders: `lang_const intercept n_monolayer`, `lang_area cross_section n_monolayer`. -/
theorem langmuir_results_scale (s i cs k : ℝ) (hk : k ≠ 0) :
    lang_n_monolayer (s / k) = k * lang_n_monolayer s ∧
    lang_const (i / k) (lang_n_monolayer (s / k)) = lang_const i (lang_n_monolayer s) ∧
    lang_area cs (lang_n_monolayer (s / k)) = k * lang_area cs (lang_n_monolayer s) := by
  have hn : lang_n_monolayer (s / k) = k * lang_n_monolayer s := by
    unfold lang_n_monolayer
    rw [one_div_div, mul_one_div]
  rw [hn]
  refine ⟨rfl, ?_, by unfold lang_area; ring⟩
  unfold lang_const
  rw [div_mul_mul_cancel_left hk]

theorem langmuir_end_to_end_scale (k cs : ℝ) (hk : k ≠ 0) (xs ps ns : List ℝ)
    (hs : (ols xs (List.zipWith langmuir_transform ps ns)).1 ≠ 0) :
    let r := ols xs (List.zipWith langmuir_transform ps ns)
    let r' := ols xs (List.zipWith langmuir_transform ps (ns.map fun n => k * n))
    lang_n_monolayer r'.1 = k * lang_n_monolayer r.1 ∧
    lang_const r'.2 (lang_n_monolayer r'.1) = lang_const r.2 (lang_n_monolayer r.1) ∧
    lang_area cs (lang_n_monolayer r'.1) = k * lang_area cs (lang_n_monolayer r.1) := by
  rw [langmuir_ols_scale k hk]
  exact langmuir_results_scale _ _ cs k hk

/-- `simple_bet` is the isotherm whose analysis returns `n_m`, `C` (C14 `bet_recovers`).  No guard: an identity of the generated
formula, totalised division included. -/
theorem simple_bet_homogeneous (p nm c k : ℝ) : simple_bet p (k * nm) c = k * simple_bet p nm c := by
  unfold simple_bet; ring

theorem simple_lang_homogeneous (p nm K k : ℝ) : simple_lang p (k * nm) K = k * simple_lang p nm K := by
  unfold simple_lang; ring

/-- Hence `bet_end_to_end_scale` / `langmuir_end_to_end_scale` apply to the model isotherms: `n_m` and the area are multiplied
by `k`; `C`, `K` are unchanged. -/
theorem model_isotherm_transform_scale (p nm c k : ℝ) (hk : k ≠ 0) :
    bet_transform p (simple_bet p (k * nm) c) = bet_transform p (simple_bet p nm c) / k ∧
    langmuir_transform p (simple_lang p (k * nm) c) = langmuir_transform p (simple_lang p nm c) / k := by
  rw [simple_bet_homogeneous, simple_lang_homogeneous]
  exact ⟨bet_transform_homogeneous p _ k hk, langmuir_transform_homogeneous p _ k hk⟩

example : simple_bet (1 / 4) (3 * 2) 100 = 3 * simple_bet (1 / 4) 2 100 := simple_bet_homogeneous _ _ _ _

/-! ### the automatic BET window does not depend on the loading scale -/
section RouquerolWindow
variable {β : Type} [Field β] [LinearOrder β] [IsStrictOrderedRing β]

lemma rouquerolMaxAux_scale (k : β) (hk : 0 < k) :
    ∀ (l : List β) (i : ℕ), rouquerolMaxAux (l.map fun v => k * v) i = rouquerolMaxAux l i
  | [], _ => rfl
  | [_], _ => rfl
  | a :: b :: r, i => by
    have ih := rouquerolMaxAux_scale k hk (b :: r) (i + 1)
    simp only [List.map_cons] at ih ⊢
    simp only [rouquerolMaxAux, ih, gt_iff_lt, mul_lt_mul_iff_right₀ hk]

/-- The Rouquerol maximum is the end of the automatically selected BET range; the Rouquerol transform itself is multiplied by `k`
(`roq_transform_homogeneous`), hence `k > 0`. -/
theorem rouquerolMax_scale (k : β) (hk : 0 < k) (roq : List β) :
    rouquerolMax (roq.map fun v => k * v) = rouquerolMax roq := by
  unfold rouquerolMax
  rw [rouquerolMaxAux_scale k hk, List.length_map]

/-- The whole BET window selection: automatic or by limits, a refusal included. -/
theorem betWindow_scale (k : β) (hk : 0 < k) (ps roq : List β) (tenth : β) (limits : Option (Option β × Option β)) :
    betWindow ps (roq.map fun v => k * v) tenth limits = betWindow ps roq tenth limits := by
  unfold betWindow
  cases limits with
  | none => simp only [rouquerolMax_scale k hk]
  | some l => rfl

end RouquerolWindow

end BET

/-! ## B6. Dubinin–Radushkevich / Dubinin–Astakhov -/
section DA

/-- Guard `n M/ρ ≠ 0`: at `0` the totalised `log 0 = 0` would break additivity. -/
theorem log_v_adj_scale (k n M ρ : ℝ) (hk : 0 < k) (hv : n * M / ρ ≠ 0) :
    log_v_adj (k * n) M ρ = Real.log k + log_v_adj n M ρ := by
  unfold log_v_adj
  rw [← Real.log_mul hk.ne' hv]
  congr 1; ring

theorem da_ols_scale (k M ρ : ℝ) (hk : 0 < k) (xs ns : List ℝ) (hne : ns ≠ [])
    (hv : ∀ n ∈ ns, n * M / ρ ≠ 0) :
    ols xs ((ns.map fun n => k * n).map fun n => log_v_adj n M ρ)
      = ((ols xs (ns.map fun n => log_v_adj n M ρ)).1,
         (ols xs (ns.map fun n => log_v_adj n M ρ)).2 + Real.log k) := by
  rw [List.map_map]
  exact ols_shift_of hne (fun n hn => (log_v_adj_scale k n M ρ hk (hv n hn)).trans (add_comm _ _)) xs

/-- The characteristic potential `da_potential T e slope` depends on the slope only, which `da_ols_scale` leaves unchanged. -/
theorem da_results_scale (k i : ℝ) (hk : 0 < k) :
    da_microp_volume (i + Real.log k) = k * da_microp_volume i := by
  unfold da_microp_volume
  rw [Real.exp_add, Real.exp_log hk]; ring

theorem da_end_to_end_scale (k M ρ T e : ℝ) (hk : 0 < k) (xs ns : List ℝ) (hne : ns ≠ [])
    (hv : ∀ n ∈ ns, n * M / ρ ≠ 0) :
    let r := ols xs (ns.map fun n => log_v_adj n M ρ)
    let r' := ols xs ((ns.map fun n => k * n).map fun n => log_v_adj n M ρ)
    da_microp_volume r'.2 = k * da_microp_volume r.2 ∧ da_potential T e r'.1 = da_potential T e r.1 := by
  rw [da_ols_scale k M ρ hk xs ns hne hv]
  exact ⟨da_results_scale k _ hk, rfl⟩

end DA

/-! ## B5. t-plot and alpha-s -/
section TPlot

theorem tplot_results_scale (M ρ s i k : ℝ) :
    tplot_area M ρ (k * s) = k * tplot_area M ρ s ∧
    tplot_adsorbed_volume M ρ (k * i) = k * tplot_adsorbed_volume M ρ i ∧
    alphas_adsorbed_volume M ρ (k * i) = k * alphas_adsorbed_volume M ρ i := by
  unfold tplot_area tplot_adsorbed_volume alphas_adsorbed_volume
  refine ⟨by ring, by ring, by ring⟩

/-- The thickness curve `ts` depends on the pressure only. -/
theorem tplot_end_to_end_scale (M ρ k : ℝ) (ts ns : List ℝ) :
    let r := ols ts ns
    let r' := ols ts (ns.map fun n => k * n)
    tplot_area M ρ r'.1 = k * tplot_area M ρ r.1 ∧
    tplot_adsorbed_volume M ρ r'.2 = k * tplot_adsorbed_volume M ρ r.2 := by
  rw [ols_scale k ts ns]
  intro r _
  exact ⟨(tplot_results_scale M ρ r.1 r.2 k).1, (tplot_results_scale M ρ r.1 r.2 k).2.1⟩

theorem alphas_curve_scale (ref apt k : ℝ) (hk : k ≠ 0) :
    alphas_curve (k * ref) (k * apt) = alphas_curve ref apt := by
  unfold alphas_curve
  rw [mul_div_mul_left _ _ hk]

/-- Generated argument order: `alphas_area alpha_s_point reference_area slope`. -/
theorem alphas_area_scale (apt Aref s k : ℝ) (hk : k ≠ 0) :
    alphas_area apt (k * Aref) s = k * alphas_area apt Aref s ∧
    alphas_area apt Aref (k * s) = k * alphas_area apt Aref s ∧
    alphas_area (k * apt) Aref (k * s) = alphas_area apt Aref s := by
  unfold alphas_area
  refine ⟨by ring, by ring, ?_⟩
  -- both sides as one fraction; `k` cancels between the reducing loading (denominator) and the slope (numerator)
  rw [div_mul_eq_mul_div, div_mul_eq_mul_div, mul_left_comm, mul_div_mul_left _ _ hk]

/-- alpha-s end to end.  Sample loading multiplied by `k`; reference loading and reducing loading (`n_ref(0.4)`) both multiplied
by `j ≠ 0`: the area `A_ref / n_ref(0.4) · slope` is multiplied by `k / j` — unchanged when sample and reference are rescaled by
the same constant, multiplied by `k` when only the sample is. -/
theorem alphas_end_to_end_scale (M ρ Aref apt k j : ℝ) (hj : j ≠ 0) (refs ns : List ℝ) :
    let curve := refs.map fun x => alphas_curve x apt
    let curve' := (refs.map fun x => j * x).map fun x => alphas_curve x (j * apt)
    let r := ols curve ns
    let r' := ols curve' (ns.map fun n => k * n)
    curve' = curve ∧
    alphas_area (j * apt) Aref r'.1 = k / j * alphas_area apt Aref r.1 ∧
    alphas_adsorbed_volume M ρ r'.2 = k * alphas_adsorbed_volume M ρ r.2 := by
  have hc : (refs.map fun x => j * x).map (fun x => alphas_curve x (j * apt)) = refs.map fun x => alphas_curve x apt := by
    rw [List.map_map]
    exact List.map_congr_left fun x _ => alphas_curve_scale x apt j hj
  intro curve curve' r r'
  have hr : r' = (k * r.1, k * r.2) := (congrArg (ols · _) hc).trans (ols_scale k curve ns)
  rw [hr]
  exact ⟨hc, by unfold alphas_area; ring, (tplot_results_scale M ρ r.1 r.2 k).2.2⟩

end TPlot

/-! ## B9. isosteric enthalpy: pressure-unit invariance -/
section Enthalpy

theorem enthalpy_ols_pressure_unit (a : ℝ) (ha : 0 < a) (xs ps : List ℝ) (hne : ps ≠ []) (hp : ∀ p ∈ ps, 0 < p) :
    ols xs (ps.map fun p => Real.log (a * p))
      = ((ols xs (ps.map fun p => Real.log p)).1, (ols xs (ps.map fun p => Real.log p)).2 + Real.log a) :=
  ols_shift_of hne (fun p hpm => (Real.log_mul ha.ne' (hp p hpm).ne').trans (add_comm _ _)) xs

theorem isosteric_enthalpy_pressure_unit (a : ℝ) (ha : 0 < a) (Ts ps : List ℝ) (hne : ps ≠ [])
    (hp : ∀ p ∈ ps, 0 < p) :
    isosteric_enthalpy (ols (Ts.map isosteric_inv_t) (ps.map fun p => Real.log (a * p))).1
      = isosteric_enthalpy (ols (Ts.map isosteric_inv_t) (ps.map fun p => Real.log p)).1 := by
  rw [enthalpy_ols_pressure_unit a ha _ ps hne hp]

end Enthalpy

/-! ## C. results in the isotherm's own units: the initial Henry constant -/
section Henry
open PgVerif.Gen.R

theorem henry_constant_units (K a b p : ℝ) (ha : a ≠ 0) :
    Henry_loading (b * K / a) (a * p) = b * Henry_loading K p := by
  unfold Henry_loading
  rw [div_mul_mul_cancel_left ha, mul_assoc]

/-- sum of squared residuals of the Henry model on the data `(ps, ns)` -/
noncomputable def henrySSE (K : ℝ) (ps ns : List ℝ) : ℝ :=
  sum (List.zipWith (fun p n => (Henry_loading K p - n) ^ 2) ps ns)

lemma sum_zipWith_nonneg {F : ℝ → ℝ → ℝ} (h : ∀ x y, 0 ≤ F x y) : ∀ xs ys : List ℝ, 0 ≤ sum (List.zipWith F xs ys)
  | [], _ => le_rfl
  | _ :: _, [] => le_rfl
  | x :: xs, y :: ys => add_nonneg (h x y) (sum_zipWith_nonneg h xs ys)

lemma henrySSE_nonneg (K : ℝ) (ps ns : List ℝ) : 0 ≤ henrySSE K ps ns :=
  sum_zipWith_nonneg (fun _ _ => sq_nonneg _) ps ns

lemma henrySSE_min_of_eq_zero {K : ℝ} {ps ns : List ℝ} (h : henrySSE K ps ns = 0) (K' : ℝ) :
    henrySSE K ps ns ≤ henrySSE K' ps ns :=
  h.trans_le (henrySSE_nonneg K' ps ns)

lemma henrySSE_units (K' a b : ℝ) (hb : b ≠ 0) (ps ns : List ℝ) :
    henrySSE K' (ps.map fun p => a * p) (ns.map fun n => b * n) = b ^ 2 * henrySSE (K' * a / b) ps ns := by
  unfold henrySSE
  rw [List.zipWith_map]
  exact sum_zipWith_of_mul (fun p n => by unfold Henry_loading; field_simp) ps ns

lemma henry_units_inv {a b : ℝ} (ha : a ≠ 0) (hb : b ≠ 0) (K : ℝ) : b * K / a * a / b = K := by
  field_simp

/-- The fitted Henry constant changes by exactly the unit factors `b / a` — provided the fit returns the minimiser (`hmin`). -/
theorem henry_constant_units_lsq (K a b : ℝ) (ha : a ≠ 0) (hb : b ≠ 0) (ps ns : List ℝ)
    (hmin : ∀ K', henrySSE K ps ns ≤ henrySSE K' ps ns) :
    ∀ K', henrySSE (b * K / a) (ps.map fun p => a * p) (ns.map fun n => b * n)
        ≤ henrySSE K' (ps.map fun p => a * p) (ns.map fun n => b * n) := by
  intro K'
  rw [henrySSE_units _ a b hb, henrySSE_units _ a b hb, henry_units_inv ha hb]
  exact mul_le_mul_of_nonneg_left (hmin _) (sq_nonneg b)

/-- The correspondence of minimisers is a bijection. -/
theorem henry_constant_units_lsq_conv (K a b : ℝ) (ha : a ≠ 0) (hb : b ≠ 0) (ps ns : List ℝ)
    (hmin : ∀ K', henrySSE (b * K / a) (ps.map fun p => a * p) (ns.map fun n => b * n)
        ≤ henrySSE K' (ps.map fun p => a * p) (ns.map fun n => b * n)) :
    ∀ K', henrySSE K ps ns ≤ henrySSE K' ps ns := by
  intro K'
  have h := hmin (b * K' / a)
  rw [henrySSE_units _ a b hb, henrySSE_units _ a b hb, henry_units_inv ha hb, henry_units_inv ha hb] at h
  exact le_of_mul_le_mul_left h (by positivity)

end Henry

/-! ## B7. mesopore recurrences (pyGAPS-DH, BJH, Dollimore–Heal): linear in the adsorbed volumes -/
section Meso
open PgVerif.Model.Meso
variable {α : Type} [Field α]

/-- scaling of an output pair `(pore_volume, pore_area)` -/
def scalePair (k : α) (x : α × α) : α × α := (k * x.1, k * x.2)
/-- scaling of the area entry of a `(radius, area)` record -/
def scaleSnd (k : α) (x : α × α) : α × α := (x.1, k * x.2)
def scaleDh (k : α) (r : DhRow α) : DhRow α := { r with dV := k * r.dV }
def scaleR (k : α) (r : RRow α) : RRow α := { r with dV := k * r.dV }

lemma diffNeg_scale (k : α) : ∀ l : List α, diffNeg (l.map fun v => k * v) = (diffNeg l).map fun v => k * v
  | [] => rfl
  | [_] => rfl
  | a :: b :: r => congrArg₂ List.cons (mul_sub k a b).symm (diffNeg_scale k (b :: r))

lemma zip5_scale (k : α) (a b c d e : List α) :
    zip5 (a.map fun v => k * v) b c d e = (zip5 a b c d e).map (scaleDh k) := by
  -- a missing entry in any column ends both sides; otherwise one row is built and scaled
  induction a generalizing b c d e with
  | nil => rfl
  | cons x a ih =>
    cases b <;> cases c <;> cases d <;> cases e
    all_goals first | rfl | exact congrArg (_ :: ·) (ih _ _ _ _)

lemma zipR_scale (k : α) (a b c d e : List α) :
    zipR (a.map fun v => k * v) b c d e = (zipR a b c d e).map (scaleR k) := by
  -- a missing entry in any column ends both sides; otherwise one row is built and scaled
  induction a generalizing b c d e with
  | nil => rfl
  | cons x a ih =>
    cases b <;> cases c <;> cases d <;> cases e
    all_goals first | rfl | exact congrArg (_ :: ·) (ih _ _ _ _)

/-- the pore volume `(dV − X) · ratio` of one interval when the volume increment and the correction are scaled by `k` -/
lemma poreVolume_scale (k dV X ratio : α) : (k * dV - k * X) * ratio = k * ((dV - X) * ratio) := by
  rw [← mul_sub, mul_assoc]

/-- a pore area `a · pv / w` is linear in the pore volume -/
lemma poreArea_scale (k a pv w : α) : a * (k * pv) / w = k * (a * pv / w) := by
  rw [mul_left_comm, mul_div_assoc]

/-- The pyGAPS-DH loop, with the running area correction as a free accumulator so that the induction goes through. -/
theorem dhLoop_scale (c : ℕ) (k : α) (rows : List (DhRow α)) (acc acc' : α) (hacc : acc' = k * acc) :
    dhLoop c (rows.map (scaleDh k)) acc' = (dhLoop c rows acc).map (scalePair k) := by
  induction rows generalizing acc acc' with
  | nil => rfl
  | cons r rest ih =>
    subst hacc
    simp only [List.map_cons, dhLoop, scaleDh, scalePair]
    -- the correction, hence the pore volume, is scaled by `k`; area and running correction are linear in the volume
    rw [mul_left_comm r.dT k, poreVolume_scale, poreArea_scale, mul_left_comm _ k (_ / r.avgW), ← mul_add, mul_assoc k,
      ih _ _ rfl]

/-- the `sum_area_factor` of the BJH loop is linear in the recorded pore areas -/
lemma bjh_foldl_scale (k t : α) (done : List (α × α)) (s : α) :
    (done.map (scaleSnd k)).foldl (fun s (xa : α × α) => s + (xa.1 - t) / xa.1 * xa.2) (k * s)
      = k * done.foldl (fun s (xa : α × α) => s + (xa.1 - t) / xa.1 * xa.2) s := by
  rw [List.foldl_map]
  exact List.foldl_hom (k * ·) fun s xa => by simp only [scaleSnd]; rw [mul_add, mul_left_comm k]

/-- The BJH loop, with the list of already processed intervals free. -/
theorem bjhLoop_scale (k : α) (rows : List (RRow α)) (done : List (α × α)) :
    bjhLoop (rows.map (scaleR k)) (done.map (scaleSnd k)) = (bjhLoop rows done).map (scalePair k) := by
  induction rows generalizing done with
  | nil => rfl
  | cons r rest ih =>
    simp only [List.map_cons, bjhLoop, scaleR, scalePair]
    have hsum := bjh_foldl_scale k r.avgT done 0
    rw [mul_zero] at hsum
    -- the area sum, hence the correction and the pore volume, is scaled by `k`; so is the recorded area of this interval
    rw [hsum, mul_left_comm r.dT k, mul_assoc k, poreVolume_scale, poreArea_scale, mul_assoc k, ← ih, List.map_append]
    rfl

/-- The Dollimore–Heal loop, with both running sums free. -/
theorem dollimoreLoop_scale (k : α) (rows : List (RRow α)) (a b a' b' : α) (ha : a' = k * a) (hb : b' = k * b) :
    dollimoreLoop (rows.map (scaleR k)) a' b' = (dollimoreLoop rows a b).map (scalePair k) := by
  induction rows generalizing a b a' b' with
  | nil => rfl
  | cons r rest ih =>
    subst ha hb
    simp only [List.map_cons, dollimoreLoop, scaleR, scalePair]
    -- the correction `dT·ΣA − dT·t̄·Σ2πL` is scaled by `k`, hence the pore volume; both running sums are linear in it
    rw [mul_left_comm r.dT k, mul_left_comm (r.dT * r.avgT) k, ← mul_sub, poreVolume_scale, poreArea_scale, mul_assoc k,
      ← mul_add, mul_div_assoc k, ← mul_add, ih _ _ _ _ rfl rfl]

lemma map_fst_scalePair (k : α) (out : List (α × α)) :
    (out.map (scalePair k)).map (·.1) = (out.map (·.1)).map fun v => k * v := by
  simp only [List.map_map, Function.comp_def, scalePair]

lemma map_snd_scalePair (k : α) (out : List (α × α)) :
    (out.map (scalePair k)).map (·.2) = (out.map (·.2)).map fun v => k * v := by
  simp only [List.map_map, Function.comp_def, scalePair]

/-- the distribution `dV/dw` is linear in the pore volumes -/
lemma zipWith_div_scale (k : α) (vs ds : List α) :
    List.zipWith (· / ·) (vs.map fun v => k * v) ds = (List.zipWith (· / ·) vs ds).map fun v => k * v :=
  zipWith_map_left_of (fun v d => mul_div_assoc k v d) vs ds

lemma zipWith_div2_scale (k : α) (vs ds : List α) :
    List.zipWith (fun v d => v / d / 2) (vs.map fun v => k * v) ds
      = (List.zipWith (fun v d => v / d / 2) vs ds).map fun v => k * v :=
  zipWith_map_left_of (fun v d => by rw [mul_div_assoc, mul_div_assoc]) vs ds

/-- `r'` has the pore widths of `r`; its pore volumes, pore areas and distribution `dV/dw` are those of `r` times `k` -/
def ScaledBy (k : α) (r' r : Result α) : Prop :=
  r'.widths = r.widths ∧ r'.volumes = r.volumes.map (fun v => k * v) ∧ r'.areas = r.areas.map (fun v => k * v) ∧
    r'.distribution = r.distribution.map (fun v => k * v)

/-- `psd_pygapsdh`.  No guard: an identity of the recurrences. -/
theorem pygapsDH_scale (c : ℕ) (k : α) (vol thick kelvin : List α) :
    ScaledBy k (pygapsDH c (vol.map fun v => k * v) thick kelvin) (pygapsDH c vol thick kelvin) := by
  simp only [ScaledBy, pygapsDH, ← List.map_reverse, diffNeg_scale, zip5_scale]
  rw [dhLoop_scale c k _ 0 0 (mul_zero k).symm]
  simp only [map_fst_scalePair, map_snd_scalePair, zipWith_div_scale, List.map_reverse, true_and]

/-- The shared body of `psd_bjh` / `psd_dollimore_heal`, for any linear loop. -/
theorem radiusMethod_scale (k : α) (loop : List (RRow α) → List (α × α))
    (hloop : ∀ rows, loop (rows.map (scaleR k)) = (loop rows).map (scalePair k)) (vol thick kelvin : List α) :
    ScaledBy k (radiusMethod loop (vol.map fun v => k * v) thick kelvin) (radiusMethod loop vol thick kelvin) := by
  simp only [ScaledBy, radiusMethod, ← List.map_reverse, diffNeg_scale, zipR_scale, hloop]
  simp only [map_fst_scalePair, map_snd_scalePair, zipWith_div2_scale, List.map_reverse, true_and]

/-- `psd_bjh` is the shared body with the BJH loop started on an empty list of processed intervals. -/
theorem bjh_scale (k : α) (vol thick kelvin : List α) :
    ScaledBy k (bjh (vol.map fun v => k * v) thick kelvin) (bjh vol thick kelvin) :=
  radiusMethod_scale k _ (fun rows => by simpa only [List.map_nil] using bjhLoop_scale k rows []) vol thick kelvin

/-- `psd_dollimore_heal` is the shared body with the Dollimore–Heal loop started at `0`, `0`. -/
theorem dollimoreHeal_scale (k : α) (vol thick kelvin : List α) :
    ScaledBy k (dollimoreHeal (vol.map fun v => k * v) thick kelvin) (dollimoreHeal vol thick kelvin) :=
  radiusMethod_scale k _ (fun rows => dollimoreLoop_scale k rows 0 0 0 0 (mul_zero k).symm (mul_zero k).symm) vol thick kelvin

lemma cumsum_scale (k : α) (l : List α) (acc acc' : α) (h : acc' = k * acc) :
    cumsum (l.map fun v => k * v) acc' = (cumsum l acc).map fun v => k * v := by
  induction l generalizing acc acc' with
  | nil => rfl
  | cons x xs ih =>
    subst h
    exact congrArg₂ List.cons (mul_add k acc x).symm (ih _ _ (mul_add k acc x).symm)

lemma getLastD_scale (k : α) (l : List α) : (l.map fun v => k * v).getLastD 0 = k * l.getLastD 0 := by
  rw [List.getLastD_eq_getLast?, List.getLastD_eq_getLast?, List.getLast?_map]
  cases l.getLast? <;> simp

/-- The cumulative pore volume curve of `psd_mesoporous`. -/
theorem cumulative_scale (k : α) (vols vol : List α) :
    cumulative (vols.map fun v => k * v) (vol.map fun v => k * v) = (cumulative vols vol).map fun v => k * v := by
  simp only [cumulative]
  rw [cumsum_scale k vols 0 0 (mul_zero k).symm, getLastD_scale, getLastD_scale]
  exact map_map_of_comm fun x _ => by rw [mul_add, mul_sub]

/-- The dispatch `method` of `psd_mesoporous`: a refusal stays a refusal, a result is scaled. -/
theorem method_scale (k : α) (name geometry : String) (vol thick kelvin : List α) :
    (method name geometry (vol.map fun v => k * v) thick kelvin).map
        (fun r => (r.widths, r.volumes, r.areas, r.distribution))
      = (method name geometry vol thick kelvin).map
        (fun r => (r.widths, r.volumes.map (fun v => k * v), r.areas.map (fun v => k * v),
                   r.distribution.map (fun v => k * v))) := by
  -- what the statement compares, for one scaled result
  have proj : ∀ {r' r : Result α}, ScaledBy k r' r →
      some (r'.widths, r'.volumes, r'.areas, r'.distribution)
        = some (r.widths, r.volumes.map (fun v => k * v), r.areas.map (fun v => k * v),
            r.distribution.map (fun v => k * v)) := fun ⟨h1, h2, h3, h4⟩ => by rw [h1, h2, h3, h4]
  -- the dispatch is the same tree of conditions on both sides: compare it branch by branch
  unfold method
  refine map_ite_congr (fun _ => ?_) fun _ => map_ite_congr
    (fun _ => map_ite_congr (fun _ => proj (bjh_scale k vol thick kelvin)) fun _ => rfl) fun _ => map_ite_congr
    (fun _ => map_ite_congr (fun _ => proj (dollimoreHeal_scale k vol thick kelvin)) fun _ => rfl) fun _ => rfl
  cases cLength geometry with
  | none => rfl
  | some c => exact proj (pygapsDH_scale c k vol thick kelvin)

end Meso

/-! ## B8. micropore bookkeeping (Horvath–Kawazoe tail) -/
section Micro
open PgVerif.Model.Micro
variable {α : Type} [Field α]

lemma diff_scale (k : α) : ∀ l : List α, PgVerif.Model.Micro.diff (l.map fun v => k * v) = (PgVerif.Model.Micro.diff l).map fun v => k * v
  | [] => rfl
  | [_] => rfl
  | a :: b :: r => congrArg₂ List.cons (mul_sub k b a).symm (diff_scale k (b :: r))

/-- The tail shared by the two HK functions. -/
theorem micro_tail_scale (k : α) (widths vol : List α) :
    (tail widths (vol.map fun v => k * v)).widths = (tail widths vol).widths ∧
    (tail widths (vol.map fun v => k * v)).distribution = (tail widths vol).distribution.map (fun v => k * v) ∧
    (tail widths (vol.map fun v => k * v)).cumulative = (tail widths vol).cumulative.map (fun v => k * v) := by
  simp only [tail, ← List.map_take, ← List.map_drop, diff_scale, zipWith_div_scale, true_and]

theorem hk_volume_adsorbed_scale (k n M ρ : ℝ) :
    hk_volume_adsorbed (k * n) M ρ = k * hk_volume_adsorbed n M ρ := by
  unfold hk_volume_adsorbed; ring

theorem micro_tail_loading_scale (k M ρ : ℝ) (widths ns : List ℝ) :
    let r := tail widths (ns.map fun n => hk_volume_adsorbed n M ρ)
    let r' := tail widths ((ns.map fun n => k * n).map fun n => hk_volume_adsorbed n M ρ)
    r'.widths = r.widths ∧ r'.distribution = r.distribution.map (fun v => k * v) ∧
    r'.cumulative = r.cumulative.map (fun v => k * v) := by
  rw [map_map_of_comm (t := fun v => k * v) fun n _ => hk_volume_adsorbed_scale k n M ρ]
  exact micro_tail_scale k widths _

/-- The coverage used by the Cheng–Yang correction, `n / (1.01 max n)`: an intensive quantity. -/
theorem coverage_scale {β : Type} [Field β] [LinearOrder β] [IsStrictOrderedRing β] (k c101 : β) (hk : 0 < k)
    (loading : List β) :
    coverage c101 (loading.map fun n => k * n) = coverage c101 loading := by
  have hfold : ∀ (l : List β) (m : β), (l.map fun n => k * n).foldl max (k * m) = k * l.foldl max m := fun l m => by
    rw [List.foldl_map]
    exact List.foldl_hom (k * ·) fun x y => (mul_max_of_nonneg x y hk.le).symm
  unfold coverage
  have hhead : (loading.map fun n => k * n).headD 0 = k * loading.headD 0 := by
    cases loading <;> simp
  simp only [hhead, hfold, List.map_map]
  apply List.map_congr_left
  intro n _
  simp only [Function.comp]
  rw [mul_assoc, mul_div_mul_left _ _ hk.ne']

end Micro

/-! ## A. representation invariance of what the routines read -/
section Representation
open PgVerif.Model PgVerif.Units
open PgVerif.Spec (LB MB Ads Mat PRep LRep MRep TRep physScale)
open PgVerif.C02 (Rep labelsOf pLabel canonP canonL kelvin spOf slOf gmOf Conserved)

variable {α : Type} [Field α] [CharZero α]

lemma orDefault_some {x : String} (h : x ≠ "") (cur : Option String) : orDefault (some x) cur = some x :=
  C03.orDefault_of_truthy (truthy_some h)

/-! ### the accessors on a typed state -/

section TypedPressure
/- stored pressure representation `r.p` with `sp` Pa per unit; a fully specified supported representation `b` (mode given;
unit given when absolute) with `sb` Pa per unit, for the argument or the result -/
variable (ps : α) (hps : ps ≠ 0) (env : Env α) (r : Rep) (sp : α) (hsp : r.p.scale Gen.pressureUnits ps = some sp)
    (b : PRep) (sb : α) (hb : b.scale Gen.pressureUnits ps = some sb)
include hsp

/-- the stored representation in the shape C01 / C03 state their laws for -/
lemma canonPRep_scale_spec : (C02.canonPRep r.p).scale Spec.pressureUnits ps = some sp := by
  rw [← C01.tables_eq_spec.1, C02.canonPRep_scale]; exact hsp

include hps hb

/-- the pressure accessor: `v · (Pa per stored unit) / (Pa per target unit)` -/
lemma accessPressure_typed (v : α) :
    accessPressure ⟨some ps, env, true⟩ (labelsOf r) v (some b.mode) b.unit = .ok (v * sp / sb) := by
  have hm := C02.PRep.mode_ne_empty b
  rw [C01.tables_eq_spec.1] at hb
  exact C03.accessPressure_SI ⟨some ps, env, true⟩ (labelsOf r) ps hps rfl rfl (C02.canonPRep r.p) b sp sb
    (canonPRep_scale_spec ps r sp hsp) hb (C02.canonPRep_mode r.p).symm (C02.canonPRep_unit r.p).symm (some b.mode)
    b.unit (Or.inl (truthy_some hm)) (C02.orCurrent_some hm) rfl v

/-- a pressure GIVEN in the representation `b`, read into the stored representation -/
lemma inputPressure_typed (w : α) :
    inputPressure ⟨some ps, env, true⟩ (labelsOf r) w (some b.mode) b.unit = .ok (w * sb / sp) := by
  have hm := C02.PRep.mode_ne_empty b
  rw [C01.tables_eq_spec.1] at hb
  exact C03.inputPressure_SI ⟨some ps, env, true⟩ (labelsOf r) ps hps rfl rfl (C02.canonPRep r.p) b sp sb
    (canonPRep_scale_spec ps r sp hsp) hb (C02.canonPRep_mode r.p).symm (C02.canonPRep_unit r.p).symm (some b.mode)
    b.unit (Or.inl (truthy_some hm)) (C02.orCurrent_some hm) rfl w

/-- the output conversion of `pressure_at` -/
lemma outputPressurePoint_typed (v : α) :
    outputPressurePoint ⟨some ps, env, true⟩ (labelsOf r) v (some b.mode) b.unit = .ok (v * sp / sb) := by
  have hm := C02.PRep.mode_ne_empty b
  rw [C01.tables_eq_spec.1] at hb
  have h := C01.cPressure_SI ps v hps (C02.canonPRep r.p) b sp sb (canonPRep_scale_spec ps r sp hsp) hb
  rw [C02.canonPRep_mode, C02.canonPRep_unit] at h
  unfold outputPressurePoint
  simp only [truthy_some hm, Bool.true_or, if_true, orDefault_some hm]
  exact h

end TypedPressure

section TypedLoading
/- stored loading representation `r.l` (ANY supported one, fraction / percent included) with `sl` mol per unit; a physical
representation `(b, u)` with `s2` mol per unit, no material argument: the call shape of the characterisation routines -/
variable (a : Ads α) (mat : Mat α) (hc : a.Consistent) (hp : a.Pos) (psat : Option α) (tOk : Bool) (r : Rep) (sl : α)
    (hsl : r.l.scale Gen.unitTable a r.m = some sl) (b : LB) (u : String) (s2 : α)
    (h2 : physScale Gen.unitTable a b u = some s2)
include hc hp hsl h2

/-- the loading accessor: `v · (mol per stored unit) / (mol per target unit)` — per *stored* unit of material -/
lemma accessLoading_routine_typed (v : α) :
    accessLoadingTarget ⟨psat, envOf a mat, tOk⟩ (labelsOf r) v (some b.name) (some u) none none
      = .ok (v * sl / s2) := by
  have hb : b.name ≠ "" := C02.LRep.basis_ne_empty (.phys b u)
  have tn : truthy none = false := rfl
  have on : ∀ cur : Option String, orDefault none cur = cur := fun cur => C03.orDefault_of_falsy tn
  unfold accessLoadingTarget
  simp only [tn, Bool.or_self, Bool.false_eq_true, if_false, truthy_some hb, Bool.true_or, if_true,
    orDefault_some hb, on, bind, Except.bind, pure, Except.pure]
  exact cLoading_spec a mat hc hp v r.m r.l (.phys b u) sl s2 hsl h2

/-- a loading GIVEN in the representation `(b, u)`, read into the stored representation -/
lemma inputLoading_routine_typed (n : α) :
    inputLoading false ⟨psat, envOf a mat, tOk⟩ (labelsOf r) n (some b.name) (some u) none none
      = .ok (n * s2 / sl) := by
  have hb : b.name ≠ "" := C02.LRep.basis_ne_empty (.phys b u)
  have hu : u ≠ "" := (physScale_inv h2).1
  have tn : truthy none = false := rfl
  unfold inputLoading
  simp only [tn, Bool.or_self, Bool.false_eq_true, if_false, truthy_some hb, truthy_some hu, if_true,
    orDefault_some hb, bind, Except.bind, pure, Except.pure, Bool.not_true]
  exact cLoading_spec a mat hc hp n r.m (.phys b u) r.l s2 sl h2 hsl

end TypedLoading

/-- the loading accessor with a fully specified target (loading `l`, material `m`) on a typed state whose stored
loading is physical (not fraction / percent): `v · (mol per stored unit)/g(stored) · g(m) / (mol per target unit)`,
the canonical content `canonL` times a factor of the target alone -/
lemma accessLoading_full_typed (a : Ads α) (mat : Mat α) (hc : a.Consistent) (hp : a.Pos) (hmp : Mat.Pos mat)
    (psat : Option α) (tOk : Bool) (r : Rep) (hnf : ¬ isFrac r.l.basis = true) (sl g1 : α)
    (hsl : r.l.scale Gen.unitTable a r.m = some sl) (hg1 : r.m.grams Gen.unitTable mat = some g1)
    (l : LRep) (m : MRep) (s2 g2 : α) (h2 : l.scale Gen.unitTable a m = some s2)
    (hg2 : m.grams Gen.unitTable mat = some g2) (v : α) :
    accessLoadingTarget ⟨psat, envOf a mat, tOk⟩ (labelsOf r) v (some l.basis) l.unit (some m.b.name) (some m.u)
      = .ok (v * sl / g1 * g2 / s2) := by
  have hb : l.basis ≠ "" := C02.LRep.basis_ne_empty l
  have hmb : m.b.name ≠ "" := C02.MB.name_ne_empty m.b
  have hmu : m.u ≠ "" := (grams_inv hmp hg2).1
  have hM : cMaterial (envOf a mat) v (some (labelsOf r).mbasis) (some m.b.name) (labelsOf r).munit (some m.u)
      = .ok (v * g2 / g1) := cMaterial_spec a mat hmp v r.m m g1 g2 hg1 hg2
  have hsl' : r.l.scale Gen.unitTable a m = some sl := by rw [C02.physScale_indep a r.l hnf m r.m]; exact hsl
  unfold accessLoadingTarget
  simp only [truthy_some hb, truthy_some hmb, Bool.true_or, if_true, orDefault_some hb, orDefault_some hmb,
    orDefault_some hmu, bind, Except.bind]
  rw [hM]
  exact (cLoading_spec a mat hc hp (v * g2 / g1) m r.l l sl s2 hsl' h2).trans (by congr 1; ring)

omit [Field α] [CharZero α] in
lemma rep_m_eq {rf r0 : Rep} {lab0 labf : Labels} (hs : lab0 = labelsOf r0) (hlab : labf = labelsOf rf)
    (hmb : labf.mbasis = lab0.mbasis) (hmu : labf.munit = lab0.munit) : rf.m = r0.m := by
  rw [hlab, hs] at hmb hmu
  show (⟨rf.m.b, rf.m.u⟩ : MRep) = ⟨r0.m.b, r0.m.u⟩
  rw [C02.MB.name_inj hmb, Option.some.inj hmu]

/-- the context of C02's history theorems: saturation pressure `ps` (Pa), adsorbate and material constants, known
temperature -/
abbrev ctxOf (ps : α) (a : Ads α) (mat : Mat α) : Ctx α := ⟨some ps, envOf a mat, true⟩

/-- what `isotherm.pressure(pressure_mode=…, pressure_unit=…)` returns, row by row -/
def pressureColumn (c : Ctx α) (s : Iso α) (pm pu : Option String) : List (Except Err α) :=
  s.ps.map fun v => accessPressure c s.lab v pm pu

/-- what `isotherm.loading(loading_basis=…, loading_unit=…, material_basis=…, material_unit=…)` returns, row by row -/
def loadingColumn (c : Ctx α) (s : Iso α) (lb lu mb mu : Option String) : List (Except Err α) :=
  s.ls.map fun v => accessLoadingTarget c s.lab v lb lu mb mu

/-! ### columns and readers on a state whose labels name a valid representation -/

section ValidState
variable {ps : α} (hps : ps ≠ 0) {a : Ads α} {mat : Mat α} (hc : a.Consistent) (hp : a.Pos) (hmp : Mat.Pos mat)
    {s : Iso α} {r : Rep} (hs : s.lab = labelsOf r) (hr : C02.Rep.Valid ps a mat r)
include hps hp hmp hs hr

lemma pressureColumn_typed {b : PRep} {sb : α} (hb : b.scale Gen.pressureUnits ps = some sb) :
    pressureColumn (ctxOf ps a mat) s (some b.mode) b.unit = s.ps.map fun v => .ok (v * spOf ps r.p / sb) := by
  unfold pressureColumn
  rw [hs]
  exact List.map_congr_left fun v _ => accessPressure_typed ps hps _ r _ (hr.scales hps hp hmp).1.1 b sb hb v

include hc

lemma loadingColumn_typed {b : LB} {u : String} {s2 : α} (h2 : physScale Gen.unitTable a b u = some s2) :
    loadingColumn (ctxOf ps a mat) s (some b.name) (some u) none none
      = s.ls.map fun v => .ok (v * slOf a r.l r.m / s2) := by
  unfold loadingColumn
  rw [hs]
  exact List.map_congr_left fun v _ =>
    accessLoading_routine_typed a mat hc hp _ _ r _ (hr.scales hps hp hmp).2.1.1 b u s2 h2 v

lemma loadingColumn_full_typed (hnf : isFrac s.lab.lbasis = false) {l : LRep} {m : MRep} {s2 g2 : α}
    (h2 : l.scale Gen.unitTable a m = some s2) (hg2 : m.grams Gen.unitTable mat = some g2) :
    loadingColumn (ctxOf ps a mat) s (some l.basis) l.unit (some m.b.name) (some m.u)
      = s.ls.map fun v => .ok (v * slOf a r.l r.m / gmOf mat r.m * g2 / s2) := by
  rw [hs] at hnf
  unfold loadingColumn
  rw [hs]
  exact List.map_congr_left fun v _ => accessLoading_full_typed a mat hc hp hmp _ _ r (by simpa [labelsOf] using hnf)
    _ _ (hr.scales hps hp hmp).2.1.1 (hr.scales hps hp hmp).2.2.1 l m s2 g2 h2 hg2 v

end ValidState

/-! ### after any history

The standing hypotheses of C02 `run_any_history`: saturation pressure `ps ≠ 0`, consistent non-zero adsorbate / material constants, an
original isotherm `s0` whose labels name a valid representation `r0`, and ANY history `ops` of conversion calls (any arguments,
refused or not, single or combined). -/
section AfterHistory
variable (ps : α) (hps : ps ≠ 0) (a : Ads α) (mat : Mat α) (hc : a.Consistent) (hp : a.Pos) (hmp : Mat.Pos mat)
    (s0 : Iso α) (r0 : Rep) (hs : s0.lab = labelsOf r0) (hr : C02.Rep.Valid ps a mat r0) (ops : List Op)
include hps hc hp hmp hs hr

/-- **a reader that goes through the accessors only.**  `rd` reads something from an isotherm.  On every state whose
labels name a valid representation `r` (and satisfy a side condition `P`) it is a function `F` of the canonical columns
(Pa; mol per g) and of the material representation — the last because results are per STORED unit of material.  Then
after ANY history `rd` returns `F` of the ORIGINAL canonical columns and the FINAL material representation. -/
lemma reads_after_history {β : Type} (rd : Iso α → β) (P : Labels → Prop) (F : List α → List α → MRep → β)
    (hF : ∀ (s : Iso α) (r : Rep), s.lab = labelsOf r → C02.Rep.Valid ps a mat r → P s.lab →
      rd s = F (s.ps.map (canonP ps r)) (s.ls.map (canonL a mat r)) r.m)
    (hP0 : P s0.lab) (hP : P (run (ctxOf ps a mat) s0 ops).lab) :
    ∃ rf : Rep, C02.Rep.Valid ps a mat rf ∧ (run (ctxOf ps a mat) s0 ops).lab = labelsOf rf ∧
      rd (run (ctxOf ps a mat) s0 ops) = F (s0.ps.map (canonP ps r0)) (s0.ls.map (canonL a mat r0)) rf.m ∧
      rd s0 = F (s0.ps.map (canonP ps r0)) (s0.ls.map (canonL a mat r0)) r0.m := by
  obtain ⟨rf, hv, _, hcn, _⟩ := C02.run_any_history ps hps a mat hc hp hmp s0 r0 hs hr ops
  refine ⟨rf, hv, hcn.lab, ?_, hF s0 r0 hs hr hP0⟩
  rw [hF _ rf hcn.lab hv hP, hcn.ps, hcn.ls]

/-- **A1 (pressure).**  For any supported, fully specified pressure target `b` (mode given; for an absolute target the
unit given — an omitted mode or unit would default to the *stored* one and the request would then mean something else
after a conversion): the pressure accessor of the converted isotherm returns row by row exactly what the accessor of the
original returns, and every row is a number (`.ok (v · Pa-per-original-unit / Pa-per-target-unit)`), not a refusal. -/
theorem access_after_history_pressure (b : PRep) (sb : α) (hb : b.scale Gen.pressureUnits ps = some sb) :
    pressureColumn (ctxOf ps a mat) (run (ctxOf ps a mat) s0 ops) (some b.mode) b.unit
      = pressureColumn (ctxOf ps a mat) s0 (some b.mode) b.unit ∧
    pressureColumn (ctxOf ps a mat) s0 (some b.mode) b.unit = s0.ps.map (fun v => .ok (v * spOf ps r0.p / sb)) := by
  obtain ⟨_, _, _, h1, h0⟩ := reads_after_history ps hps a mat hc hp hmp s0 r0 hs hr ops _ (fun _ => True)
    (fun ps' _ _ => ps'.map fun x => .ok (x / sb))
    (fun s r hs hr _ => (pressureColumn_typed hps hp hmp hs hr hb).trans (map_eq_map_map fun _ _ => rfl))
    trivial trivial
  exact ⟨h1.trans h0.symm, pressureColumn_typed hps hp hmp hs hr hb⟩

/-- **A1 (loading, the call shape of the characterisation routines, general form).**
`loading(loading_basis=b, loading_unit=u)` with a physical target and NO material argument — what
`get_iso_loading_and_pressure_ordered` issues (molar/mmol, volume_liquid/cm3).  The stored loading may be in any
supported representation, fraction and percent included.  After ANY history the accessor returns the original
accessor's rows times `g(final material unit)/g(original material unit)` (gram of material per unit): the result is
per *stored* unit of material, so it changes by exactly that unit factor and by nothing else. -/
theorem access_after_history_loading_general (b : LB) (u : String) (s2 : α)
    (h2 : physScale Gen.unitTable a b u = some s2) :
    ∃ rf : Rep, C02.Rep.Valid ps a mat rf ∧ (run (ctxOf ps a mat) s0 ops).lab = labelsOf rf ∧
      loadingColumn (ctxOf ps a mat) (run (ctxOf ps a mat) s0 ops) (some b.name) (some u) none none
        = s0.ls.map (fun v => .ok (v * slOf a r0.l r0.m / s2 * (gmOf mat rf.m / gmOf mat r0.m))) ∧
      loadingColumn (ctxOf ps a mat) s0 (some b.name) (some u) none none
        = s0.ls.map (fun v => .ok (v * slOf a r0.l r0.m / s2)) := by
  -- the routines' loading read is the canonical content (mol / g) times the grams per STORED material unit
  obtain ⟨rf, hv, hlab, h1, _⟩ := reads_after_history ps hps a mat hc hp hmp s0 r0 hs hr ops _ (fun _ => True)
    (fun _ ls' m => ls'.map fun x => Except.ok (x * gmOf mat m / s2))
    (fun s r hs hr _ => (loadingColumn_typed hps hc hp hmp hs hr h2).trans <| map_eq_map_map fun v _ => by
      rw [canonL, div_mul_cancel₀ _ (hr.scales hps hp hmp).2.2.2])
    trivial trivial
  refine ⟨rf, hv, hlab, h1.trans (map_eq_map_map fun v _ => ?_).symm, loadingColumn_typed hps hc hp hmp hs hr h2⟩
  rw [canonL]
  congr 1
  ring

/-- **A1 (loading, the call shape of the characterisation routines).**  If the history leaves the *material* labels
as they were (it may change pressure mode / unit, loading basis / unit — also to fraction or percent and back —,
temperature unit, and may contain refused calls), the loading accessor of the converted isotherm returns row by row
exactly what the accessor of the original returns, and every row is a number. -/
theorem access_after_history_loading
    (hmb : (run (ctxOf ps a mat) s0 ops).lab.mbasis = s0.lab.mbasis)
    (hmu : (run (ctxOf ps a mat) s0 ops).lab.munit = s0.lab.munit)
    (b : LB) (u : String) (s2 : α) (h2 : physScale Gen.unitTable a b u = some s2) :
    loadingColumn (ctxOf ps a mat) (run (ctxOf ps a mat) s0 ops) (some b.name) (some u) none none
      = loadingColumn (ctxOf ps a mat) s0 (some b.name) (some u) none none ∧
    loadingColumn (ctxOf ps a mat) s0 (some b.name) (some u) none none
      = s0.ls.map (fun v => .ok (v * slOf a r0.l r0.m / s2)) := by
  obtain ⟨rf, hv, hlab, h1, h0⟩ :=
    access_after_history_loading_general ps hps a mat hc hp hmp s0 r0 hs hr ops b u s2 h2
  refine ⟨?_, h0⟩
  rw [h1, h0, rep_m_eq hs hlab hmb hmu, div_self (hr.scales hps hp hmp).2.2.2]
  simp only [mul_one]

/-- **A1.** `access_after_history`: what a characterisation routine reads from the converted isotherm — the pressure
column in a fully specified target (e.g. relative pressure) and the loading column in the routines' call shape
(physical target basis and unit, no material argument) — is exactly what it reads from the original isotherm,
for ANY history of conversion calls that leaves the material labels as they were.  All restrictions are those of
`access_after_history_pressure` and `access_after_history_loading`. -/
theorem access_after_history
    (hmb : (run (ctxOf ps a mat) s0 ops).lab.mbasis = s0.lab.mbasis)
    (hmu : (run (ctxOf ps a mat) s0 ops).lab.munit = s0.lab.munit)
    (pt : PRep) (sb : α) (hb : pt.scale Gen.pressureUnits ps = some sb)
    (b : LB) (u : String) (s2 : α) (h2 : physScale Gen.unitTable a b u = some s2) :
    pressureColumn (ctxOf ps a mat) (run (ctxOf ps a mat) s0 ops) (some pt.mode) pt.unit
      = pressureColumn (ctxOf ps a mat) s0 (some pt.mode) pt.unit ∧
    loadingColumn (ctxOf ps a mat) (run (ctxOf ps a mat) s0 ops) (some b.name) (some u) none none
      = loadingColumn (ctxOf ps a mat) s0 (some b.name) (some u) none none :=
  ⟨(access_after_history_pressure ps hps a mat hc hp hmp s0 r0 hs hr ops pt sb hb).1,
   (access_after_history_loading ps hps a mat hc hp hmp s0 r0 hs hr ops hmb hmu b u s2 h2).1⟩

end AfterHistory

/-- **A1 (loading, fully specified target).**  Target loading representation `l` (physical, fraction or percent) AND
target material representation `m` both given.  Restriction (explicit): the stored loading of the original and of
the converted isotherm is physical, not fraction / percent — for a stored fraction the accessor with a material
change is wrong (finding S5a, `C03.S5_witness`), which is why the property excludes fractional representations.
Then the accessor of the converted isotherm returns exactly the rows of the accessor of the original (all numbers),
whatever the history did to pressure, loading, material and temperature representation. -/
theorem access_after_history_loading_target (ps : α) (hps : ps ≠ 0) (a : Ads α) (mat : Mat α) (hc : a.Consistent)
    (hp : a.Pos) (hmp : Mat.Pos mat) (s0 : Iso α) (r0 : Rep) (hs : s0.lab = labelsOf r0)
    (hr : C02.Rep.Valid ps a mat r0) (ops : List Op)
    (hf0 : isFrac s0.lab.lbasis = false) (hf' : isFrac (run (ctxOf ps a mat) s0 ops).lab.lbasis = false)
    (l : LRep) (m : MRep) (s2 g2 : α) (h2 : l.scale Gen.unitTable a m = some s2)
    (hg2 : m.grams Gen.unitTable mat = some g2) :
    loadingColumn (ctxOf ps a mat) (run (ctxOf ps a mat) s0 ops) (some l.basis) l.unit (some m.b.name) (some m.u)
      = loadingColumn (ctxOf ps a mat) s0 (some l.basis) l.unit (some m.b.name) (some m.u) ∧
    loadingColumn (ctxOf ps a mat) s0 (some l.basis) l.unit (some m.b.name) (some m.u)
      = s0.ls.map (fun v => .ok (v * slOf a r0.l r0.m / gmOf mat r0.m * g2 / s2)) := by
  obtain ⟨_, _, _, h1, h0⟩ := reads_after_history ps hps a mat hc hp hmp s0 r0 hs hr ops _
    (fun lab => isFrac lab.lbasis = false) (fun _ ls' _ => ls'.map fun x => .ok (x * g2 / s2))
    (fun s r hs hr hnf => (loadingColumn_full_typed hps hc hp hmp hs hr hnf h2 hg2).trans
      (map_eq_map_map fun _ _ => rfl))
    hf0 hf'
  exact ⟨h1.trans h0.symm, loadingColumn_full_typed hps hc hp hmp hs hr hf0 h2 hg2⟩

/-- **A1 (temperature).** After any history the stored temperature, read in the stored scale, is the same Kelvin
value as before (the routines read `isotherm.temperature`, the Kelvin value). -/
theorem access_after_history_temperature (ps : α) (hps : ps ≠ 0) (a : Ads α) (mat : Mat α) (hc : a.Consistent)
    (hp : a.Pos) (hmp : Mat.Pos mat) (s0 : Iso α) (r0 : Rep) (hs : s0.lab = labelsOf r0)
    (hr : C02.Rep.Valid ps a mat r0) (ops : List Op) :
    ∃ rf : Rep, C02.Rep.Valid ps a mat rf ∧ (run (ctxOf ps a mat) s0 ops).lab = labelsOf rf ∧
      rf.t.toK (run (ctxOf ps a mat) s0 ops).temp = r0.t.toK s0.temp := by
  obtain ⟨rf, hv, _, hcn, _⟩ := C02.run_any_history ps hps a mat hc hp hmp s0 r0 hs hr ops
  exact ⟨rf, hv, hcn.lab, hcn.temp⟩

/-- **A2.** `routine_invariant`: any characterisation routine — a function `f` of the accessed pressure and loading
columns (after `get_iso_loading_and_pressure_ordered`) — returns on the converted isotherm what it returns on the
original. -/
theorem routine_invariant {β : Type} (f : List (Except Err α) → List (Except Err α) → β)
    (ps : α) (hps : ps ≠ 0) (a : Ads α) (mat : Mat α) (hc : a.Consistent)
    (hp : a.Pos) (hmp : Mat.Pos mat) (s0 : Iso α) (r0 : Rep) (hs : s0.lab = labelsOf r0)
    (hr : C02.Rep.Valid ps a mat r0) (ops : List Op)
    (hmb : (run (ctxOf ps a mat) s0 ops).lab.mbasis = s0.lab.mbasis)
    (hmu : (run (ctxOf ps a mat) s0 ops).lab.munit = s0.lab.munit)
    (pt : PRep) (sb : α) (hb : pt.scale Gen.pressureUnits ps = some sb)
    (b : LB) (u : String) (s2 : α) (h2 : physScale Gen.unitTable a b u = some s2) :
    f (pressureColumn (ctxOf ps a mat) (run (ctxOf ps a mat) s0 ops) (some pt.mode) pt.unit)
      (loadingColumn (ctxOf ps a mat) (run (ctxOf ps a mat) s0 ops) (some b.name) (some u) none none)
    = f (pressureColumn (ctxOf ps a mat) s0 (some pt.mode) pt.unit)
      (loadingColumn (ctxOf ps a mat) s0 (some b.name) (some u) none none) := by
  obtain ⟨h1, h2'⟩ := access_after_history ps hps a mat hc hp hmp s0 r0 hs hr ops hmb hmu pt sb hb b u s2 h2
  rw [h1, h2']

/-- **A2 (two isotherms).** A routine comparing a sample with a reference isotherm (alpha-s): both may have been
converted by independent histories (each with its own adsorbate / material constants and saturation pressure). -/
theorem routine_invariant_two {β : Type}
    (f : List (Except Err α) → List (Except Err α) → List (Except Err α) → List (Except Err α) → β)
    (ps : α) (hps : ps ≠ 0) (a : Ads α) (mat : Mat α) (hc : a.Consistent)
    (hp : a.Pos) (hmp : Mat.Pos mat) (s0 : Iso α) (r0 : Rep) (hs : s0.lab = labelsOf r0)
    (hr : C02.Rep.Valid ps a mat r0) (ops : List Op)
    (hmb : (run (ctxOf ps a mat) s0 ops).lab.mbasis = s0.lab.mbasis)
    (hmu : (run (ctxOf ps a mat) s0 ops).lab.munit = s0.lab.munit)
    (ps' : α) (hps' : ps' ≠ 0) (a' : Ads α) (mat' : Mat α) (hc' : a'.Consistent)
    (hp' : a'.Pos) (hmp' : Mat.Pos mat') (t0 : Iso α) (q0 : Rep) (ht : t0.lab = labelsOf q0)
    (hq : C02.Rep.Valid ps' a' mat' q0) (ops' : List Op)
    (hmb' : (run (ctxOf ps' a' mat') t0 ops').lab.mbasis = t0.lab.mbasis)
    (hmu' : (run (ctxOf ps' a' mat') t0 ops').lab.munit = t0.lab.munit)
    (pt : PRep) (sb sb' : α) (hb : pt.scale Gen.pressureUnits ps = some sb)
    (hb' : pt.scale Gen.pressureUnits ps' = some sb')
    (b : LB) (u : String) (s2 s2' : α) (h2 : physScale Gen.unitTable a b u = some s2)
    (h2' : physScale Gen.unitTable a' b u = some s2') :
    f (pressureColumn (ctxOf ps a mat) (run (ctxOf ps a mat) s0 ops) (some pt.mode) pt.unit)
      (loadingColumn (ctxOf ps a mat) (run (ctxOf ps a mat) s0 ops) (some b.name) (some u) none none)
      (pressureColumn (ctxOf ps' a' mat') (run (ctxOf ps' a' mat') t0 ops') (some pt.mode) pt.unit)
      (loadingColumn (ctxOf ps' a' mat') (run (ctxOf ps' a' mat') t0 ops') (some b.name) (some u) none none)
    = f (pressureColumn (ctxOf ps a mat) s0 (some pt.mode) pt.unit)
      (loadingColumn (ctxOf ps a mat) s0 (some b.name) (some u) none none)
      (pressureColumn (ctxOf ps' a' mat') t0 (some pt.mode) pt.unit)
      (loadingColumn (ctxOf ps' a' mat') t0 (some b.name) (some u) none none) := by
  obtain ⟨e1, e2⟩ := access_after_history ps hps a mat hc hp hmp s0 r0 hs hr ops hmb hmu pt sb hb b u s2 h2
  obtain ⟨e3, e4⟩ :=
    access_after_history ps' hps' a' mat' hc' hp' hmp' t0 q0 ht hq ops' hmb' hmu' pt sb' hb' b u s2' h2'
  rw [e1, e2, e3, e4]

end Representation

/-! ## Witnesses (N2-like rationals of C02/C03): the two explicit restrictions of part A cannot be dropped; the saturation pressure
enters in the isotherm's own pressure unit -/
section Witness
open PgVerif.Model

/-- **the material hypothesis of `access_after_history_loading` is necessary**: after `convert_material('volume','cm3')`
the routines' call `loading(loading_basis='molar', loading_unit='mmol')` returns mmol per cm3 of material (4 = 2·ρ)
instead of mmol per g (2): the result is reported per stored unit of material
(`access_after_history_loading_general`: it changes by exactly `g(cm3)/g(g) = ρ_material = 2`). -/
theorem material_conversion_witness :
    loadingColumn C03.ctxW (run C03.ctxW C03.isoMolar [.material (some "volume") (some "cm3")])
        (some "molar") (some "mmol") none none = [.ok 4] ∧
    loadingColumn C03.ctxW C03.isoMolar (some "molar") (some "mmol") none none = [.ok 2] := by
  decide +kernel

/-- **the non-fraction restriction of `access_after_history_loading_target` is necessary** (finding S5a seen from C15):
after `convert_loading('fraction')` the accessor with a material target returns 16/5 instead of 4. -/
theorem fraction_target_witness :
    isFrac (run C03.ctxW C03.isoMolar [.loading (some "fraction") none]).lab.lbasis = true ∧
    loadingColumn C03.ctxW (run C03.ctxW C03.isoMolar [.loading (some "fraction") none])
        (some "molar") (some "mmol") (some "volume") (some "cm3") = [.ok (16 / 5)] ∧
    loadingColumn C03.ctxW C03.isoMolar (some "molar") (some "mmol") (some "volume") (some "cm3") = [.ok 4] := by
  decide +kernel

/-- … while in the routines' call shape (no material argument) the same history changes nothing, as
`access_after_history_loading` says. -/
example :
    loadingColumn C03.ctxW (run C03.ctxW C03.isoMolar [.loading (some "fraction") none])
        (some "molar") (some "mmol") none none
      = loadingColumn C03.ctxW C03.isoMolar (some "molar") (some "mmol") none none := by
  decide +kernel

/-- **the saturation pressure enters every mode conversion in the isotherm's OWN pressure unit, whatever the source of the
number** (backend or a literal of a user-defined adsorbate: the model's context holds one value in Pa, here 90000).
What a routine reads with `pressure_mode='relative'` from 45 kPa, from 45000 Pa and from 0.45 bar is the same 1/2; the
quotient by the UNCONVERTED constant (45 / 90000, what an accessor returns that hands the stored Pa value back without
the unit conversion) is another number — so the model, and by the correspondence check the code, distinguishes the two
(round 7, seeded change C15-m1: the stored-literal fall-back of `Adsorbate.saturation_pressure`). -/
theorem saturation_pressure_unit_witness :
    accessPressure (⟨some 90000, C03.ctxW.env, true⟩ : Ctx ℚ) ⟨"absolute", some "kPa", "molar", some "mmol", "mass", some "g", some "K"⟩
        45 (some "relative") none = .ok (1 / 2) ∧
    accessPressure (⟨some 90000, C03.ctxW.env, true⟩ : Ctx ℚ) ⟨"absolute", some "Pa", "molar", some "mmol", "mass", some "g", some "K"⟩
        45000 (some "relative") none = .ok (1 / 2) ∧
    accessPressure (⟨some 90000, C03.ctxW.env, true⟩ : Ctx ℚ) ⟨"absolute", some "bar", "molar", some "mmol", "mass", some "g", some "K"⟩
        (9 / 20) (some "relative") none = .ok (1 / 2) ∧
    inputPressure (⟨some 90000, C03.ctxW.env, true⟩ : Ctx ℚ) ⟨"absolute", some "kPa", "molar", some "mmol", "mass", some "g", some "K"⟩
        (1 / 2) (some "relative") none = .ok 45 ∧
    ((45 : ℚ) / 90000 ≠ 1 / 2) := by
  decide +kernel

end Witness

/-! ## D. non-vacuity -/
section NonVacuity
open PgVerif.Model PgVerif.Units
open PgVerif.Spec (LB MB Ads Mat PRep LRep MRep TRep physScale)

/-- the hypotheses of `access_after_history` are met by the example of C02 (1 bar, 2 bar; 3, 4 mmol/g; N2-like
constants) with the history bar → relative% → (loading to fraction) → kPa, with a refused call in between;
target: relative pressure, molar/mmol -/
example :
    let ops : List Op := [.pressure (some "relative%") none, .loading (some "fraction") none,
      .pressure none (some "psi"), .pressure (some "absolute") (some "kPa"), .temperature (some "°C")]
    pressureColumn (ctxOf (101325 : ℚ) C02.exAds C02.exMat) (run (ctxOf 101325 C02.exAds C02.exMat) C02.exIso ops)
        (some (PRep.rel none).mode) (PRep.rel none).unit
      = pressureColumn (ctxOf 101325 C02.exAds C02.exMat) C02.exIso (some (PRep.rel none).mode) (PRep.rel none).unit ∧
    loadingColumn (ctxOf (101325 : ℚ) C02.exAds C02.exMat) (run (ctxOf 101325 C02.exAds C02.exMat) C02.exIso ops)
        (some LB.molar.name) (some "mmol") none none
      = loadingColumn (ctxOf 101325 C02.exAds C02.exMat) C02.exIso (some LB.molar.name) (some "mmol") none none := by
  intro ops
  have hA : C02.exAds.Consistent ∧ C02.exAds.Pos ∧ Mat.Pos C02.exMat ∧ (101325 : ℚ) ≠ 0 := by
    refine ⟨⟨?_, ?_⟩, ⟨?_, ?_, ?_, ?_, ?_⟩, ⟨?_, ?_⟩, ?_⟩ <;> decide +kernel
  have hV : C02.Rep.Valid (101325 : ℚ) C02.exAds C02.exMat C02.exRep :=
    ⟨by decide +kernel, by decide +kernel, by decide +kernel, Or.inl rfl⟩
  -- one run of the history for both material labels
  have hm : (run (ctxOf 101325 C02.exAds C02.exMat) C02.exIso ops).lab.mbasis = C02.exIso.lab.mbasis ∧
      (run (ctxOf 101325 C02.exAds C02.exMat) C02.exIso ops).lab.munit = C02.exIso.lab.munit := by decide +kernel
  exact access_after_history (101325 : ℚ) hA.2.2.2 C02.exAds C02.exMat hA.1 hA.2.1 hA.2.2.1 C02.exIso C02.exRep rfl hV
    ops hm.1 hm.2 (.rel none) 101325 (by decide +kernel) .molar "mmol" (1 / 1000) (by decide +kernel)

/-- and the numbers: relative pressures 100000/101325, 200000/101325; loadings 3, 4 mmol/g, read from the converted
isotherm (stored in kPa / fraction / °C) -/
example :
    let ops : List Op := [.pressure (some "relative%") none, .loading (some "fraction") none,
      .pressure none (some "psi"), .pressure (some "absolute") (some "kPa"), .temperature (some "°C")]
    (run C02.exCtx C02.exIso ops).lab = ⟨"absolute", some "kPa", "fraction", none, "mass", some "g", some "°C"⟩ ∧
    pressureColumn C02.exCtx (run C02.exCtx C02.exIso ops) (some "relative") none
      = [.ok (100000 / 101325), .ok (200000 / 101325)] ∧
    loadingColumn C02.exCtx (run C02.exCtx C02.exIso ops) (some "molar") (some "mmol") none none = [.ok 3, .ok 4] := by
  decide +kernel

/-- guards of `bet_end_to_end_scale`: a BET line with non-zero intercept (data on `y = p + 1`) -/
example :
    (ols ([1/10, 2/10, 3/10] : List ℝ)
      (List.zipWith bet_transform [1/10, 2/10, 3/10] [10/99, 5/24, 30/91])) = (1, 1) ∧
    (ols ([1/10, 2/10, 3/10] : List ℝ)
      (List.zipWith bet_transform [1/10, 2/10, 3/10] [10/99, 5/24, 30/91])).2 ≠ 0 := by
  have h : List.zipWith bet_transform ([1/10, 2/10, 3/10] : List ℝ) [10/99, 5/24, 30/91]
      = ([1/10, 2/10, 3/10] : List ℝ).map (fun x => 1 * x + 1) := by
    simp only [List.zipWith_cons_cons, List.zipWith_nil_right, List.map_cons, List.map_nil, bet_transform, roq_transform]
    norm_num
  have hs : ([1/10, 2/10, 3/10] : List ℝ).Pairwise (· < ·) := by
    simp only [List.pairwise_cons, List.mem_cons, List.not_mem_nil, or_false, forall_eq_or_imp, forall_eq,
      List.Pairwise.nil]
    norm_num
  rw [C14.ols_exact_of_sorted (1 : ℝ) 1 [1/10, 2/10, 3/10] _ h hs (by decide)]
  exact ⟨rfl, one_ne_zero⟩

/-- guards of `da_end_to_end_scale` and `enthalpy_ols_pressure_unit` -/
example : ([1, 2] : List ℝ) ≠ [] ∧ (∀ n ∈ ([1, 2] : List ℝ), n * 28 / (4 / 5) ≠ 0) ∧
    (∀ p ∈ ([1, 2] : List ℝ), 0 < p) := by
  refine ⟨List.cons_ne_nil _ _, ?_, ?_⟩ <;> intro x hx <;> simp at hx <;> rcases hx with rfl | rfl <;> norm_num

/-- hypothesis of `henry_constant_units_lsq`: `K = 2` minimises the squared residuals of the data `n = 2 p` -/
example : ∀ K', henrySSE 2 [1, 2] [2, 4] ≤ henrySSE K' [1, 2] [2, 4] := by
  exact henrySSE_min_of_eq_zero (by norm_num [henrySSE, Gen.R.Henry_loading, sum])

/-- the mesopore and micropore statements on concrete rationals (three intervals, `k = 2`): non-empty results -/
example :
    (Model.Meso.pygapsDH 2 (([3, 5, 8, 9] : List ℚ).map fun v => 2 * v) [1/2, 1, 3/2, 2] [1, 2, 4, 7]).volumes
      = (Model.Meso.pygapsDH 2 ([3, 5, 8, 9] : List ℚ) [1/2, 1, 3/2, 2] [1, 2, 4, 7]).volumes.map (fun v => 2 * v) ∧
    (Model.Meso.pygapsDH 2 ([3, 5, 8, 9] : List ℚ) [1/2, 1, 3/2, 2] [1, 2, 4, 7]).volumes.length = 3 ∧
    (Model.Meso.bjh ([3, 5, 8, 9] : List ℚ) [1/2, 1, 3/2, 2] [1, 2, 4, 7]).areas.length = 3 ∧
    (Model.Meso.dollimoreHeal ([3, 5, 8, 9] : List ℚ) [1/2, 1, 3/2, 2] [1, 2, 4, 7]).distribution.length = 3 ∧
    (Model.Micro.tail ([1, 2, 4] : List ℚ) [3, 5, 8, 9]).distribution = [2, 3 / 2] := by
  decide +kernel

end NonVacuity

end PgVerif.Props.C15
