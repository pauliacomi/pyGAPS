/-
C16, the isotherm entry point and sessions of analyses (`Model/MesoSession.lean`).

Part D: what one call of `psd_mesoporous` returns, in terms of the property set it is GIVEN: widths are `2 (r_K + t)` with the Kelvin
        radii of that property set (tied to the generated `kelvin_radius`, which obeys the Kelvin equation), zero-thickness volumes are the
        successive changes of the liquid volume computed with that property set, the cumulative curve ends at its last value.
Part D': the same widths and volumes tied to the formulas generated from the source.
Part E: sessions.  An analysis reads the property set the isotherm's adsorbate object has AT THE TIME OF THE CALL (after
        re-registration under the same name, after in-place edits) and changes nothing, so the result of an analysis does not depend
        on which analyses were run before it.
-/
import Mathlib.Tactic
import Mathlib.Algebra.Order.Field.Rat
import PgVerif.Gen.CharR
import PgVerif.Model.MesoSession
import PgVerif.Props.C16
import PgVerif.Props.C16.Tabulated

set_option linter.unusedSectionVars false

namespace PgVerif.Props.C16.Session
open PgVerif.Model.Meso PgVerif.Model.Linear PgVerif.Model.MesoSession PgVerif.Props.C16

/-! ## D. one analysis -/

section Analysis

variable {α : Type} [Field α]

theorem method_widths (name g : String) (vol thick kelvin : List α) (r : Result α)
    (h : method name g vol thick kelvin = some r) (hl : thick.length = kelvin.length) :
    r.widths = (List.zipWith (fun t k => 2 * (t + k)) thick kelvin).dropLast :=
  widths_spec (method_some h) hl

theorem method_zero_thickness_volumes [LinearOrder α] [IsStrictOrderedRing α] (name g : String) (n : Nat)
    (vol thick kelvin : List α) (r : Result α) (h : method name g vol thick kelvin = some r)
    (hthick : thick = List.replicate n 0) (hk : kelvin.length = n) (hv : vol.length = n) (hpos : ∀ k ∈ kelvin, 0 < k) :
    r.volumes = succDiff vol :=
  zero_thickness_volumes (method_some h) n hthick hk hv hpos

variable [LinearOrder α]

theorem analysis_some (R c10 c99 : α) (a : AdsProps α) (d : IsoData α) (q : Request α) (r : Analysis α)
    (h : analysis R c10 c99 a d q = some r) :
    mesoWindow d.pressure c10 c99 q.limits = some r.window ∧
    method q.method q.geometry (slice (d.loading.map (liquidVolume d.massBasis a)) r.window) (slice q.thick r.window)
      (kelvinRadii R a d.temperature q (slice q.lnp r.window)) = some r.result ∧
    r.cumulative = cumulative r.result.volumes (slice (d.loading.map (liquidVolume d.massBasis a)) r.window) ∧
    r.fullWidths = fullWidths (slice q.thick r.window) (kelvinRadii R a d.temperature q (slice q.lnp r.window)) := by
  unfold analysis at h
  split at h
  · cases h
  · next w hw =>
    simp only [] at h
    split at h
    · cases h
    · next res hm =>
      cases h
      exact ⟨hw, hm, rfl, rfl⟩

omit [LinearOrder α] in
lemma kelvinRadii_length (R : α) (a : AdsProps α) (T : α) (q : Request α) (lnp : List α) :
    (kelvinRadii R a T q lnp).length = lnp.length := by
  unfold kelvinRadii; split_ifs <;> simp

/-- the Kelvin radii are those of the property set the call is GIVEN -/
theorem analysis_widths (R c10 c99 : α) (a : AdsProps α) (d : IsoData α) (q : Request α) (r : Analysis α)
    (h : analysis R c10 c99 a d q = some r)
    (hl : (slice q.thick r.window).length = (slice q.lnp r.window).length) :
    r.result.widths = (List.zipWith (fun t k => 2 * (t + k)) (slice q.thick r.window)
      (kelvinRadii R a d.temperature q (slice q.lnp r.window))).dropLast := by
  obtain ⟨-, hm, -⟩ := analysis_some R c10 c99 a d q r h
  exact widths_spec (method_some hm) (hl.trans (kelvinRadii_length ..).symm)

/-- the liquid volume is computed from the amounts the isotherm holds with the property set the call is given -/
theorem analysis_zero_thickness_volumes [IsStrictOrderedRing α] (R c10 c99 : α) (a : AdsProps α) (d : IsoData α)
    (q : Request α) (r : Analysis α) (n : Nat) (h : analysis R c10 c99 a d q = some r)
    (hthick : slice q.thick r.window = List.replicate n 0) (hk : (slice q.lnp r.window).length = n)
    (hv : (slice (d.loading.map (liquidVolume d.massBasis a)) r.window).length = n)
    (hpos : ∀ k ∈ kelvinRadii R a d.temperature q (slice q.lnp r.window), 0 < k) :
    r.result.volumes = succDiff (slice (d.loading.map (liquidVolume d.massBasis a)) r.window) := by
  obtain ⟨-, hm, -⟩ := analysis_some R c10 c99 a d q r h
  exact zero_thickness_volumes (method_some hm) n hthick ((kelvinRadii_length ..).trans hk) hv hpos

theorem analysis_cumulative_last (R c10 c99 : α) (a : AdsProps α) (d : IsoData α) (q : Request α) (r : Analysis α)
    (h : analysis R c10 c99 a d q = some r) (hne : r.result.volumes ≠ []) :
    r.cumulative.getLastD 0 = (slice (d.loading.map (liquidVolume d.massBasis a)) r.window).getLastD 0 := by
  obtain ⟨-, -, hc, -⟩ := analysis_some R c10 c99 a d q r h
  rw [hc]; exact cumulative_last _ _ hne

/-- for a self-consistent property set (`liquid_molar_density = liquid_density / molar_mass`) a molar amount `n` mmol/g
is `n · M / ρ / 1000` cm3/g of liquid, a mass amount `m` mg/g is `m / ρ / 1000` -/
theorem liquidVolume_consistent (a : AdsProps α) (n : α) (hM : a.molarMass ≠ 0) (hρ : a.liquidDensity ≠ 0)
    (hc : a.liquidMolarDensity = a.liquidDensity / a.molarMass) :
    liquidVolume false a n = n * a.molarMass / a.liquidDensity / 1000 ∧
    liquidVolume true a n = n / a.liquidDensity / 1000 := by
  unfold liquidVolume
  simp only [Bool.false_eq_true, if_false, if_true, hc, mul_one_div]
  exact ⟨by rw [div_div_eq_mul_div, div_mul_eq_mul_div, div_right_comm], div_right_comm _ _ _⟩

/-- the sign of a Kelvin radius below saturation (`ln p < 0`) is the sign of the temperature argument; stated once, so that the order
facts of the field are found once -/
lemma kelvinRadius_sign [IsStrictOrderedRing α] {R f : α} {a : AdsProps α} {lnp : α} (hR : 0 < R) (hf : 0 < f)
    (hγ : 0 < a.surfaceTension) (hM : 0 < a.molarMass) (hρ : 0 < a.liquidDensity) (hl : lnp < 0) (T : α) :
    (0 < T → 0 < kelvinRadius R f T a lnp) ∧ (T < 0 → kelvinRadius R f T a lnp < 0) := by
  have hnum := neg_neg_of_pos (mul_pos (mul_pos two_pos hγ) (div_pos hM hρ))
  have hfR := mul_pos hf hR
  exact ⟨fun hT => div_pos_of_neg_of_neg hnum (mul_neg_of_pos_of_neg (mul_pos hfR hT) hl),
    fun hT => div_neg_of_neg_of_pos hnum (mul_pos_of_neg_of_neg (mul_neg_of_pos_of_neg hfR hT) hl)⟩

theorem kelvinRadius_pos [IsStrictOrderedRing α] (R f T : α) (a : AdsProps α) (lnp : α) (hR : 0 < R) (hf : 0 < f) (hT : 0 < T)
    (hγ : 0 < a.surfaceTension) (hM : 0 < a.molarMass) (hρ : 0 < a.liquidDensity) (hl : lnp < 0) :
    0 < kelvinRadius R f T a lnp :=
  (kelvinRadius_sign hR hf hγ hM hρ hl T).1 hT

/-- the temperature cancels from `r(T) · T` (totalised division: no condition on `f R ln p`) -/
lemma kelvinRadius_mul_self_temperature (R f T : α) (a : AdsProps α) (lnp : α) (hT : T ≠ 0) :
    kelvinRadius R f T a lnp * T
      = -((2 * a.surfaceTension) * (a.molarMass / a.liquidDensity)) / ((f * R) * lnp) := by
  unfold kelvinRadius
  rw [mul_right_comm (f * R) T lnp, div_mul_eq_mul_div, mul_div_mul_right _ _ hT]

/-- with the totalised division this also holds when `f R ln p = 0`, where both radii are `0` -/
theorem kelvinRadius_mul_temperature (R f T T' : α) (a : AdsProps α) (lnp : α) (hT : T ≠ 0) (hT' : T' ≠ 0) :
    kelvinRadius R f T a lnp * T = kelvinRadius R f T' a lnp * T' := by
  rw [kelvinRadius_mul_self_temperature R f T a lnp hT, kelvinRadius_mul_self_temperature R f T' a lnp hT']

/-- the temperature the Kelvin model receives must be the ABSOLUTE temperature of the experiment, whatever number the isotherm
stores: for a physical property set below saturation, the radius computed with the stored number `T − c` of another temperature scale
(`c ≠ 0`; `c = 273.15` for °C) is never the radius at `T` — also when the stored number is `0` (0 °C: the totalised division gives `0`,
the true radius is positive) or negative (cryogenic experiments in °C: the "radius" is negative, see `kelvinRadius_neg_of_stored_neg`).
So a pore width computed from the stored number differs from `2 (r_K(T) + t)` at EVERY pressure: the representation-invariance
oracle of the harness (same isotherm stored in K and in °C) observes exactly this. -/
theorem kelvinRadius_stored_scale_ne [IsStrictOrderedRing α] (R f T c : α) (a : AdsProps α) (lnp : α)
    (hR : 0 < R) (hf : 0 < f) (hT : 0 < T) (hγ : 0 < a.surfaceTension) (hM : 0 < a.molarMass) (hρ : 0 < a.liquidDensity)
    (hl : lnp < 0) (hc : c ≠ 0) :
    kelvinRadius R f (T - c) a lnp ≠ kelvinRadius R f T a lnp := by
  have hpos := kelvinRadius_pos R f T a lnp hR hf hT hγ hM hρ hl
  intro heq
  by_cases h0 : T - c = 0
  · rw [kelvinRadius, h0, mul_zero, zero_mul, div_zero] at heq
    exact hpos.ne heq
  · have hm := kelvinRadius_mul_temperature R f (T - c) T a lnp h0 (ne_of_gt hT)
    rw [heq] at hm
    have : T - c = T := mul_left_cancel₀ (ne_of_gt hpos) hm
    exact hc (sub_eq_self.mp this)

/-- a negative stored number (a cryogenic temperature written in °C) turns every Kelvin radius negative -/
theorem kelvinRadius_neg_of_stored_neg [IsStrictOrderedRing α] (R f T : α) (a : AdsProps α) (lnp : α)
    (hR : 0 < R) (hf : 0 < f) (hT : T < 0) (hγ : 0 < a.surfaceTension) (hM : 0 < a.molarMass) (hρ : 0 < a.liquidDensity)
    (hl : lnp < 0) :
    kelvinRadius R f T a lnp < 0 :=
  (kelvinRadius_sign hR hf hγ hM hρ hl T).2 hT

/-- nitrogen-like numbers at 77 K, stored as −196.15 °C, `ln p = −1/2` -/
example : kelvinRadius (8 : ℚ) 2 (77 - 27315 / 100) ⟨28, 4 / 5, 9, 1 / 35⟩ (-1 / 2) ≠ kelvinRadius (8 : ℚ) 2 77 ⟨28, 4 / 5, 9, 1 / 35⟩ (-1 / 2) :=
  kelvinRadius_stored_scale_ne 8 2 77 (27315 / 100) ⟨28, 4 / 5, 9, 1 / 35⟩ (-1 / 2) (by norm_num) (by norm_num) (by norm_num)
    (by norm_num) (by norm_num) (by norm_num) (by norm_num) (by norm_num)

end Analysis

/-! ## D'. ties to the formulas generated from the source -/

section Ties

open PgVerif.Gen.CharR

/-- the gas constant of the model as a real number -/
noncomputable def Rmodel : ℝ := (gasConstant.1 : ℝ) / (gasConstant.2 : ℝ)

theorem Rmodel_eq : Rmodel = Rgas := by
  unfold Rmodel Rgas gasConstant; norm_num

/-- the model's Kelvin radius with `lnp = ln p` IS the generated `kelvin_radius` on the molar volume `M / ρ` of the same property set -/
theorem kelvinRadius_eq_gen (f T : ℝ) (a : AdsProps ℝ) (p : ℝ) :
    kelvinRadius Rmodel f T a (Real.log p)
      = kelvin_radius p T a.surfaceTension (kelvin_molar_density a.liquidDensity a.molarMass) f := by
  rw [Rmodel_eq]
  unfold kelvinRadius kelvin_radius kelvin_molar_density Rgas
  rfl

theorem kelvinRadiusKJS_eq_gen (T : ℝ) (a : AdsProps ℝ) (p : ℝ) :
    kelvinRadiusKJS Rmodel T a (Real.log p)
      = kelvin_radius_kjs p T a.surfaceTension (kelvin_molar_density a.liquidDensity a.molarMass) := by
  rw [Rmodel_eq]
  unfold kelvinRadiusKJS kelvin_radius_kjs kelvin_molar_density Rgas
  rfl

/-- hence the radii an analysis uses obey the Kelvin equation for the property set it is given:
`ln p = − 2 γ (M/ρ) / (f R T r)`, `r > 0`, on `0 < p < 1` -/
theorem analysis_kelvin_equation (f T : ℝ) (a : AdsProps ℝ) (p : ℝ) (hp : 0 < p) (hp1 : p < 1) (hT : 0 < T) (hf : 0 < f)
    (hγ : 0 < a.surfaceTension) (hM : 0 < a.molarMass) (hρ : 0 < a.liquidDensity) :
    0 < kelvinRadius Rmodel f T a (Real.log p) ∧
    Real.log p = -(2 * a.surfaceTension * (a.molarMass / a.liquidDensity))
      / (f * Rgas * T * kelvinRadius Rmodel f T a (Real.log p)) := by
  rw [kelvinRadius_eq_gen]
  exact kelvin_equation p T a.surfaceTension (kelvin_molar_density a.liquidDensity a.molarMass) f hp hp1 hT hγ
    (by unfold kelvin_molar_density; positivity) hf

/-- the nodes of a standard thickness curve are `convert_to_thickness(n, monolayer)` of the source -/
theorem thicknessTable_eq_gen (monolayer : ℝ) (ps ns : List ℝ) :
    thicknessTable ((layerThickness.1 : ℝ) / (layerThickness.2 : ℝ)) monolayer ps ns
      = List.zipWith (fun p n => (p, convert_to_thickness n monolayer)) ps ns := by
  simp only [thicknessTable, convert_to_thickness, layerThickness, Nat.cast_ofNat]

/-- with a tabulated standard thickness curve (increasing pressures, non-decreasing non-negative loadings) the reported widths
`2 (t + r_K)` increase strictly with pressure on (0,1), as for the closed-form thickness models -/
theorem width_strictMono_standard (monolayer : ℝ) (ps ns : List ℝ) (hmono : 0 < monolayer)
    (hp : ps.Pairwise (· < ·)) (hn : ns.Pairwise (· ≤ ·)) (h0 : ∀ n ∈ ns, 0 ≤ n)
    (T γ Vm f : ℝ) (hT : 0 < T) (hγ : 0 < γ) (hVm : 0 < Vm) (hf : 0 < f) :
    StrictMonoOn (fun p => 2 * (standardThickness ((layerThickness.1 : ℝ) / (layerThickness.2 : ℝ)) monolayer ps ns p
      + kelvin_radius p T γ Vm f)) (Set.Ioo 0 1) :=
  width_strictMono_of_monotoneOn _
    ((Tabulated.standardThickness_monotone _ monolayer ps ns (by unfold layerThickness; norm_num) hmono hp hn h0).monotoneOn _)
    T γ Vm f hT hγ hVm hf

end Ties

/-! ## E. sessions -/

section Sessions

variable {α : Type} [Field α] [LinearOrder α]

lemma step_analyse (R c10 c99 : α) (s : State α) (i : Nat) (q : Request α) :
    step R c10 c99 s (.analyse i q)
      = match s.propsOf i with
        | none => (s, .refused)
        | some (a, d) =>
          match analysis R c10 c99 a d q with
          | none => (s, .refused)
          | some r => (s, .result r) := rfl

lemma step_edit (R c10 c99 : α) (s : State α) (obj : Nat) (p : AdsProps α) :
    step R c10 c99 s (.edit obj p)
      = if obj < s.heap.length then ({ s with heap := s.heap.set obj p }, .done obj) else (s, .refused) := rfl

theorem analyse_state (R c10 c99 : α) (s : State α) (i : Nat) (q : Request α) :
    (step R c10 c99 s (.analyse i q)).1 = s := by
  rw [step_analyse]
  split
  · rfl
  · split <;> rfl

/-- an analysis is `analysis` on the property set that the isotherm's adsorbate object has in the heap NOW -/
theorem analyse_reads_current (R c10 c99 : α) (s : State α) (i : Nat) (q : Request α) (a : AdsProps α) (d : IsoData α)
    (h : s.propsOf i = some (a, d)) (r : Analysis α) :
    (step R c10 c99 s (.analyse i q)).2 = .result r ↔ analysis R c10 c99 a d q = some r := by
  rw [step_analyse, h]
  simp only []
  cases analysis R c10 c99 a d q with
  | none => simp
  | some r' => simp

theorem run_append (R c10 c99 : α) (s : State α) (ops₁ ops₂ : List (Op α)) :
    run R c10 c99 s (ops₁ ++ ops₂)
      = ((run R c10 c99 (run R c10 c99 s ops₁).1 ops₂).1, (run R c10 c99 s ops₁).2 ++ (run R c10 c99 (run R c10 c99 s ops₁).1 ops₂).2) := by
  induction ops₁ generalizing s with
  | nil => simp [run]
  | cons op ops ih =>
    simp only [List.cons_append, run]
    rw [ih]

/-- history independence: inserting an analysis anywhere in a session changes neither the final state nor the output of any
other operation — in particular the results of all later analyses -/
theorem run_insert_analysis (R c10 c99 : α) (s : State α) (ops₁ ops₂ : List (Op α)) (i : Nat) (q : Request α) :
    (run R c10 c99 s (ops₁ ++ Op.analyse i q :: ops₂)).1 = (run R c10 c99 s (ops₁ ++ ops₂)).1 ∧
    (run R c10 c99 s (ops₁ ++ Op.analyse i q :: ops₂)).2
      = (run R c10 c99 s ops₁).2 ++ (step R c10 c99 (run R c10 c99 s ops₁).1 (.analyse i q)).2
          :: (run R c10 c99 (run R c10 c99 s ops₁).1 ops₂).2 ∧
    (run R c10 c99 s (ops₁ ++ ops₂)).2 = (run R c10 c99 s ops₁).2 ++ (run R c10 c99 (run R c10 c99 s ops₁).1 ops₂).2 := by
  rw [run_append, run_append]
  simp only [run]
  rw [analyse_state]
  simp

theorem edit_then_propsOf (R c10 c99 : α) (s : State α) (i obj : Nat) (d : IsoData α) (p : AdsProps α)
    (hi : s.isos[i]? = some (obj, d)) (ho : obj < s.heap.length) :
    ((step R c10 c99 s (.edit obj p)).1).propsOf i = some (p, d) := by
  rw [step_edit, if_pos ho]
  simp only [State.propsOf, hi, List.getElem?_set_self ho, Option.map_some]

theorem edit_other_propsOf (R c10 c99 : α) (s : State α) (i obj obj' : Nat) (d : IsoData α) (p : AdsProps α)
    (hi : s.isos[i]? = some (obj', d)) (hne : obj ≠ obj') :
    ((step R c10 c99 s (.edit obj p)).1).propsOf i = s.propsOf i := by
  rw [step_edit]
  split_ifs with ho
  · simp only [State.propsOf, hi, List.getElem?_set_ne hne]
  · rfl

lemma find_filter_ne (reg : List (String × Nat)) (name : String) :
    find (reg.filter (fun e => !(e.1 == name))) name = none := by
  unfold find
  rw [Option.map_eq_none_iff, List.find?_eq_none]
  intro e he
  have := (List.mem_filter.mp he).2
  simpa using this

lemma find_append_new (reg : List (String × Nat)) (name : String) (id : Nat) (h : find reg name = none) :
    find (reg ++ [(name, id)]) name = some id := by
  unfold find at h ⊢
  rw [Option.map_eq_none_iff] at h
  rw [List.find?_append, h]
  simp

/-- re-registration under the same name: after removing the name from the list and storing a new object, an isotherm built by
name holds the NEW object and an analysis of it reads the NEW property set -/
theorem reregister_then_iso_sees_new (R c10 c99 : α) (s : State α) (name : String) (p : AdsProps α) (d : IsoData α) :
    let s₃ := (run R c10 c99 s [.unregister name, .create name p true, .newIso name d]).1
    s₃.propsOf s.isos.length = some (p, d) := by
  simp only [run, step]
  have h1 := find_filter_ne s.registry name
  simp only [h1, Option.isNone_none, Bool.and_self, if_true]
  rw [find_append_new _ _ _ h1]
  simp [State.propsOf]

/-- (as the library behaves) `Adsorbate(name, store=True)` while an object of that name is in the list does not replace it:
isotherms built by name keep getting the first object -/
theorem create_existing_name_keeps_first (R c10 c99 : α) (s : State α) (name : String) (p : AdsProps α) (obj : Nat)
    (h : find s.registry name = some obj) :
    find ((step R c10 c99 s (.create name p true)).1).registry name = some obj := by
  simp [step, h]

end Sessions

/-! ## F. non-vacuity -/

section Examples

def exA : AdsProps ℚ := ⟨40, 7 / 5, 25 / 2, 7 / 200⟩
def exB : AdsProps ℚ := ⟨28, 4 / 5, 44 / 5, 1 / 35⟩
def exIso : IsoData ℚ := ⟨87, [1 / 10, 2 / 10, 3 / 10, 5 / 10, 7 / 10, 9 / 10], false, [1, 2, 3, 5, 6, 7]⟩
def exReq : Request ℚ := ⟨"pygaps-DH", "cylinder", 2, false, some (none, none), [0, 0, 0, 0, 0, 0],
  [-23 / 10, -16 / 10, -12 / 10, -7 / 10, -36 / 100, -1 / 10]⟩

/-- both property sets are self-consistent -/
example : exA.liquidMolarDensity = exA.liquidDensity / exA.molarMass ∧ exB.liquidMolarDensity = exB.liquidDensity / exB.molarMass := by
  decide +kernel

/-- the same isotherm analysed before and after an in-place edit A → B: the volumes follow the current property set -/
example :
    ((run (1 : ℚ) (1 / 10) (99 / 100) State.empty
      [.create "gas" exA true, .newIso "gas" exIso, .analyse 0 exReq, .edit 0 exB, .analyse 0 exReq]).2.map
        (fun o => match o with | .result r => r.result.volumes | _ => []))
      = [[], [], [1 / 35, 1 / 35, 2 / 35, 1 / 35, 1 / 35], [], [7 / 200, 7 / 200, 7 / 100, 7 / 200, 7 / 200]] := by
  decide +kernel

end Examples

end PgVerif.Props.C16.Session
