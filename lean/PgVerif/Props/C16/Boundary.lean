/-
C16, boundary coincidence and near-coincident data (`Model/Linear.lean` window, `Model/Meso.lean`, `Model/MesoSession.lean`).

Part G: pressure limits that are EXACTLY equal to measured pressures.  The convention of `psd_mesoporous`
        (`numpy.searchsorted(pressure, lo)` … `numpy.searchsorted(pressure, hi) - 1`, both `side='left'`) is a half-open interval:
        a point on the lower limit is used, a point on the upper limit is NOT.  On a strictly increasing grid with `lo = p_i`,
        `hi = p_j` the window is `(i, j - 1)` (and the call is refused iff `j < i + 3`); the same for the default limits when readings
        equal to 0.1 / 0.99 exist, for one limit only, for the first / last point.  Every reported quantity refers to that window:
        in particular the cumulative curve ends at the liquid volume of point `j - 1`, the highest pressure USED, not at the
        volume of the point that lies on the limit.
Part H: near-coincident data.  `distribution × width increments = pore volumes` holds entry by entry for ANY non-zero increments,
        however small (no threshold, no relative tolerance), for every method and for the whole entry point; hence the distribution
        of an interval vanishes exactly when its pore volume does, and a single condensation step between two readings that are
        arbitrarily close gives exactly one non-zero entry of the distribution, `d / Δw`, at that interval.
Part I: non-vacuity at ℚ: limits on data points, two readings 10⁻¹² apart.
-/
import Mathlib.Tactic
import Mathlib.Algebra.Order.Field.Rat
import PgVerif.Model.MesoSession
import PgVerif.Props.C14
import PgVerif.Props.C16
import PgVerif.Props.C16.Session

set_option linter.unusedSectionVars false

namespace PgVerif.Props.C16.Boundary
open PgVerif.Model.Meso PgVerif.Model.Linear PgVerif.Model.MesoSession PgVerif.Props.C16 PgVerif.Props.C16.Session
open PgVerif.Props.C14 (lt_searchsorted_iff given_some_ne given_eq_none inLimits limitWindow_spec_general
  limitWindow_fst_of_not_given limitWindow_snd_of_not_given limitWindow_fst_of_given
  limitWindow_snd_of_given decide3_eq_none_iff decide3_eq_some_iff)

/-! ## G. limits that coincide with measured pressures -/

section Ties

variable {α : Type} [Field α] [LinearOrder α]

/-- the points strictly below a measured pressure are exactly the earlier ones, the point itself is not among them -/
theorem searchsorted_at_point (ps : List α) (hs : ps.Pairwise (· < ·)) (j : Nat) (h : j < ps.length) :
    searchsorted ps ps[j] = j := by
  have key := fun i hi => lt_searchsorted_iff ps (hs.imp le_of_lt) ps[j] i hi
  refine le_antisymm (not_lt.mp fun hlt => ?_) (not_lt.mp fun hlt => ?_)
  · exact lt_irrefl _ ((key j h).mp hlt)
  · exact lt_irrefl _ ((key _ (hlt.trans h)).mpr (List.pairwise_iff_getElem.mp hs _ _ _ h hlt))

/-- the point on the upper limit is excluded -/
theorem limitWindow_upper_tie (ps : List α) (hs : ps.Pairwise (· < ·)) (lo : Option α) (j : Nat) (h : j < ps.length)
    (hne : ps[j] ≠ 0) : (limitWindow ps lo (some ps[j])).2 = (j : ℤ) - 1 := by
  rw [limitWindow_snd_of_given ps lo (given_some_ne hne), searchsorted_at_point ps hs j h]

/-- the point on the lower limit is included -/
theorem limitWindow_lower_tie (ps : List α) (hs : ps.Pairwise (· < ·)) (hi : Option α) (i : Nat) (h : i < ps.length)
    (hne : ps[i] ≠ 0) : (limitWindow ps (some ps[i]) hi).1 = i := by
  rw [limitWindow_fst_of_given ps hi (given_some_ne hne), searchsorted_at_point ps hs i h]

theorem mesoWindow_ties (ps : List α) (hs : ps.Pairwise (· < ·)) (c10 c99 : α) (i j : Nat) (hj : j < ps.length)
    (hij : i + 3 ≤ j) (hi0 : ps[i]'(by omega) ≠ 0) (hj0 : ps[j] ≠ 0) :
    mesoWindow ps c10 c99 (some (some (ps[i]'(by omega)), some ps[j])) = some (i, j - 1) :=
  decide3_eq_some_iff.mpr ⟨limitWindow_lower_tie ps hs _ i (by omega) hi0,
    by rw [limitWindow_upper_tie ps hs _ j hj hj0]; omega, by omega⟩

/-- refused (`CalculationError`), whatever lies on the upper limit -/
theorem mesoWindow_ties_refused (ps : List α) (hs : ps.Pairwise (· < ·)) (c10 c99 : α) (i j : Nat) (hi : i < ps.length)
    (hj : j < ps.length) (hij : j < i + 3) (hi0 : ps[i] ≠ 0) (hj0 : ps[j] ≠ 0) :
    mesoWindow ps c10 c99 (some (some ps[i], some ps[j])) = none :=
  decide3_eq_none_iff.mpr (by
    rw [limitWindow_upper_tie ps hs _ j hj hj0, limitWindow_lower_tie ps hs _ i hi hi0]; omega)

/-- the DEFAULT limits on data points (`p_limits=None` and readings equal to 0.1 and 0.99): same half-open window -/
theorem mesoWindow_default_ties (ps : List α) (hs : ps.Pairwise (· < ·)) (c10 c99 : α) (i j : Nat) (hj : j < ps.length)
    (hij : i + 3 ≤ j) (hi : ps[i]'(by omega) = c10) (hjv : ps[j] = c99) (h10 : c10 ≠ 0) (h99 : c99 ≠ 0) :
    mesoWindow ps c10 c99 none = some (i, j - 1) := by
  have := mesoWindow_ties ps hs c10 c99 i j hj hij (by rw [hi]; exact h10) (by rw [hjv]; exact h99)
  rw [hi, hjv] at this
  exact this

theorem mesoWindow_upper_tie_only (ps : List α) (hs : ps.Pairwise (· < ·)) (c10 c99 : α) (lo : Option α)
    (hlo : lo = none ∨ lo = some 0) (j : Nat) (hj : j < ps.length) (h3 : 3 ≤ j) (hj0 : ps[j] ≠ 0) :
    mesoWindow ps c10 c99 (some (lo, some ps[j])) = some (0, j - 1) :=
  decide3_eq_some_iff.mpr ⟨limitWindow_fst_of_not_given ps _ (given_eq_none hlo),
    by rw [limitWindow_upper_tie ps hs _ j hj hj0]; omega, by omega⟩

theorem mesoWindow_lower_tie_only (ps : List α) (hs : ps.Pairwise (· < ·)) (c10 c99 : α) (hi : Option α)
    (hhi : hi = none ∨ hi = some 0) (i : Nat) (h3 : i + 3 ≤ ps.length) (hi0 : ps[i]'(by omega) ≠ 0) :
    mesoWindow ps c10 c99 (some (some (ps[i]'(by omega)), hi)) = some (i, ps.length - 1) :=
  decide3_eq_some_iff.mpr ⟨limitWindow_lower_tie ps hs _ i (by omega) hi0,
    by rw [limitWindow_snd_of_not_given ps _ (given_eq_none hhi)]; omega, by omega⟩

theorem mesoWindow_mem_iff (ps : List α) (hs : ps.Pairwise (· ≤ ·)) (c10 c99 : α) (lo hi : Option α) (w : Nat × Nat)
    (h : mesoWindow ps c10 c99 (some (lo, hi)) = some w) (i : Nat) (hi' : i < ps.length) :
    (w.1 ≤ i ∧ i ≤ w.2) ↔ inLimits lo hi ps[i] = true := by
  obtain ⟨h1, h2, -⟩ := decide3_eq_some_iff.mp h
  rw [← limitWindow_spec_general ps hs lo hi i hi', h1, h2, Nat.cast_le]

/-- `a[minimum : maximum + 1][-1] = a[maximum]` -/
lemma slice_getLastD (xs : List α) (w : Nat × Nat) (h1 : w.1 ≤ w.2) (h2 : w.2 < xs.length) :
    (slice xs w).getLastD 0 = xs[w.2] := by
  unfold slice
  rw [List.getLastD_eq_getLast?, List.getLast?_drop, if_neg (by rw [List.length_take]; omega), List.getLast?_take,
    if_neg (by omega)]
  simp only [add_tsub_cancel_right, List.getElem?_eq_getElem h2, Option.some_or, Option.getD_some]

lemma mesoWindow_some_le (ps : List α) (c10 c99 : α) (l : Option (Option α × Option α)) (w : Nat × Nat)
    (h : mesoWindow ps c10 c99 l = some w) : w.1 + 2 ≤ w.2 := by
  cases l <;> exact (decide3_eq_some_iff.mp h).2.2

/-- the cumulative curve ends at the liquid volume of the LAST INDEX OF THE WINDOW -/
theorem analysis_cumulative_at_window_end (R c10 c99 : α) (a : AdsProps α) (d : IsoData α) (q : Request α) (r : Analysis α)
    (h : analysis R c10 c99 a d q = some r) (hne : r.result.volumes ≠ []) (hlen : r.window.2 < d.loading.length) :
    r.cumulative.getLastD 0 = liquidVolume d.massBasis a d.loading[r.window.2] := by
  rw [analysis_cumulative_last R c10 c99 a d q r h hne]
  obtain ⟨hw, -, -⟩ := analysis_some R c10 c99 a d q r h
  have := mesoWindow_some_le _ _ _ _ _ hw
  rw [slice_getLastD _ _ (by omega) (by simpa using hlen)]
  simp

/-- **upper limit on a measured pressure.** `p_limits = (lo, p_j)` on a strictly increasing grid: the call uses the points up to
`j - 1` and the cumulative curve ends at the liquid volume adsorbed at `p_{j-1}`, the highest pressure used — NOT at the volume of
the point `j` that lies on the limit -/
theorem analysis_cumulative_upper_tie (R c10 c99 : α) (a : AdsProps α) (d : IsoData α) (q : Request α) (r : Analysis α)
    (lo : Option α) (j : Nat) (hs : d.pressure.Pairwise (· < ·)) (hj : j < d.pressure.length)
    (hlen : d.loading.length = d.pressure.length) (hj0 : d.pressure[j] ≠ 0)
    (hq : q.limits = some (lo, some d.pressure[j]))
    (h : analysis R c10 c99 a d q = some r) (hne : r.result.volumes ≠ []) :
    r.window.2 = j - 1 ∧ 1 ≤ j ∧
    r.cumulative.getLastD 0 = liquidVolume d.massBasis a (d.loading[j - 1]'(by omega)) := by
  obtain ⟨hw, -, -⟩ := analysis_some R c10 c99 a d q r h
  rw [hq] at hw
  obtain ⟨-, h2, h3⟩ := (decide3_eq_some_iff (a := r.window.1) (b := r.window.2)).mp hw
  rw [limitWindow_upper_tie d.pressure hs lo j hj hj0] at h2
  have hw2 : r.window.2 = j - 1 := by omega
  refine ⟨hw2, by omega, ?_⟩
  rw [analysis_cumulative_at_window_end R c10 c99 a d q r h hne (by omega)]
  simp only [hw2]

end Ties

/-! ## H. near-coincident data: `distribution × Δw = V` at any spacing -/

section Spacing

variable {α : Type} [Field α]

lemma increments_eq_succDiff (l : List α) : increments l = succDiff l := by
  induction l with
  | nil => rfl
  | cons a l ih =>
    cases l with
    | nil => rfl
    | cons b r => simp only [increments, succDiff, ih]

/-- for ANY non-zero increments (no lower bound on their size) -/
theorem method_distribution_times_increment (name g : String) (n : Nat) (vol thick kelvin : List α) (r : Result α)
    (h : method name g vol thick kelvin = some r)
    (hv : vol.length = n) (ht : thick.length = n) (hk : kelvin.length = n)
    (hw : ∀ x ∈ increments (fullWidths thick kelvin), x ≠ 0) :
    List.zipWith (· * ·) r.distribution (increments (fullWidths thick kelvin)) = r.volumes := by
  rw [increments_eq_succDiff] at hw ⊢
  exact distribution_times_increment (method_some h) n hv ht hk hw

theorem entry_of_product (D W V : List α) (h : List.zipWith (· * ·) D W = V) (i : Nat)
    (hD : i < D.length) (hW : i < W.length) (hV : i < V.length) : D[i] * W[i] = V[i] := by
  subst h
  simp

theorem distribution_entry (D W V : List α) (h : List.zipWith (· * ·) D W = V) (i : Nat)
    (hD : i < D.length) (hW : i < W.length) (hV : i < V.length) (hw : W[i] ≠ 0) : D[i] = V[i] / W[i] := by
  rw [← entry_of_product D W V h i hD hW hV, mul_div_cancel_right₀ _ hw]

/-- two distinct readings, however close, never lose their pore volume from the distribution -/
theorem distribution_entry_ne_zero_iff (D W V : List α) (h : List.zipWith (· * ·) D W = V) (i : Nat)
    (hD : i < D.length) (hW : i < W.length) (hV : i < V.length) (hw : W[i] ≠ 0) : D[i] ≠ 0 ↔ V[i] ≠ 0 := by
  rw [← entry_of_product D W V h i hD hW hV]
  constructor
  · intro hd; exact mul_ne_zero hd hw
  · intro hp hd; exact hp (by rw [hd, zero_mul])

variable [LinearOrder α]

theorem increments_pos_of_pairwise_lt [IsStrictOrderedRing α] (l : List α) (hs : l.Pairwise (· < ·)) :
    ∀ x ∈ increments l, 0 < x := by
  induction l with
  | nil => intro x hx; simp [increments] at hx
  | cons a l ih =>
    cases l with
    | nil => intro x hx; simp [increments] at hx
    | cons b r =>
      intro x hx
      rw [List.pairwise_cons] at hs
      simp only [increments, List.mem_cons] at hx
      rcases hx with rfl | hx
      · exact sub_pos.mpr (hs.1 b (by simp))
      · exact ih hs.2 x hx

theorem analysis_fullWidths (R c10 c99 : α) (a : AdsProps α) (d : IsoData α) (q : Request α) (r : Analysis α)
    (h : analysis R c10 c99 a d q = some r) :
    r.fullWidths = fullWidths (slice q.thick r.window) (kelvinRadii R a d.temperature q (slice q.lnp r.window)) :=
  (analysis_some R c10 c99 a d q r h).2.2.2

theorem analysis_widths_dropLast (R c10 c99 : α) (a : AdsProps α) (d : IsoData α) (q : Request α) (r : Analysis α)
    (h : analysis R c10 c99 a d q = some r)
    (hl : (slice q.thick r.window).length = (slice q.lnp r.window).length) :
    r.result.widths = r.fullWidths.dropLast := by
  rw [analysis_fullWidths R c10 c99 a d q r h, analysis_widths R c10 c99 a d q r h hl]; rfl

/-- **the whole entry point, any spacing.** If the widths at the pressures used are strictly increasing — by however little —
the distribution times the width increments equals the pore volumes, entry by entry -/
theorem analysis_distribution_times_increment [IsStrictOrderedRing α] (R c10 c99 : α) (a : AdsProps α) (d : IsoData α)
    (q : Request α) (r : Analysis α) (n : Nat) (h : analysis R c10 c99 a d q = some r)
    (ht : (slice q.thick r.window).length = n) (hk : (slice q.lnp r.window).length = n)
    (hv : (slice (d.loading.map (liquidVolume d.massBasis a)) r.window).length = n)
    (hinc : r.fullWidths.Pairwise (· < ·)) :
    List.zipWith (· * ·) r.result.distribution (increments r.fullWidths) = r.result.volumes := by
  obtain ⟨-, hm, -⟩ := analysis_some R c10 c99 a d q r h
  have hf := analysis_fullWidths R c10 c99 a d q r h
  have hpos := increments_pos_of_pairwise_lt r.fullWidths hinc
  rw [hf] at hpos ⊢
  exact method_distribution_times_increment _ _ n _ _ _ _ hm hv ht (by rw [kelvinRadii_length, hk])
    (fun x hx => (hpos x hx).ne')

lemma step_getElem (j k i : Nat) (d : α) (h : i < (List.replicate j (0 : α) ++ [d] ++ List.replicate k 0).length) :
    (List.replicate j (0 : α) ++ [d] ++ List.replicate k 0)[i] = if i = j then d else 0 := by
  -- which of the three pieces holds index `i`
  rw [List.getElem_append]
  split
  · next h1 =>
    rw [List.getElem_append]
    split
    · next h2 =>
      rw [List.length_replicate] at h2
      rw [List.getElem_replicate, if_neg h2.ne]
    · next h2 =>
      rw [List.length_append, List.length_replicate, List.length_singleton] at h1
      rw [List.length_replicate] at h2
      rw [List.getElem_singleton, if_pos (by omega)]
  · next h1 =>
    rw [List.length_append, List.length_replicate, List.length_singleton] at h1
    rw [List.getElem_replicate, if_neg (by omega)]

/-- **single step, any spacing.** Zero thickness, a single condensation step of height `d ≠ 0` between the readings `j` and
`j + 1`, strictly increasing Kelvin radii (the two readings may be arbitrarily close): the distribution has exactly one non-zero
entry, at interval `j`, equal to `d / (2 r_{j+1} - 2 r_j)` -/
theorem single_step_distribution_single_peak [IsStrictOrderedRing α] (name g : String) (n j m : Nat) (hm : 1 ≤ m) (v d : α)
    (hd : d ≠ 0) (vol thick kelvin : List α) (r : Result α) (h : method name g vol thick kelvin = some r)
    (hthick : thick = List.replicate n 0) (hk : kelvin.length = n)
    (hvol : vol = List.replicate (j + 1) v ++ List.replicate m (v + d)) (hn : n = j + 1 + m)
    (hpos : ∀ k ∈ kelvin, 0 < k) (hinc : (fullWidths thick kelvin).Pairwise (· < ·))
    (i : Nat) (hi : i < r.distribution.length) (hiw : i < (increments (fullWidths thick kelvin)).length) :
    (r.distribution[i] ≠ 0 ↔ i = j) ∧
    (i = j → r.distribution[i] = d / (increments (fullWidths thick kelvin))[i]) := by
  have hv : vol.length = n := by rw [hvol, hn]; simp
  have ht : thick.length = n := by rw [hthick]; simp
  have hvols : r.volumes = List.replicate j 0 ++ [d] ++ List.replicate (m - 1) 0 := by
    rw [zero_thickness_volumes (method_some h) n hthick hk hv hpos, hvol, succDiff_single_step j m hm]
  have hw := increments_pos_of_pairwise_lt _ hinc
  have hprod := method_distribution_times_increment name g n vol thick kelvin r h hv ht hk (fun x hx => (hw x hx).ne')
  have hwi : (increments (fullWidths thick kelvin))[i] ≠ 0 := (hw _ (List.getElem_mem hiw)).ne'
  have hVlen : r.volumes.length = min r.distribution.length (increments (fullWidths thick kelvin)).length := by
    rw [← hprod]; simp
  have hiV : i < r.volumes.length := by rw [hVlen]; omega
  have hVi : r.volumes[i] = if i = j then d else 0 := by
    have hiV' : i < (List.replicate j (0 : α) ++ [d] ++ List.replicate (m - 1) 0).length := by rw [← hvols]; exact hiV
    have : r.volumes[i] = (List.replicate j (0 : α) ++ [d] ++ List.replicate (m - 1) 0)[i] := by
      simp only [hvols]
    rw [this, step_getElem]
  refine ⟨?_, ?_⟩
  · rw [distribution_entry_ne_zero_iff _ _ _ hprod i hi hiw hiV hwi, hVi]
    by_cases hij : i = j
    · simp [hij, hd]
    · simp [hij]
  · intro hij
    rw [distribution_entry _ _ _ hprod i hi hiw hiV hwi, hVi, if_pos hij]

end Spacing

/-! ## I. non-vacuity at ℚ -/

section Examples

def exPs : List ℚ := [1 / 20, 1 / 10, 1 / 5, 2 / 5, 3 / 5, 4 / 5, 9 / 10, 99 / 100]

/-- the grid is strictly increasing and free of zeros: the hypotheses of the tie theorems of part G -/
example : exPs.Pairwise (· < ·) ∧ ∀ p ∈ exPs, p ≠ 0 := by decide +kernel

/-- both limits on data points (`lo = p_1`, `hi = p_5`): points 1 … 4; the default limits with readings at 0.1 and 0.99: points 1 … 6;
upper limit on the last point; lower limit on the first point; neighbouring points: refused -/
example : mesoWindow exPs (1 / 10) (99 / 100) (some (some (1 / 10), some (4 / 5))) = some (1, 4) ∧
    mesoWindow exPs (1 / 10) (99 / 100) none = some (1, 6) ∧
    mesoWindow exPs (1 / 10) (99 / 100) (some (none, some (99 / 100))) = some (0, 6) ∧
    mesoWindow exPs (1 / 10) (99 / 100) (some (some (1 / 20), none)) = some (0, 7) ∧
    mesoWindow exPs (1 / 10) (99 / 100) (some (some (2 / 5), some (3 / 5))) = none ∧
    mesoWindow exPs (1 / 10) (99 / 100) (some (some (2 / 5), some (4 / 5))) = none ∧
    mesoWindow exPs (1 / 10) (99 / 100) (some (some (2 / 5), some (9 / 10))) = some (3, 5) ∧
    mesoWindow exPs (1 / 10) (99 / 100) (some (some (2 / 5), some (99 / 100))) = some (3, 6) := by
  decide +kernel

def exTieIso : IsoData ℚ := ⟨77, exPs, false, [1, 2, 3, 5, 8, 13, 21, 34]⟩
def exTieProps : AdsProps ℚ := ⟨28, 4 / 5, 44 / 5, 1 / 35⟩
def exTieReq (hi : ℚ) : Request ℚ := ⟨"pygaps-DH", "cylinder", 2, false, some (some (1 / 10), some hi), [0, 0, 0, 0, 0, 0, 0, 0],
  [-3, -23 / 10, -16 / 10, -9 / 10, -1 / 2, -2 / 9, -1 / 10, -1 / 100]⟩

/-- an upper limit ON the reading 0.8 (loading 13) ends the cumulative curve at the volume of the reading 0.6 (loading 8), the
highest pressure used; an upper limit just above it ends it at the volume of the reading 0.8 -/
example :
    ((analysis (1 : ℚ) (1 / 10) (99 / 100) exTieProps exTieIso (exTieReq (4 / 5))).map
      (fun r => (r.window, r.cumulative.getLastD 0))) = some ((1, 4), 8 * (1 / 1000) / (1 / 35)) ∧
    ((analysis (1 : ℚ) (1 / 10) (99 / 100) exTieProps exTieIso (exTieReq (801 / 1000))).map
      (fun r => (r.window, r.cumulative.getLastD 0))) = some ((1, 5), 13 * (1 / 1000) / (1 / 35)) := by
  decide +kernel

/-- two readings whose Kelvin radii are 10⁻¹² apart, the whole uptake step between them: one peak, `d / Δw = 3 / (2·10⁻¹²)`;
the same three methods, the same statement -/
example :
    (pygapsDH 2 [1, 1, 4, 4] [0, 0, 0, 0] [1, 2, 2 + 1 / 1000000000000, 3] : Result ℚ).distribution = [0, 1500000000000, 0] ∧
    (bjh [1, 1, 4, 4] [0, 0, 0, 0] [1, 2, 2 + 1 / 1000000000000, 3] : Result ℚ).distribution = [0, 1500000000000, 0] ∧
    (dollimoreHeal [1, 1, 4, 4] [0, 0, 0, 0] [1, 2, 2 + 1 / 1000000000000, 3] : Result ℚ).distribution
      = [0, 1500000000000, 0] ∧
    increments (fullWidths [0, 0, 0, 0] [1, 2, 2 + 1 / 1000000000000, 3] : List ℚ) = [2, 1 / 500000000000, 999999999999 / 500000000000] := by
  decide +kernel

/-- with an adsorbed layer as well: `distribution × Δw = V` entry by entry on widths 10⁻¹² apart -/
example :
    let r : Result ℚ := pygapsDH 3 [1, 2, 4, 5] [1 / 2, 3 / 5, 3 / 5 + 1 / 1000000000000, 7 / 10] [1, 2, 2 + 1 / 1000000000000, 3]
    List.zipWith (· * ·) r.distribution
      (increments (fullWidths [1 / 2, 3 / 5, 3 / 5 + 1 / 1000000000000, 7 / 10] [1, 2, 2 + 1 / 1000000000000, 3])) = r.volumes ∧
    r.volumes.all (· ≠ 0) ∧ r.distribution.all (· ≠ 0) := by
  decide +kernel

end Examples

end PgVerif.Props.C16.Boundary
