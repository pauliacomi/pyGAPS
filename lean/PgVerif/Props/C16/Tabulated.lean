/-
C16, the tabulated thickness curves (`models_thickness.load_std_isotherm` / `SiO2_JKO` / `CB_KJG`), model `MesoSession.tabulated`
(= `interp1d(kind="slinear", fill_value=(below, last), bounds_error=False)`), over an arbitrary ordered field.

For a table with strictly increasing pressures and non-decreasing values: the curve passes through the nodes, is linear on every
segment, is `below` under the first node and the last value above the last node, stays between the first and the last value, and is
monotone — so that (Props/C16.lean `width_strictMono_of_monotoneOn`) the reported widths `2 (t + r_K)` still increase with pressure.
-/
import Mathlib.Tactic
import Mathlib.Algebra.Order.Field.Rat
import PgVerif.Model.MesoSession

set_option linter.unusedSectionVars false

namespace PgVerif.Props.C16.Tabulated
open PgVerif.Model.MesoSession

variable {α : Type} [Field α] [LinearOrder α] [IsStrictOrderedRing α]

def SortedX (tab : List (α × α)) : Prop := (tab.map Prod.fst).Pairwise (· < ·)

def MonoY (tab : List (α × α)) : Prop := (tab.map Prod.snd).Pairwise (· ≤ ·)

def lin (a b : α × α) (x : α) : α := a.2 + (x - a.1) * (b.2 - a.2) / (b.1 - a.1)

/-- the value at or above the first node -/
def inside (below : α) (tab : List (α × α)) (x : α) : α :=
  (interpSeg tab x).getD ((tab.getLast?.map (·.2)).getD below)

/-! ### the line -/

lemma lin_left (a b : α × α) : lin a b a.1 = a.2 := by
  rw [lin, sub_self, zero_mul, zero_div, add_zero]

lemma lin_right (a b : α × α) (h : a.1 < b.1) : lin a b b.1 = b.2 := by
  rw [lin, mul_div_cancel_left₀ _ (sub_pos.mpr h).ne', add_sub_cancel]

lemma lin_mono (a b : α × α) (hx : a.1 < b.1) (hy : a.2 ≤ b.2) {x x' : α} (h : x ≤ x') : lin a b x ≤ lin a b x' :=
  add_le_add_right (div_le_div_of_nonneg_right
    (mul_le_mul_of_nonneg_right (sub_le_sub_right h _) (sub_nonneg.mpr hy)) (sub_pos.mpr hx).le) _

lemma lin_le (a b : α × α) (hx : a.1 < b.1) (hy : a.2 ≤ b.2) {x : α} (h : x ≤ b.1) : lin a b x ≤ b.2 := by
  have := lin_mono a b hx hy h
  rwa [lin_right a b hx] at this


lemma inside_single (below : α) (a : α × α) (x : α) : inside below [a] x = a.2 := by
  simp [inside, interpSeg]

lemma inside_cons_cons (below : α) (a b : α × α) (r : List (α × α)) (x : α) :
    inside below (a :: b :: r) x = if x ≤ b.1 then lin a b x else inside below (b :: r) x := by
  unfold inside
  rw [List.getLast?_cons_cons]
  simp only [interpSeg, lin]
  split_ifs <;> rfl

lemma tabulated_cons (below : α) (a : α × α) (r : List (α × α)) (x : α) :
    tabulated below (a :: r) x = if x < a.1 then below else inside below (a :: r) x := rfl

lemma sortedX_cons {a : α × α} {r : List (α × α)} (h : SortedX (a :: r)) : (∀ n ∈ r, a.1 < n.1) ∧ SortedX r := by
  unfold SortedX at h ⊢
  rw [List.map_cons, List.pairwise_cons] at h
  exact ⟨fun n hn => h.1 n.1 (List.mem_map_of_mem hn), h.2⟩

lemma sortedX_head_le {a : α × α} {r : List (α × α)} (h : SortedX (a :: r)) {n : α × α} (hn : n ∈ a :: r) :
    a.1 ≤ n.1 := by
  rcases List.mem_cons.mp hn with he | hr
  · rw [he]
  · exact ((sortedX_cons h).1 n hr).le

lemma monoY_cons {a : α × α} {r : List (α × α)} (h : MonoY (a :: r)) : (∀ n ∈ r, a.2 ≤ n.2) ∧ MonoY r := by
  unfold MonoY at h ⊢
  rw [List.map_cons, List.pairwise_cons] at h
  exact ⟨fun n hn => h.1 n.2 (List.mem_map_of_mem hn), h.2⟩

/-! ### bounds and monotonicity at or above the first node -/

lemma inside_ge (below : α) (r : List (α × α)) : ∀ (a : α × α) (x : α), SortedX (a :: r) → MonoY (a :: r) → a.1 ≤ x →
    a.2 ≤ inside below (a :: r) x := by
  induction r with
  | nil => intro a x _ _ _; rw [inside_single]
  | cons b r ih =>
    intro a x hs hm hx
    obtain ⟨hs1, hs2⟩ := sortedX_cons hs
    obtain ⟨hm1, hm2⟩ := monoY_cons hm
    have hab := hs1 b List.mem_cons_self
    have hyab := hm1 b List.mem_cons_self
    rw [inside_cons_cons]
    split_ifs with h
    · exact lin_left a b ▸ lin_mono a b hab hyab hx
    · exact hyab.trans (ih b x hs2 hm2 (not_le.mp h).le)

lemma inside_le_last (below : α) (r : List (α × α)) : ∀ (a : α × α) (x : α), SortedX (a :: r) → MonoY (a :: r) →
    inside below (a :: r) x ≤ ((a :: r).getLast (List.cons_ne_nil _ _)).2 := by
  induction r with
  | nil => intro a x _ _; rw [inside_single]; simp
  | cons b r ih =>
    intro a x hs hm
    obtain ⟨hs1, hs2⟩ := sortedX_cons hs
    obtain ⟨hm1, hm2⟩ := monoY_cons hm
    have hab := hs1 b List.mem_cons_self
    have hyab := hm1 b List.mem_cons_self
    rw [inside_cons_cons, List.getLast_cons_cons]
    split_ifs with h
    · refine (lin_le a b hab hyab h).trans ?_
      have hl : (b :: r).getLast (List.cons_ne_nil _ _) ∈ b :: r := List.getLast_mem _
      rcases List.mem_cons.mp hl with he | hr
      · rw [he]
      · exact (monoY_cons hm2).1 _ hr
    · exact ih b x hs2 hm2

lemma inside_mono (below : α) (r : List (α × α)) : ∀ (a : α × α) (x x' : α), SortedX (a :: r) → MonoY (a :: r) →
    a.1 ≤ x → x ≤ x' → inside below (a :: r) x ≤ inside below (a :: r) x' := by
  induction r with
  | nil => intro a x x' _ _ _ _; rw [inside_single, inside_single]
  | cons b r ih =>
    intro a x x' hs hm hx hxx
    obtain ⟨hs1, hs2⟩ := sortedX_cons hs
    obtain ⟨hm1, hm2⟩ := monoY_cons hm
    have hab := hs1 b List.mem_cons_self
    have hyab := hm1 b List.mem_cons_self
    rw [inside_cons_cons, inside_cons_cons]
    by_cases h : x ≤ b.1
    · by_cases h' : x' ≤ b.1
      · rw [if_pos h, if_pos h']; exact lin_mono a b hab hyab hxx
      · rw [if_pos h, if_neg h']
        exact (lin_le a b hab hyab h).trans (inside_ge below r b x' hs2 hm2 (not_le.mp h').le)
    · have h' : ¬ x' ≤ b.1 := fun hc => h (hxx.trans hc)
      rw [if_neg h, if_neg h']
      exact ih b x x' hs2 hm2 (not_le.mp h).le hxx

lemma inside_at_node (below : α) (r : List (α × α)) : ∀ (a : α × α), SortedX (a :: r) → ∀ n ∈ a :: r,
    inside below (a :: r) n.1 = n.2 := by
  induction r with
  | nil =>
    intro a _ n hn
    rw [inside_single]
    simp only [List.mem_singleton] at hn
    rw [hn]
  | cons b r ih =>
    intro a hs n hn
    obtain ⟨hs1, hs2⟩ := sortedX_cons hs
    have hab := hs1 b List.mem_cons_self
    rw [inside_cons_cons]
    rcases List.mem_cons.mp hn with he | hr
    · rw [he, if_pos hab.le, lin_left]
    · rcases List.mem_cons.mp hr with hb | hr'
      · rw [hb, if_pos le_rfl, lin_right a b hab]
      · have : b.1 < n.1 := (sortedX_cons hs2).1 n hr'
        rw [if_neg (not_le.mpr this)]
        exact ih b hs2 n hr

lemma inside_above (below : α) (r : List (α × α)) : ∀ (a : α × α) (x : α), SortedX (a :: r) →
    ((a :: r).getLast (List.cons_ne_nil _ _)).1 < x → inside below (a :: r) x = ((a :: r).getLast (List.cons_ne_nil _ _)).2 := by
  induction r with
  | nil => intro a x _ _; rw [inside_single]; simp
  | cons b r ih =>
    intro a x hs hx
    obtain ⟨-, hs2⟩ := sortedX_cons hs
    rw [List.getLast_cons_cons] at hx ⊢
    have hb : b.1 ≤ ((b :: r).getLast (List.cons_ne_nil _ _)).1 := sortedX_head_le hs2 (List.getLast_mem _)
    rw [inside_cons_cons, if_neg (not_le.mpr (hb.trans_lt hx))]
    exact ih b x hs2 hx


theorem tabulated_below (below : α) (a : α × α) (r : List (α × α)) (x : α) (h : x < a.1) :
    tabulated below (a :: r) x = below := by
  rw [tabulated_cons, if_pos h]

theorem tabulated_above (below : α) (tab : List (α × α)) (hne : tab ≠ []) (hs : SortedX tab) (x : α)
    (h : (tab.getLast hne).1 < x) : tabulated below tab x = (tab.getLast hne).2 := by
  cases tab with
  | nil => exact absurd rfl hne
  | cons a r =>
    have ha : a.1 ≤ ((a :: r).getLast hne).1 := sortedX_head_le hs (List.getLast_mem _)
    rw [tabulated_cons, if_neg (not_lt.mpr (ha.trans h.le))]
    exact inside_above below r a x hs h

theorem tabulated_at_node (below : α) (tab : List (α × α)) (hs : SortedX tab) (n : α × α) (hn : n ∈ tab) :
    tabulated below tab n.1 = n.2 := by
  cases tab with
  | nil => simp at hn
  | cons a r =>
    rw [tabulated_cons, if_neg (not_lt.mpr (sortedX_head_le hs hn))]
    exact inside_at_node below r a hs n hn

theorem tabulated_between (below : α) (a : α × α) (r : List (α × α)) (hs : SortedX (a :: r)) (hm : MonoY (a :: r)) (x : α)
    (hx : a.1 ≤ x) :
    a.2 ≤ tabulated below (a :: r) x ∧ tabulated below (a :: r) x ≤ ((a :: r).getLast (by simp)).2 := by
  rw [tabulated_cons, if_neg (not_lt.mpr hx)]
  exact ⟨inside_ge below r a x hs hm hx, inside_le_last below r a x hs hm⟩

/-- the hypothesis `hb`: the first value of the table is not under the lower fill value -/
theorem tabulated_monotone (below : α) (tab : List (α × α)) (hs : SortedX tab) (hm : MonoY tab)
    (hb : ∀ a ∈ tab.head?, below ≤ a.2) : Monotone (tabulated below tab) := by
  intro x x' hxx
  cases tab with
  | nil => exact le_rfl
  | cons a r =>
    have hba : below ≤ a.2 := hb a (by simp)
    simp only [tabulated_cons]
    by_cases h : x < a.1
    · by_cases h' : x' < a.1
      · rw [if_pos h, if_pos h']
      · rw [if_pos h, if_neg h']
        exact hba.trans (inside_ge below r a x' hs hm (not_lt.mp h'))
    · have h' : ¬ x' < a.1 := fun hc => h (hxx.trans_lt hc)
      rw [if_neg h, if_neg h']
      exact inside_mono below r a x x' hs hm (not_lt.mp h) hxx

/-- `kind="slinear"`: between two neighbouring nodes the curve is the straight line through them -/
theorem tabulated_linear_on_segment (below : α) (pre post : List (α × α)) (a b : α × α) (x : α)
    (hs : SortedX (pre ++ a :: b :: post)) (hax : a.1 ≤ x) (hxb : x ≤ b.1) :
    tabulated below (pre ++ a :: b :: post) x = a.2 + (x - a.1) * (b.2 - a.2) / (b.1 - a.1) := by
  have key : ∀ (pre : List (α × α)), SortedX (pre ++ a :: b :: post) →
      inside below (pre ++ a :: b :: post) x = lin a b x := by
    intro pre
    induction pre with
    | nil => intro _; rw [List.nil_append, inside_cons_cons, if_pos hxb]
    | cons c pre ih =>
      intro hs
      obtain ⟨hs1, hs2⟩ := sortedX_cons hs
      cases pre with
      | nil =>
        have hca : c.1 < a.1 := hs1 a List.mem_cons_self
        simp only [List.cons_append, List.nil_append] at ih ⊢
        rw [inside_cons_cons]
        split_ifs with h
        · have hxa : x = a.1 := le_antisymm h hax
          rw [hxa, lin_right c a hca, lin_left]
        · exact ih hs2
      | cons d pre =>
        have hda : d.1 < a.1 := (sortedX_cons hs2).1 a (by simp)
        simp only [List.cons_append] at ih ⊢
        rw [inside_cons_cons, if_neg (not_le.mpr (hda.trans_le hax))]
        exact ih hs2
  have h := key pre hs
  have ha : a ∈ pre ++ a :: b :: post := List.mem_append_right _ List.mem_cons_self
  cases hp : pre ++ a :: b :: post with
  | nil => simp at hp
  | cons e l =>
    rw [hp] at h hs ha
    -- the first node is not above `a`, hence not above `x`
    rw [tabulated_cons, if_neg (not_lt.mpr ((sortedX_head_le hs ha).trans hax)), h]
    rfl

/-! ### the standard thickness curves -/

lemma thicknessTable_fst (layer monolayer : α) : ∀ (ps ns : List α),
    ((thicknessTable layer monolayer ps ns).map Prod.fst).Sublist ps := by
  intro ps
  induction ps with
  | nil => intro ns; simp [thicknessTable]
  | cons p ps ih =>
    intro ns
    cases ns with
    | nil => simp [thicknessTable]
    | cons n ns =>
      simp only [thicknessTable, List.zipWith_cons_cons, List.map_cons]
      exact (ih ns).cons_cons p

lemma thicknessTable_snd (layer monolayer : α) : ∀ (ps ns : List α),
    ((thicknessTable layer monolayer ps ns).map Prod.snd).Sublist (ns.map (fun n => n / monolayer * layer)) := by
  intro ps
  induction ps with
  | nil => intro ns; simp [thicknessTable]
  | cons p ps ih =>
    intro ns
    cases ns with
    | nil => simp [thicknessTable]
    | cons n ns =>
      simp only [thicknessTable, List.zipWith_cons_cons, List.map_cons]
      exact (ih ns).cons_cons _

lemma thicknessTable_sorted (layer monolayer : α) (ps ns : List α) (hp : ps.Pairwise (· < ·)) :
    SortedX (thicknessTable layer monolayer ps ns) :=
  hp.sublist (thicknessTable_fst layer monolayer ps ns)

lemma thicknessTable_mono (layer monolayer : α) (ps ns : List α) (hl : 0 ≤ layer) (hmono : 0 < monolayer)
    (hn : ns.Pairwise (· ≤ ·)) : MonoY (thicknessTable layer monolayer ps ns) := by
  refine List.Pairwise.sublist (thicknessTable_snd layer monolayer ps ns) ?_
  rw [List.pairwise_map]
  refine hn.imp ?_
  intro a b hab
  exact mul_le_mul_of_nonneg_right (div_le_div_of_nonneg_right hab hmono.le) hl

lemma thicknessTable_head_nonneg (layer monolayer : α) (ps ns : List α) (hl : 0 ≤ layer) (hmono : 0 < monolayer)
    (h0 : ∀ n ∈ ns, 0 ≤ n) : ∀ a ∈ (thicknessTable layer monolayer ps ns).head?, (0 : α) ≤ a.2 := by
  intro a ha
  cases ps with
  | nil => simp only [thicknessTable, List.zipWith_nil_left, List.head?_nil, Option.mem_def, reduceCtorEq] at ha
  | cons p ps =>
    cases ns with
    | nil => simp only [thicknessTable, List.zipWith_nil_right, List.head?_nil, Option.mem_def, reduceCtorEq] at ha
    | cons n ns =>
      simp only [thicknessTable, List.zipWith_cons_cons, List.head?_cons, Option.mem_def, Option.some.injEq] at ha
      rw [← ha]
      exact mul_nonneg (div_nonneg (h0 n List.mem_cons_self) hmono.le) hl

theorem standardThickness_monotone (layer monolayer : α) (ps ns : List α) (hl : 0 ≤ layer) (hmono : 0 < monolayer)
    (hp : ps.Pairwise (· < ·)) (hn : ns.Pairwise (· ≤ ·)) (h0 : ∀ n ∈ ns, 0 ≤ n) :
    Monotone (standardThickness layer monolayer ps ns) :=
  tabulated_monotone 0 _ (thicknessTable_sorted layer monolayer ps ns hp) (thicknessTable_mono layer monolayer ps ns hl hmono hn)
    (thicknessTable_head_nonneg layer monolayer ps ns hl hmono h0)

theorem standardThickness_nonneg (layer monolayer : α) (ps ns : List α) (hl : 0 ≤ layer) (hmono : 0 < monolayer)
    (hp : ps.Pairwise (· < ·)) (hn : ns.Pairwise (· ≤ ·)) (h0 : ∀ n ∈ ns, 0 ≤ n) (x : α) :
    0 ≤ standardThickness layer monolayer ps ns x := by
  unfold standardThickness
  cases ht : thicknessTable layer monolayer ps ns with
  | nil => simp [tabulated]
  | cons a r =>
    have hs := thicknessTable_sorted layer monolayer ps ns hp
    have hm := thicknessTable_mono layer monolayer ps ns hl hmono hn
    have hh := thicknessTable_head_nonneg layer monolayer ps ns hl hmono h0
    rw [ht] at hs hm hh
    have ha : 0 ≤ a.2 := hh a (by simp)
    rw [tabulated_cons]
    split_ifs with h
    · exact le_rfl
    · exact ha.trans (inside_ge 0 r a x hs hm (not_lt.mp h))

/-! ### non-vacuity -/

example : tabulated (0 : ℚ) [(1, 2), (3, 6), (4, 6)] 2 = 4 := by decide +kernel
example : tabulated (0 : ℚ) [(1, 2), (3, 6), (4, 6)] (1 / 2) = 0 := by decide +kernel
example : tabulated (0 : ℚ) [(1, 2), (3, 6), (4, 6)] 5 = 6 := by decide +kernel
example : standardThickness (177 / 500 : ℚ) (1 / 2) [1 / 10, 2 / 10, 4 / 10] [1, 2, 3] (3 / 10) = 177 / 100 := by decide +kernel
example : SortedX ([(1, 2), (3, 6), (4, 6)] : List (ℚ × ℚ)) ∧ MonoY ([(1, 2), (3, 6), (4, 6)] : List (ℚ × ℚ)) := by
  unfold SortedX MonoY; decide +kernel

end PgVerif.Props.C16.Tabulated
