/-
C12 (continued) — the loop of `ModelIsotherm.guess` with candidates that fail, and error-from-cost.

* G. `guessIdx` (Model/Fit.lean): candidates tried in order, failed fits (`none`) leave no attempt; the model returned is the
     converged candidate with the smallest reported error, the first such one in candidate order; failed candidates are
     transparent wherever they stand in the list; nothing is returned iff every candidate failed.
* H. an error derived from the optimiser's cost equals the reported error only for the linear loss; for a robust loss
     (`ρ z < z` for `z > 0`) it understates the deviation as soon as one residual is non-zero.
-/
import PgVerif.Props.C12
import Mathlib.Algebra.Order.BigOperators.Group.List

namespace PgVerif.Props.C12
open PgVerif.Model.Fit

/-! ## G. the loop of `ModelIsotherm.guess` -/

section guessHelpers
variable {α : Type}

lemma attemptsFrom_mem (cs : List (Option α)) : ∀ (i j : Nat) (e : α),
    (j, e) ∈ attemptsFrom i cs ↔ ∃ k, j = i + k ∧ cs[k]? = some (some e) := by
  induction cs with
  | nil => intro i j e; simp [attemptsFrom]
  | cons c cs ih =>
    intro i j e
    cases c with
    | none =>
      simp only [attemptsFrom]
      rw [ih]
      -- `(c :: cs)[k + 1]?` is `cs[k]?` by definition, so the same `hk` serves on both sides
      constructor
      · rintro ⟨k, rfl, hk⟩; exact ⟨k + 1, by omega, hk⟩
      · rintro ⟨k, rfl, hk⟩
        cases k with
        | zero => cases hk
        | succ k => exact ⟨k, by omega, hk⟩
    | some a =>
      simp only [attemptsFrom, List.mem_cons]
      rw [ih]
      constructor
      · rintro (h | ⟨k, rfl, hk⟩)
        · obtain ⟨rfl, rfl⟩ := Prod.mk.inj h
          exact ⟨0, rfl, rfl⟩
        · exact ⟨k + 1, by omega, hk⟩
      · rintro ⟨k, rfl, hk⟩
        cases k with
        | zero => cases hk; exact .inl rfl
        | succ k => exact .inr ⟨k, by omega, hk⟩

lemma attemptsFrom_lb (cs : List (Option α)) (i : Nat) : ∀ a ∈ attemptsFrom i cs, i ≤ a.1 := by
  rintro ⟨j, e⟩ h
  obtain ⟨k, rfl, -⟩ := (attemptsFrom_mem cs i j e).mp h
  simp

lemma attemptsFrom_pairwise (cs : List (Option α)) : ∀ i, (attemptsFrom i cs).Pairwise (fun a b => a.1 < b.1) := by
  induction cs with
  | nil => intro i; simp [attemptsFrom]
  | cons c cs ih =>
    intro i
    cases c with
    | none => simpa [attemptsFrom] using ih (i + 1)
    | some a =>
      simp only [attemptsFrom]
      refine List.pairwise_cons.mpr ⟨fun b hb => ?_, ih (i + 1)⟩
      have := attemptsFrom_lb cs (i + 1) b hb
      simp only
      omega

end guessHelpers

section guess
variable {α : Type} [LinearOrder α]

lemma guessIdx_eq_bind (cs : List (Option α)) :
    guessIdx cs = (bestIdx ((attemptsFrom 0 cs).map (·.2))).bind (fun k => ((attemptsFrom 0 cs)[k]?).map (·.1)) := by
  unfold guessIdx
  simp only []
  cases h : bestIdx ((attemptsFrom 0 cs).map (·.2)) <;> simp

omit [LinearOrder α] in
lemma attemptsFrom_eq_nil_iff (cs : List (Option α)) (i : Nat) : attemptsFrom i cs = [] ↔ ∀ c ∈ cs, c = none := by
  induction cs generalizing i with
  | nil => simp [attemptsFrom]
  | cons c cs ih =>
    rw [List.forall_mem_cons]
    cases c with
    | none => exact (ih (i + 1)).trans (and_iff_right rfl).symm
    | some a => exact ⟨fun h => absurd h (List.cons_ne_nil _ _), fun h => absurd h.1 (Option.some_ne_none a)⟩

/-- the first smallest attempt, read back in the candidate list: the attempts are the converged candidates, in candidate order -/
lemma guessIdx_some_spec (cs : List (Option α)) (k i : Nat) (e : α) (hk : (attemptsFrom 0 cs)[k]? = some (i, e))
    (h : IsFirstMin (fun j e => ((attemptsFrom 0 cs).map (·.2))[j]? = some e) k e) :
    IsFirstMin (fun j e => cs[j]? = some (some e)) i e := by
  have hmem : ∀ j e', cs[j]? = some (some e') ↔ ∃ k', (attemptsFrom 0 cs)[k']? = some (j, e') := fun j e' => by
    rw [← List.mem_iff_getElem?, attemptsFrom_mem]
    exact ⟨fun h => ⟨j, (Nat.zero_add j).symm, h⟩, fun ⟨k', hj, h⟩ => (show k' = j by omega) ▸ h⟩
  have hsnd : ∀ k' j e', (attemptsFrom 0 cs)[k']? = some (j, e') → ((attemptsFrom 0 cs).map (·.2))[k']? = some e' :=
    fun k' j e' hk' => by rw [List.getElem?_map, hk']; rfl
  refine ⟨(hmem i e).2 ⟨k, hk⟩, fun j e' hj => ?_, fun j e' hji hj => ?_⟩
  · obtain ⟨k', hk'⟩ := (hmem j e').1 hj
    exact h.le_all k' e' (hsnd k' j e' hk')
  · obtain ⟨k', hk'⟩ := (hmem j e').1 hj
    refine h.lt_before k' e' ?_ (hsnd k' j e' hk')
    -- an attempt for an earlier candidate stands earlier in the list of attempts
    obtain ⟨h1, e1⟩ := List.getElem?_eq_some_iff.1 hk
    obtain ⟨h2, e2⟩ := List.getElem?_eq_some_iff.1 hk'
    by_contra hn
    rcases (Nat.le_of_not_lt hn).eq_or_lt with rfl | hlt
    · rw [e1] at e2; cases e2; omega
    · have := List.pairwise_iff_getElem.1 (attemptsFrom_pairwise cs 0) k k' h1 h2 hlt
      rw [e1, e2] at this
      omega

/-- `none` stands for the `CalculationError` of `guess` ("No model could be reliably fit") -/
theorem guessIdx_eq_none_iff (cs : List (Option α)) : guessIdx cs = none ↔ ∀ c ∈ cs, c = none := by
  rw [← attemptsFrom_eq_nil_iff cs 0, guessIdx_eq_bind]
  constructor
  · intro h
    by_contra hne
    -- with an attempt in the list `bestIdx` returns a position `k` that holds an error, so the `k`-th attempt exists and its
    -- candidate is returned: not `none`
    obtain ⟨k, e, hk, hmin⟩ := bestIdx_spec ((attemptsFrom 0 cs).map (·.2)) (by simpa using hne)
    have hpos := hmin.at_pos
    rw [List.getElem?_map] at hpos
    cases hk' : (attemptsFrom 0 cs)[k]? with
    | none => simp [hk'] at hpos
    | some p => simp [hk, hk'] at h
  · intro h
    rw [h]
    rfl

/-- the candidate returned converged, its error is the smallest among the converged candidates, and strictly smaller than that of
every converged candidate standing before it — whatever failed in between -/
theorem guessIdx_eq_some_iff (cs : List (Option α)) (i : Nat) :
    guessIdx cs = some i ↔ ∃ e, IsFirstMin (fun j e => cs[j]? = some (some e)) i e := by
  have hfwd : ∀ i, guessIdx cs = some i → ∃ e, IsFirstMin (fun j e => cs[j]? = some (some e)) i e := fun i h => by
    rw [guessIdx_eq_bind] at h
    obtain ⟨k, hk, hi⟩ := Option.bind_eq_some_iff.mp h
    obtain ⟨⟨i', e⟩, hp, rfl⟩ := Option.map_eq_some_iff.1 hi
    obtain ⟨e', hmin⟩ := (bestIdx_eq_some_iff _ k).1 hk
    have he := hmin.at_pos
    rw [List.getElem?_map, hp] at he
    cases he
    exact ⟨e, guessIdx_some_spec cs k i' e hp hmin⟩
  refine ⟨hfwd i, fun ⟨e, h⟩ => ?_⟩
  cases hg : guessIdx cs with
  | none => simpa using (guessIdx_eq_none_iff cs).mp hg (some e) (List.mem_of_getElem? h.at_pos)
  | some i₀ =>
    obtain ⟨e₀, h₀⟩ := hfwd i₀ hg
    rw [h₀.unique h]

theorem guessIdx_isSome_iff (cs : List (Option α)) : (guessIdx cs).isSome ↔ ∃ e, some e ∈ cs := by
  rw [← not_iff_not, Bool.not_eq_true, Option.isSome_eq_false_iff, Option.isNone_iff_eq_none, guessIdx_eq_none_iff]
  constructor
  · rintro h ⟨e, he⟩
    simpa using h _ he
  · intro h c hc
    cases c with
    | none => rfl
    | some e => exact absurd ⟨e, hc⟩ h

theorem guessIdx_all_converged (es : List α) : guessIdx (es.map some) = bestIdx es := by
  have hR : (fun (j : Nat) (e : α) => (es.map some)[j]? = some (some e)) = fun j e => es[j]? = some e := by
    funext j e; simp
  exact Option.ext fun i => by rw [guessIdx_eq_some_iff, bestIdx_eq_some_iff, hR]

omit [LinearOrder α] in
lemma getElem?_insert_none_lt (l₁ l₂ : List (Option α)) (j : Nat) (h : j < l₁.length) :
    (l₁ ++ none :: l₂)[j]? = (l₁ ++ l₂)[j]? := by
  rw [List.getElem?_append_left h, List.getElem?_append_left h]

omit [LinearOrder α] in
lemma getElem?_insert_none_ge (l₁ l₂ : List (Option α)) (j : Nat) (h : l₁.length ≤ j) :
    (l₁ ++ none :: l₂)[j + 1]? = (l₁ ++ l₂)[j]? := by
  rw [List.getElem?_append_right (by omega), List.getElem?_append_right h]
  have : j + 1 - l₁.length = (j - l₁.length) + 1 := by omega
  rw [this]; simp

omit [LinearOrder α] in
lemma getElem?_insert_none_eq (l₁ l₂ : List (Option α)) : (l₁ ++ none :: l₂)[l₁.length]? = some none := by
  rw [List.getElem?_append_right (le_refl _)]; simp

/-- a failed candidate is transparent at every position: inserting it only renumbers the later candidates -/
theorem guessIdx_insert_failed (l₁ l₂ : List (Option α)) :
    guessIdx (l₁ ++ none :: l₂) = (guessIdx (l₁ ++ l₂)).map (fun i => if i < l₁.length then i else i + 1) := by
  cases hg : guessIdx (l₁ ++ l₂) with
  | none =>
    have hall := (guessIdx_eq_none_iff _).mp hg
    simp only [Option.map_none]
    rw [guessIdx_eq_none_iff]
    intro c hc
    simp only [List.mem_append, List.mem_cons] at hc
    rcases hc with h | h | h
    · exact hall c (List.mem_append_left _ h)
    · exact h
    · exact hall c (List.mem_append_right _ h)
  | some i =>
    obtain ⟨e, he, hmin, hfirst⟩ := (guessIdx_eq_some_iff _ i).mp hg
    simp only [Option.map_some]
    rw [guessIdx_eq_some_iff]
    -- every converged candidate of the longer list is a converged candidate of the shorter one, at the renumbered position
    have key : ∀ (j : Nat) (e' : α), (l₁ ++ none :: l₂)[j]? = some (some e') →
        ∃ j', (l₁ ++ l₂)[j']? = some (some e') ∧ j = (if j' < l₁.length then j' else j' + 1) := by
      intro j e' hj
      rcases lt_trichotomy j l₁.length with h | h | h
      · exact ⟨j, by rw [← getElem?_insert_none_lt l₁ l₂ j h]; exact hj, by simp [h]⟩
      · rw [h, getElem?_insert_none_eq] at hj; simp at hj
      · obtain ⟨j', rfl⟩ : ∃ j', j = j' + 1 := ⟨j - 1, by omega⟩
        have hge : l₁.length ≤ j' := by omega
        refine ⟨j', by rw [← getElem?_insert_none_ge l₁ l₂ j' hge]; exact hj, ?_⟩
        have : ¬ j' < l₁.length := by omega
        simp [this]
    refine ⟨e, ?_, ?_, ?_⟩
    · by_cases h : i < l₁.length
      · simp only [h, if_true]; rw [getElem?_insert_none_lt l₁ l₂ i h]; exact he
      · simp only [h, if_false]; rw [getElem?_insert_none_ge l₁ l₂ i (by omega)]; exact he
    · intro j e' hj
      obtain ⟨j', hj', -⟩ := key j e' hj
      exact hmin j' e' hj'
    · intro j e' hji hj
      obtain ⟨j', hj', rfl⟩ := key j e' hj
      refine hfirst j' e' ?_ hj'
      by_cases h1 : j' < l₁.length <;> by_cases h2 : i < l₁.length <;> simp only [h1, h2, if_true, if_false] at hji <;> omega

/-- the reported error of the model returned (`none` when nothing converged) is `e` iff `e` is the smallest converged error -/
lemma guessIdx_error_eq_some_iff (cs : List (Option α)) (e : α) :
    (guessIdx cs).bind (fun i => cs[i]?.join) = some e ↔ some e ∈ cs ∧ ∀ e', some e' ∈ cs → e ≤ e' := by
  constructor
  · intro h
    obtain ⟨i, hi, hie⟩ := Option.bind_eq_some_iff.mp h
    obtain ⟨e0, he0, hmin0, -⟩ := (guessIdx_eq_some_iff cs i).mp hi
    rw [he0] at hie
    simp only [Option.join_some, Option.some.injEq] at hie
    subst hie
    refine ⟨List.mem_of_getElem? he0, ?_⟩
    intro e' he'
    obtain ⟨j, hj⟩ := List.mem_iff_getElem?.mp he'
    exact hmin0 j e' hj
  · rintro ⟨hmem, hmin⟩
    cases hg : guessIdx cs with
    | none =>
      have := (guessIdx_eq_none_iff cs).mp hg _ hmem
      simp at this
    | some i0 =>
      obtain ⟨e0, he0, hmin0, -⟩ := (guessIdx_eq_some_iff cs i0).mp hg
      obtain ⟨j, hj⟩ := List.mem_iff_getElem?.mp hmem
      have h1 : e0 ≤ e := hmin0 j e hj
      have h2 : e ≤ e0 := hmin e0 (List.mem_of_getElem? he0)
      simp [he0, le_antisymm h1 h2]

theorem guessIdx_error_perm (cs cs' : List (Option α)) (h : cs.Perm cs') :
    (guessIdx cs).bind (fun i => cs[i]?.join) = (guessIdx cs').bind (fun i => cs'[i]?.join) :=
  Option.ext fun e => by simp only [guessIdx_error_eq_some_iff, h.mem_iff]

end guess

/-! ## H. an error derived from the optimiser's cost -/

section cost
variable {α : Type} [Field α] [LinearOrder α] [IsStrictOrderedRing α]

omit [LinearOrder α] [IsStrictOrderedRing α] in
lemma cost_term_linear (fs r : α) (hfs : fs ≠ 0) : fs * fs * ((r / fs) * (r / fs)) = r * r := by
  field_simp

omit [LinearOrder α] [IsStrictOrderedRing α] in
/-- linear loss (`ρ = id`, the default): twice the cost per point is the mean squared residual -/
theorem costErrSq_linear (fs : α) (hfs : fs ≠ 0) (rs : List α) (range : α) :
    costErrSq (fun z => z) fs rs range = rmseSq rs range := by
  unfold costErrSq rmseSq mse sumSq
  have : (rs.map fun r => fs * fs * ((r / fs) * (r / fs))) = rs.map (fun r => r * r) :=
    List.map_congr_left (fun r _ => cost_term_linear fs r hfs)
  rw [this]

lemma cost_term_le (rho : α → α) (hrho : ∀ z, 0 ≤ z → rho z ≤ z) (fs : α) (hfs : fs ≠ 0) (r : α) :
    fs * fs * rho ((r / fs) * (r / fs)) ≤ r * r := by
  rw [← cost_term_linear fs r hfs]
  exact mul_le_mul_of_nonneg_left (hrho _ (mul_self_nonneg _)) (mul_self_nonneg fs)

lemma cost_term_lt (rho : α → α) (hrho : ∀ z, 0 < z → rho z < z) (fs : α) (hfs : fs ≠ 0) (r : α) (hr : r ≠ 0) :
    fs * fs * rho ((r / fs) * (r / fs)) < r * r := by
  rw [← cost_term_linear fs r hfs]
  have hz : 0 < (r / fs) * (r / fs) := mul_self_pos.mpr (div_ne_zero hr hfs)
  exact mul_lt_mul_of_pos_left (hrho _ hz) (mul_self_pos.mpr hfs)

/-- a loss with `ρ z ≤ z` on `z ≥ 0` (every loss of `least_squares`) never overstates the deviation … -/
theorem costErrSq_le_rmseSq (rho : α → α) (hrho : ∀ z, 0 ≤ z → rho z ≤ z) (fs : α) (hfs : fs ≠ 0) (rs : List α) (range : α) :
    costErrSq rho fs rs range ≤ rmseSq rs range := by
  unfold costErrSq rmseSq mse sumSq
  have hsum : (rs.map fun r => fs * fs * rho ((r / fs) * (r / fs))).sum ≤ (rs.map fun r => r * r).sum :=
    List.sum_le_sum (fun r _ => cost_term_le rho hrho fs hfs r)
  exact div_le_div_of_nonneg_right (div_le_div_of_nonneg_right hsum (Nat.cast_nonneg _)) (mul_self_nonneg range)

/-- … and a robust loss (`ρ z < z` for `z > 0`: soft_l1, cauchy, arctan; huber beyond the threshold) strictly understates
the deviation as soon as one residual is non-zero: the reported error must be computed from the residuals -/
theorem costErrSq_lt_rmseSq (rho : α → α) (h0 : ∀ z, 0 ≤ z → rho z ≤ z) (hrho : ∀ z, 0 < z → rho z < z)
    (fs : α) (hfs : fs ≠ 0) (rs : List α) (hr : ∃ r ∈ rs, r ≠ 0) (range : α) (hrange : range ≠ 0) :
    costErrSq rho fs rs range < rmseSq rs range := by
  unfold costErrSq rmseSq mse sumSq
  obtain ⟨r0, hr0, hne0⟩ := hr
  have hne : rs ≠ [] := List.ne_nil_of_mem hr0
  have hsum : (rs.map fun r => fs * fs * rho ((r / fs) * (r / fs))).sum < (rs.map fun r => r * r).sum :=
    List.sum_lt_sum _ _ (fun r _ => cost_term_le rho h0 fs hfs r) ⟨r0, hr0, cost_term_lt rho hrho fs hfs r0 hne0⟩
  exact div_lt_div_of_pos_right (div_lt_div_of_pos_right hsum (length_pos_cast hne)) (mul_self_pos.mpr hrange)

end cost

/-! ## non-vacuity -/

section examplesGuess

example : guessIdx ([some 3, none, some (1 / 2), none, some (1 / 2)] : List (Option ℚ)) = some 2 := by decide +kernel
/-- a candidate that fails before the best one must not shift the selection -/
example : guessIdx ([none, some 1, some 5] : List (Option ℚ)) = some 1 := by decide +kernel
example : guessIdx ([none, some 5, some 1] : List (Option ℚ)) = some 2 := by decide +kernel
example : guessIdx ([none, none] : List (Option ℚ)) = none := by decide +kernel
example : guessIdx ([] : List (Option ℚ)) = none := rfl
/-- a rational robust loss `ρ z = z / (1 + z)`: residuals (1, -1), range 2, f_scale 1: cost-based 1/8, true 1/4 -/
example : costErrSq (fun z : ℚ => z / (1 + z)) 1 [1, -1] 2 = 1 / 8 := by norm_num [costErrSq]
example : rmseSq ([1, -1] : List ℚ) 2 = 1 / 4 := by norm_num [rmseSq, mse, sumSq]

/-- the hypotheses of `costErrSq_lt_rmseSq` are satisfiable: `ρ z = z / (1 + z)` is a robust loss over ℚ -/
example : costErrSq (fun z : ℚ => z / (1 + z)) 1 [1, -1] 2 < rmseSq ([1, -1] : List ℚ) 2 :=
  costErrSq_lt_rmseSq (fun z : ℚ => z / (1 + z))
    (fun z hz => div_le_self hz (by linarith))
    (fun z hz => div_lt_self hz (by linarith))
    1 one_ne_zero [1, -1] ⟨1, by simp, one_ne_zero⟩ 2 (by norm_num)

example : guessIdx ([some 5] ++ none :: [some (1 : ℚ)]) = some 2 := by
  rw [guessIdx_insert_failed]; decide +kernel

end examplesGuess

end PgVerif.Props.C12
