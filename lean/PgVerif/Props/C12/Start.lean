/-
C12 (continued) — the start vector of a fit when the caller's `param_guess` names only some of the parameters
(finding S46-C12, repaired: before the repair the library read `param_guess[p]` for every parameter name and left with `KeyError`).

* I. `startGuess` (Model/Fit.lean): the caller's value where given, the model's default guess elsewhere; every parameter has a start
     value; a complete guess is used as it stands, no guess gives the default; the start vector is feasible when its two sources are;
     the repair is conservative (`lookupAll` = the strict reading: wherever it succeeded the start vector is unchanged).
  Tie: the harness records the `x0` that reaches `scipy.optimize.least_squares` with and without the caller's guess and sends both to
  Drv/Fit `start`.
-/
import PgVerif.Props.C12

namespace PgVerif.Props.C12
open PgVerif.Model.Fit

/-! ## I. start vector of a fit with a partial guess -/

section start
variable {α : Type}

lemma startGuess_cons (d : α) (ds : List α) (u : Option α) (us : List (Option α)) :
    startGuess (d :: ds) (u :: us) = u.getD d :: startGuess ds us := rfl

/-- every parameter has a start value (before the repair of S46-C12 the library read `param_guess[p]` for every parameter name: `KeyError`) -/
theorem startGuess_length (dflt : List α) (user : List (Option α)) (h : user.length = dflt.length) :
    (startGuess dflt user).length = dflt.length := by
  simp [startGuess, h]

theorem startGuess_getElem? (dflt : List α) (user : List (Option α)) (i : Nat) (d : α) (u : Option α)
    (hd : dflt[i]? = some d) (hu : user[i]? = some u) :
    (startGuess dflt user)[i]? = some (u.getD d) := by
  simp [startGuess, List.getElem?_zipWith, hd, hu]

theorem startGuess_full (dflt us : List α) (h : us.length = dflt.length) :
    startGuess dflt (us.map some) = us := by
  induction us generalizing dflt with
  | nil => exact List.zipWith_nil_right
  | cons u us ih =>
    cases dflt with
    | nil => simp at h
    | cons d ds =>
      -- position by position: the caller's value `some u` wins over the default `d`
      rw [List.map_cons, startGuess_cons, ih ds (by simpa using h)]
      rfl

theorem startGuess_none (dflt : List α) : startGuess dflt (dflt.map fun _ => none) = dflt := by
  induction dflt with
  | nil => simp [startGuess]
  | cons d ds ih => simp_all [startGuess]

/-- finding S46-C12 (repaired): reading every parameter from the caller's dictionary fails exactly when one key is absent -/
theorem lookupAll_eq_none_iff (user : List (Option α)) : lookupAll user = none ↔ none ∈ user := by
  induction user with
  | nil => simp [lookupAll]
  | cons u us ih =>
    cases u with
    | none => simp [lookupAll]
    | some a => simp [lookupAll, ih]

/-- the repair is conservative: whenever the strict reading succeeds, the start vector is what it read -/
theorem startGuess_of_lookupAll (dflt : List α) (user : List (Option α)) (us : List α)
    (h : lookupAll user = some us) (hl : user.length = dflt.length) : startGuess dflt user = us := by
  induction user generalizing dflt us with
  | nil =>
    cases dflt with
    | nil => simp_all [lookupAll, startGuess]
    | cons d ds => simp at hl
  | cons u user ih =>
    cases dflt with
    | nil => simp at hl
    | cons d ds =>
      cases u with
      | none => simp [lookupAll] at h
      | some a =>
        simp only [lookupAll, Option.map_eq_some_iff] at h
        obtain ⟨t, ht, rfl⟩ := h
        rw [startGuess_cons, ih ds t ht (by simpa using hl)]
        rfl

variable [Field α] [LinearOrder α]

omit [Field α] in
/-- what `least_squares` demands of `x0`; the default guess is clamped to the bounds in force (`clampGuess_inBounds`) -/
theorem startGuess_inBounds (bounds : List (Option α × Option α)) (dflt : List α) (user : List (Option α))
    (hd : ∀ (i : Nat) (b : Option α × Option α) (d : α), bounds[i]? = some b → dflt[i]? = some d → inBounds b.1 b.2 d)
    (hu : ∀ (i : Nat) (b : Option α × Option α) (u : α), bounds[i]? = some b → user[i]? = some (some u) → inBounds b.1 b.2 u) :
    ∀ (i : Nat) (b : Option α × Option α) (v : α), bounds[i]? = some b → (startGuess dflt user)[i]? = some v → inBounds b.1 b.2 v := by
  intro i b v hb hv
  simp only [startGuess, List.getElem?_zipWith] at hv
  cases hdi : dflt[i]? with
  | none => simp [hdi] at hv
  | some d =>
    cases hui : user[i]? with
    | none => simp [hdi, hui] at hv
    | some u =>
      simp only [hdi, hui, Option.some.injEq] at hv
      cases u with
      | none => simp at hv; subst hv; exact hd i b d hb hdi
      | some u' => simp at hv; subst hv; exact hu i b u' hb hui

end start

example : startGuess ([11/10, 2] : List ℚ) [none, some 3] = [11/10, 3] := by decide +kernel
example : startGuess ([11/10, 2] : List ℚ) [none, none] = [11/10, 2] := by decide +kernel
-- the witness of the finding: `ModelIsotherm(..., model='Langmuir', param_guess={'K': 3})` - the strict reading has no value for n_m
example : lookupAll ([some 3, none] : List (Option ℚ)) = none := rfl
example : lookupAll ([some 3, some 2] : List (Option ℚ)) = some [3, 2] := rfl

end PgVerif.Props.C12
