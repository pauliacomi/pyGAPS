/-
C20 — shipped adsorbates resolve uniquely; fallback logic never returns a silent wrong number.

`Gen.Registry` is regenerated on every run from data/adsorbates.json and data/default.db; the finite facts
are decided completely inside the kernel (`decide +kernel`), the lookup law is proved for every registry.
-/
import PgVerif.Model.Registry
import PgVerif.Lemmas.SortCheck
import Mathlib.Data.List.Nodup
import Mathlib.Data.List.Basic
import Mathlib.Tactic

namespace PgVerif.C20
open PgVerif.Model.Registry PgVerif.Gen.Registry

/-! ## every name or alias designates exactly one adsorbate -/

/-- no alias key occurs twice in the packaged database (neither within one adsorbate nor across two) -/
theorem db_alias_unique : (allKeys dbKeys).Nodup :=
  PgVerif.SortCheck.nodup_of_check 12 _ (by decide +kernel)

/-- the JSON source list and the packaged database hold the same adsorbates with the same aliases, in the same order -/
theorem json_and_db_agree : jsonKeys = dbKeys := by decide +kernel

/-- no alias key occurs twice in the JSON source list either: it is the same list -/
theorem json_alias_unique : (allKeys jsonKeys).Nodup :=
  json_and_db_agree ▸ db_alias_unique

/-- every adsorbate is findable by its own name: its alias list is non-empty -/
theorem every_entry_has_alias : dbKeys.all (fun e => !e.2.isEmpty) = true := by decide +kernel

/-! ## lookup law, for every registry

Proved once at the level of strings (`findS`: any string type, any normalisation); the numeric-key `find` of the generated registry
is the instance `σ = ℕ`, `norm = id`. -/

section Strings
variable {σ : Type} [DecidableEq σ] {β : Type} (norm : σ → σ)

lemma findS_resolves_of_nodup (reg : List (β × List σ)) (hu : (allAliases reg).Nodup)
    (e : β × List σ) (he : e ∈ reg) (q : σ) (hq : norm q ∈ e.2) :
    findS norm reg q = some e.1 ∧ designated norm reg q = [e.1] := by
  unfold findS designated
  induction reg with
  | nil => simp at he
  | cons a rest ih =>
    simp only [allAliases, List.flatMap_cons] at hu
    rw [List.nodup_append] at hu
    obtain ⟨_, hrest, hdisj⟩ := hu
    by_cases ha : eqStr norm a.2 q = true
    · have hk1 : norm q ∈ a.2 := by simpa [eqStr] using ha
      have hnot : ∀ e' ∈ rest, eqStr norm e'.2 q = false := by
        intro e' he'
        by_contra hc
        have hk2 : norm q ∈ List.flatMap (·.2) rest :=
          List.mem_flatMap.mpr ⟨e', he', by simpa [eqStr] using hc⟩
        exact hdisj _ hk1 _ hk2 rfl
      rcases List.mem_cons.mp he with rfl | he'
      · refine ⟨by simp [ha], ?_⟩
        rw [List.filter_cons, if_pos ha]
        have : rest.filter (fun e => eqStr norm e.2 q) = [] := by
          rw [List.filter_eq_nil_iff]; intro e' he'; simp [hnot e' he']
        simp [this]
      · exfalso
        have := hnot e he'
        simp [eqStr, hq] at this
    · rcases List.mem_cons.mp he with rfl | he'
      · exact absurd (by simpa [eqStr] using hq) ha
      · have := ih hrest he'
        refine ⟨?_, ?_⟩
        · rw [List.find?_cons]; simp only [ha]; exact this.1
        · rw [List.filter_cons, if_neg ha]; exact this.2

lemma findS_none_of_not_mem (reg : List (β × List σ)) (q : σ) (h : norm q ∉ allAliases reg) :
    findS norm reg q = none ∧ designated norm reg q = [] := by
  have hno : ∀ e ∈ reg, eqStr norm e.2 q = false := by
    intro e he
    by_contra hc
    exact h (List.mem_flatMap.mpr ⟨e, he, by simpa [eqStr] using hc⟩)
  refine ⟨?_, ?_⟩
  · unfold findS
    rw [Option.map_eq_none_iff, List.find?_eq_none]
    intro e he; simp [hno e he]
  · unfold designated
    rw [List.map_eq_nil_iff, List.filter_eq_nil_iff]
    intro e he; simp [hno e he]

end Strings

theorem find_of_unique {β : Type} (reg : List (β × List Nat)) (hu : (allKeys reg).Nodup)
    (e : β × List Nat) (he : e ∈ reg) (k : Nat) (hk : k ∈ e.2) : find reg k = some e.1 :=
  (findS_resolves_of_nodup id reg hu e he k hk).1

/-- a key that is no alias of any entry is not found (`Adsorbate.find` raises ParameterError) -/
theorem find_none_of_absent {β : Type} (reg : List (β × List Nat)) (k : Nat) (hk : k ∉ allKeys reg) :
    find reg k = none :=
  (findS_none_of_not_mem id reg k hk).1

/-- every shipped alias resolves to its owner (database order = `ADSORBATE_LIST`) -/
theorem find_resolves_every_alias (e : String × List Nat) (he : e ∈ dbKeys) (k : Nat) (hk : k ∈ e.2) :
    find dbKeys k = some e.1 :=
  find_of_unique dbKeys db_alias_unique e he k hk

/-- and every adsorbate is found by (the key of) its own lower-cased name, which the constructor always adds -/
theorem find_own_name :
    (List.zip dbKeys dbNameKeys).all (fun ek => find dbKeys ek.2 == some ek.1.1) = true ∧
    dbNameKeys.length = dbKeys.length := by
  -- 176 membership tests; that the lookup then returns the owner is `find_resolves_every_alias` (uniqueness)
  have hmem : (List.zip dbKeys dbNameKeys).all (fun ek => ek.1.2.contains ek.2) = true := by decide +kernel
  refine ⟨List.all_eq_true.mpr fun ⟨e, k⟩ hek => ?_, by decide +kernel⟩
  have hk : k ∈ e.2 := by simpa using List.all_eq_true.mp hmem (e, k) hek
  simp [find_resolves_every_alias e (List.of_mem_zip hek).1 k hk]

/-- the lookup depends on the lower-cased string only: any letter case gives the same answer -/
theorem find_case_insensitive (s₁ s₂ : String) (h : s₁.toLower = s₂.toLower) :
    find dbKeys (encode s₁.toLower) = find dbKeys (encode s₂.toLower) := by rw [h]

/-! ## fallback logic of the thermodynamic accessors -/

variable {α : Type}

/-- never a silent wrong number: the result is the backend value, else the user value, else a calculation error -/
theorem fallback_never_silent (calculate : Bool) (backend user : Option α) :
    (∃ v, backend = some v ∧ calculate = true ∧ propValue calculate backend user = .ok v) ∨
    (∃ u, user = some u ∧ (calculate = false ∨ backend = none) ∧ propValue calculate backend user = .ok u) ∨
    (user = none ∧ (calculate = false ∨ backend = none) ∧ propValue calculate backend user = .error .calc) := by
  cases calculate <;> cases backend <;> cases user <;> simp [propValue]

theorem backend_wins (v : α) (user : Option α) : propValue true (some v) user = .ok v := rfl

theorem user_value_when_backend_fails (u : α) : propValue true none (some u) = .ok u := rfl

theorem error_when_nothing (c : Bool) : propValue c (none : Option α) none = .error .calc := by
  cases c <;> rfl

/-! ## non-vacuity -/

example : find dbKeys 93746 = some "nitrogen" := by decide +kernel   -- 93746 = key of "n2"
example : find dbKeys 1 = none := by decide +kernel
example : encode "n2" = 93746 := by decide +kernel

end PgVerif.C20
