/-
C03, continued — whole accessors, model-isotherm columns, `find_limit_indices`, and the temperature seen by the accessors.

  F  `column` (branch → conversion → limits): a slice in requested units = the same slice of the permanently converted
     copy read natively; `other_data`, `has_branch`, the ordered read of the characterisation routines; model isotherms
     (`linspace`, strict limits, branch guard, one factor); `find_limit_indices` on an increasing array.
  G  `kelvin`: the accessors take adsorbate constants at the temperature in kelvin, hence do not depend on the stored
     temperature unit and are invariant under `convert_temperature`.
  H  `loading_at` / `pressure_at` as a whole (input conversion → interpolation / model → output conversion): interpolation
     commutes with a change of representation, hence the value in requested units is the native interpolation of the
     permanently converted copy; model isotherms: bare model between the two factors.
-/
import PgVerif.Props.C03
import PgVerif.Lemmas.InterpLin
set_option linter.unusedSectionVars false
set_option linter.unusedSimpArgs false
set_option linter.unusedVariables false

namespace PgVerif.C03
open PgVerif.Model PgVerif.Gen

/-! ## F. Whole-branch columns -/

section Whole
variable {α : Type} [Field α] [LinearOrder α]

lemma dataBranch_map {β γ : Type} (g : β → γ) (rows : List (β × Nat)) (branch : Option String) :
    dataBranch (rows.map fun r => (g r.1, r.2)) branch = (dataBranch rows branch).map (List.map g) := by
  unfold dataBranch
  -- the string tests are the same on both sides: `map` is pushed through them, none is decided
  cases branch <;>
    simp only [apply_ite (Except.map (List.map g)), map_ok, map_error, List.filter_map, List.map_map] <;> rfl

lemma column_ok {acc : α → Except Err α} {g : α → α} (h : ∀ v, acc v = .ok (g v)) (rows : List (α × Nat))
    (branch : Option String) (limits : Option (Option α × Option α)) :
    column acc rows branch limits = (dataBranch rows branch).map fun vs => applyLimits (vs.map g) limits := by
  unfold column
  cases dataBranch rows branch with
  | error e => rfl
  | ok vs =>
    show (vs.mapM acc >>= _) = _
    rw [C01.map_pointwise _ _ h]
    rfl

/-- a column whose conversion is "multiply by `f`" is the native column of the data multiplied by `f`:
same branch rows, same order, and the limits act on the converted numbers -/
lemma column_of_factor (acc : α → Except Err α) (f : α) (h : ∀ v, acc v = .ok (v * f)) (base : List α) (marks : List Nat)
    (branch : Option String) (limits : Option (Option α × Option α)) :
    column acc (base.zip marks) branch limits
      = column (fun v => .ok v) ((base.map (· * f)).zip marks) branch limits := by
  have hz : (base.map (· * f)).zip marks = (base.zip marks).map fun r => (r.1 * f, r.2) := by
    rw [List.zip_map_left]; rfl
  rw [column_ok h, column_ok (g := fun v => v) fun _ => rfl, hz, dataBranch_map (· * f)]
  cases dataBranch (base.zip marks) branch with
  | error e => rfl
  | ok vs => simp only [Except.map, List.map_id']

lemma accessPressure_native (c : Ctx α) (lab : Labels) (v : α) : accessPressure c lab v none none = .ok v := by
  simp [accessPressure, truthy]

lemma accessLoadingTarget_native (c : Ctx α) (lab : Labels) (v : α) :
    accessLoadingTarget c lab v none none none none = .ok v := by
  simp [accessLoadingTarget, truthy]; rfl

/-- **whole-branch pressure accessor, with limits = native read of the permanently converted copy** (same branch,
same limits): `iso.pressure(branch, pressure_mode, pressure_unit, limits)` returns what `copy.convert_pressure(...)`
followed by `copy.pressure(branch, limits=limits)` returns — in particular the limits are bounds on the REQUESTED
representation, and the rows come in stored order. -/
theorem pressureColumn_eq_convert [CharZero α] (c : Ctx α) (s : Iso α) (marks : List Nat) (branch pm pu : Option String)
    (limits : Option (Option α × Option α))
    (harg : truthy pm = true ∨ truthy pu = true) (hlab : PLabelsOk s.lab) :
    ∀ s', convertPressure c s pm pu = (s', .ok) →
      pressureColumn c s.lab (s.ps.zip marks) branch pm pu limits
        = pressureColumn c s'.lab (s'.ps.zip marks) branch none none limits := by
  intro s' hs'
  obtain ⟨f, hps, hacc⟩ := (accessPressure_eq_convert c s pm pu harg hlab).1 s' hs'
  unfold pressureColumn
  rw [column_of_factor _ f hacc, hps]
  rfl

/-- the same for the loading accessor (stored loading basis physical; material step then loading step) -/
theorem loadingColumn_eq_convert [CharZero α] (c : Ctx α) (s : Iso α) (marks : List Nat) (branch lb lu mb mu : Option String)
    (limits : Option (Option α × Option α)) (hF : isFrac s.lab.lbasis = false)
    (hL : (loadingMode.lookup s.lab.lbasis).isSome = true) (hM : (materialMode.lookup s.lab.mbasis).isSome = true) :
    ∀ s', convertAll c s none none lb lu mb mu = (s', .ok) →
      loadingColumn c s.lab (s.ls.zip marks) branch lb lu mb mu limits
        = loadingColumn c s'.lab (s'.ls.zip marks) branch none none none none limits := by
  intro s' hs'
  obtain ⟨f, hls, hacc⟩ := (accessLoadingTarget_eq_convert c s lb lu mb mu hF hL hM).1 s' hs'
  unfold loadingColumn
  rw [column_of_factor _ f hacc, hls]
  rfl

/-- a native column (pressure, loading or a supplementary column read without unit arguments) returns stored values of
that branch only, in measurement order -/
theorem column_native_sublist (rows : List (α × Nat)) (branch : Option String) (limits : Option (Option α × Option α))
    (out : List α) (h : column (fun v => .ok v) rows branch limits = .ok out) :
    ∃ vs, dataBranch rows branch = .ok vs ∧ out = applyLimits vs limits ∧ out.Sublist (rows.map (·.1)) := by
  rw [column_ok (g := fun v => v) fun _ => rfl] at h
  cases hd : dataBranch rows branch with
  | error e => rw [hd] at h; cases h
  | ok vs =>
    rw [hd] at h
    cases h
    simp only [List.map_id']
    exact ⟨vs, rfl, rfl, (applyLimits_sublist vs limits).trans (dataBranch_sublist rows branch vs hd)⟩

/-- `other_data`: an unknown key is refused; a known key is the native column -/
theorem otherColumn_unknown (rows : List (α × Nat)) (branch : Option String) (limits : Option (Option α × Option α)) :
    otherColumn false rows branch limits = .error .param := rfl

theorem otherColumn_known (rows : List (α × Nat)) (branch : Option String) (limits : Option (Option α × Option α)) :
    otherColumn true rows branch limits = column (fun v => .ok v) rows branch limits := rfl

lemma filter_mark_nonempty (marks : List Nat) (k : Nat) :
    (!(((marks.map fun m => ((), m)).filter (·.2 = k)).map (·.1)).isEmpty) = decide (k ∈ marks) := by
  induction marks with
  | nil => rfl
  | cons m t ih => by_cases hm : m = k <;> simp_all [List.filter_cons]; (intro h; exact absurd h.symm hm)

theorem hasBranch_ads (marks : List Nat) : hasBranch marks (some "ads") = .ok (decide (0 ∈ marks)) := by
  unfold hasBranch
  rw [dataBranch_ads]
  exact congrArg Except.ok (filter_mark_nonempty marks 0)

theorem hasBranch_des (marks : List Nat) : hasBranch marks (some "des") = .ok (decide (1 ∈ marks)) := by
  unfold hasBranch
  rw [dataBranch_des]
  exact congrArg Except.ok (filter_mark_nonempty marks 1)

/-- the reading layer of the characterisation routines returns the two whole-branch accessors, reversed together on the
desorption branch (so that row `i` of one still belongs to row `i` of the other) -/
theorem orderedRead_spec (c : Ctx α) (lab : Labels) (prow lrow : List (α × Nat)) (branch : String)
    (pm pu lb lu mb mu : Option String) (p l : List α)
    (hp : pressureColumn c lab prow (some branch) pm pu none = .ok p)
    (hl : loadingColumn c lab lrow (some branch) lb lu mb mu none = .ok l) :
    orderedRead c lab prow lrow branch pm pu lb lu mb mu =
      .ok (if branch = "des" then (p.reverse, l.reverse) else (p, l)) := by
  unfold orderedRead
  rw [hp, hl]
  by_cases hb : branch = "des" <;> simp [orderedForBranch, hb, bind, Except.bind, pure, Except.pure]

/-! ### model isotherms -/

theorem applyLimitsStrict_sublist (vs : List α) (l : Option (Option α × Option α)) :
    (applyLimitsStrict vs l).Sublist vs := by
  rw [applyLimitsStrict_eq_sliceBy]
  exact sliceBy_sublist _ vs l

/-- model isotherms slice with strict bounds (`ret[(lo < ret) & (ret < hi)]`), data accessors with inclusive ones -/
theorem applyLimitsStrict_spec (vs : List α) (lo hi : Option α) (x : α) :
    x ∈ applyLimitsStrict vs (some (lo, hi)) ↔
      x ∈ vs ∧ (limitsActive lo hi → (∀ a, lo = some a → a < x) ∧ (∀ b, hi = some b → x < b)) := by
  rw [applyLimitsStrict_eq_sliceBy]
  exact mem_sliceBy _ vs lo hi x

theorem linspace_length (a b : α) (n : Nat) : (linspace a b n).length = n := by
  rw [linspace, List.length_map, List.length_range]

theorem linspace_getElem (a b : α) (n i : Nat) (h : i < (linspace a b n).length) :
    (linspace a b n)[i] = a + (b - a) * (i : α) / ((n : α) - 1) := by
  simp only [linspace, List.getElem_map, List.getElem_range]

theorem linspace_first (a b : α) (n : Nat) (hn : 0 < n) : (linspace a b n)[0]'(by simp [linspace]; exact hn) = a := by
  rw [linspace_getElem, Nat.cast_zero, mul_zero, zero_div, add_zero]

theorem linspace_last [CharZero α] (a b : α) (n : Nat) (hn : 2 ≤ n) :
    (linspace a b n)[n - 1]'(by simp [linspace]; omega) = b := by
  have h1 : ((n - 1 : Nat) : α) = (n : α) - 1 := by
    rw [Nat.cast_sub (by omega), Nat.cast_one]
  have h2 : (n : α) - 1 ≠ 0 := by
    rw [← h1]; exact_mod_cast (by omega : n - 1 ≠ 0)
  rw [linspace_getElem, h1, mul_div_assoc, div_self h2, mul_one, add_sub_cancel]

theorem linspace_mul (a b f : α) (n : Nat) : (linspace a b n).map (· * f) = linspace (a * f) (b * f) n := by
  simp only [linspace, List.map_map]
  apply List.map_congr_left
  intro i _
  simp only [Function.comp]
  ring

/-- `ModelIsotherm.pressure_at` converts its result exactly like `PointIsotherm.pressure` converts a stored value
(only the error is not re-wrapped), so `accessPressure_SI` and `inputPressure_inverse` apply to model isotherms as well -/
theorem outputPressureModel_ok_iff (c : Ctx α) (lab : Labels) (v r : α) (pm pu : Option String) :
    outputPressureModel c lab v pm pu = .ok r ↔ accessPressure c lab v pm pu = .ok r := by
  unfold outputPressureModel accessPressure
  split_ifs
  · cases cPressure c.psat c.tempOk v (some lab.pmode) (orDefault pm (some lab.pmode)) lab.punit (orDefault pu lab.punit) <;>
      simp
  · rfl

/-- a branch other than the one the model was fitted on is refused (`'all'` passes for `pressure()` only) -/
theorem modelPressureColumn_wrong_branch (c : Ctx α) (lab : Labels) (own : String) (lo hi : α) (n : Nat)
    (branch pm pu : Option String) (limits : Option (Option α × Option α)) (h : modelBranchOk own true branch = false) :
    modelPressureColumn c lab own lo hi n branch pm pu limits = .error .param := by
  simp [modelPressureColumn, h]

theorem modelLoadingColumn_wrong_branch (c : Ctx α) (lab : Labels) (own : String) (m : α → α) (lo hi : α) (n : Nat)
    (branch lb lu mb mu : Option String) (limits : Option (Option α × Option α)) (h : modelBranchOk own false branch = false) :
    modelLoadingColumn c lab own m lo hi n branch lb lu mb mu limits = .error .param := by
  simp [modelLoadingColumn, h]

/-- **whole-branch pressure of a model isotherm in requested units**: the equidistant points of the pressure range
EXPRESSED IN THE REQUESTED REPRESENTATION (what a model isotherm stored in that representation would return natively),
strictly inside the limits, which therefore are bounds in the requested representation -/
theorem modelPressureColumn_eq_factor [CharZero α] (c : Ctx α) (lab : Labels) (own : String) (lo hi : α) (n : Nat)
    (branch pm pu : Option String) (limits : Option (Option α × Option α)) (f : α)
    (hb : modelBranchOk own true branch = true) (harg : truthy pm = true ∨ truthy pu = true)
    (hf : pFactor c lab pm pu = .ok f) :
    modelPressureColumn c lab own lo hi n branch pm pu limits
      = .ok (applyLimitsStrict (linspace (lo * f) (hi * f) n) limits) := by
  have hacc : ∀ v, outputPressureModel c lab v pm pu = .ok (v * f) := fun v =>
    (outputPressureModel_ok_iff c lab v (v * f) pm pu).2 (by rw [accessPressure_eq_factor c lab v pm pu harg, hf])
  unfold modelPressureColumn
  rw [hb, C01.map_pointwise _ _ hacc, linspace_mul]
  rfl

theorem modelPressureColumn_native (c : Ctx α) (lab : Labels) (own : String) (lo hi : α) (n : Nat)
    (branch : Option String) (limits : Option (Option α × Option α)) (hb : modelBranchOk own true branch = true) :
    modelPressureColumn c lab own lo hi n branch none none limits = .ok (applyLimitsStrict (linspace lo hi n) limits) := by
  unfold modelPressureColumn
  rw [hb, C01.map_pointwise _ id fun v => by simp [outputPressureModel, truthy], List.map_id]
  rfl

/-- **whole-branch loading of a model isotherm in requested units**: the bare model on the native equidistant
pressures, every value multiplied by the one factor `tFactor` of the request (material step, then loading step) -/
theorem modelLoadingColumn_eq_factor [CharZero α] (c : Ctx α) (lab : Labels) (own : String) (m : α → α) (lo hi : α) (n : Nat)
    (branch lb lu mb mu : Option String) (limits : Option (Option α × Option α)) (f : α)
    (hb : modelBranchOk own false branch = true) (hf : tFactor c lab lb lu mb mu = .ok f) :
    modelLoadingColumn c lab own m lo hi n branch lb lu mb mu limits
      = .ok (applyLimitsStrict (((linspace lo hi n).map m).map (· * f)) limits) := by
  unfold modelLoadingColumn
  rw [hb, C01.map_pointwise _ (fun v => m v * f) fun v => by rw [accessLoadingTarget_eq_factor, hf]; rfl, List.map_map]
  rfl

/-! ### `find_limit_indices` on an increasing array -/

lemma searchLeft_cons (x : α) (t : List α) (a : α) :
    searchLeft (x :: t) a = (if x < a then 1 else 0) + searchLeft t a := by
  unfold searchLeft
  by_cases h : x < a <;> simp [List.filter_cons, h, Nat.add_comm]

theorem searchLeft_spec (xs : List α) (hs : xs.Pairwise (· ≤ ·)) (a : α) (k : Nat) (hk : k < xs.length) :
    xs[k] < a ↔ k < searchLeft xs a := by
  induction xs generalizing k with
  | nil => simp at hk
  | cons x t ih =>
    rw [List.pairwise_cons] at hs
    rw [searchLeft_cons]
    by_cases hx : x < a
    · cases k with
      | zero => simp [hx]
      | succ k' =>
        have := ih hs.2 k' (by simpa using hk)
        simp only [List.getElem_cons_succ, hx, if_true]
        rw [this]; omega
    · have hall : ∀ y ∈ t, ¬ y < a := fun y hy hya => hx (lt_of_le_of_lt (hs.1 y hy) hya)
      have h0 : searchLeft t a = 0 := by
        unfold searchLeft
        rw [List.length_eq_zero_iff, List.filter_eq_nil_iff]
        intro y hy; simpa using hall y hy
      simp only [hx, if_false, h0, Nat.add_zero, Nat.not_lt_zero, iff_false]
      cases k with
      | zero => simpa using hx
      | succ k' =>
        simp only [List.getElem_cons_succ]
        exact hall _ (List.getElem_mem _)

/-- **`find_limit_indices` selects exactly the points inside the limits**: on an increasing array the returned
positions `(i, j)` delimit the elements `x` with `lo ≤ x` (when a non-zero lower limit is given) and `x < hi` (when a
non-zero upper limit is given) — the upper bound is exclusive, unlike `Series.between` of the accessors. -/
theorem findLimitIndices_spec (xs : List α) (hs : xs.Pairwise (· ≤ ·)) (lo hi : Option α) (sm : Int) (i j : Int)
    (h : findLimitIndices xs (some (lo, hi)) sm = .ok (i, j)) (k : Nat) (hk : k < xs.length) :
    (i ≤ (k : Int) ∧ (k : Int) ≤ j) ↔
      ((∀ a, lo = some a → a ≠ 0 → a ≤ xs[k]) ∧ (∀ b, hi = some b → b ≠ 0 → xs[k] < b)) := by
  unfold findLimitIndices at h
  simp only [Option.getD_some] at h
  obtain ⟨-, h⟩ | ⟨-, h⟩ := ite_eq_iff.mp h
  · cases h
  obtain ⟨rfl, rfl⟩ := Prod.mk.inj (Except.ok.inj h)
  -- each bound on its own: an inactive one holds of every position, an active one is `searchLeft_spec`
  have key := fun a => searchLeft_spec xs hs a k hk
  have hk' : (k : ℤ) ≤ xs.length - 1 := Int.le_sub_one_of_lt (Int.ofNat_lt.2 hk)
  refine and_congr ?_ ?_
  · rcases lo with _ | a
    · exact iff_of_true (Int.natCast_nonneg k) fun _ h => nomatch h
    · dsimp only
      by_cases ha : a = 0
      · rw [if_neg (not_not.2 ha)]
        exact iff_of_true (Int.natCast_nonneg k) fun a' h h0 => absurd (Option.some.inj h ▸ ha) h0
      · simp only [ha, ne_eq, not_false_eq_true, if_true, Option.some.injEq, forall_eq', forall_true_left,
          ← not_lt, key a, Nat.cast_lt]
  · rcases hi with _ | b
    · exact iff_of_true hk' fun _ h => nomatch h
    · dsimp only
      by_cases hb : b = 0
      · rw [if_neg (not_not.2 hb)]
        exact iff_of_true hk' fun b' h h0 => absurd (Option.some.inj h ▸ hb) h0
      · simp only [hb, ne_eq, not_false_eq_true, if_true, Option.some.injEq, forall_eq', forall_true_left, key b]
        omega

/-- fewer than `smallest_selection` steps between the two positions is refused -/
theorem findLimitIndices_refused (xs : List α) (limits : Option (Option α × Option α)) (sm : Int) (e : Err)
    (h : findLimitIndices xs limits sm = .error e) : e = .calc := by
  unfold findLimitIndices at h
  dsimp only at h
  split_ifs at h
  cases h; rfl

example : findLimitIndices ([1, 2, 3, 4, 5, 6] : List ℚ) (some (some 2, some 5)) 1 = .ok (1, 3) := by decide +kernel
example : findLimitIndices ([1, 2, 3, 4, 5, 6] : List ℚ) none 3 = .ok (0, 5) := by decide +kernel
example : findLimitIndices ([1, 2, 3] : List ℚ) (some (some 2, none)) 3 = .error .calc := by decide +kernel
example : linspace (0 : ℚ) 1 5 = [0, 1 / 4, 1 / 2, 3 / 4, 1] := by decide +kernel
example : applyLimitsStrict ([0, 25, 50, 75, 100] : List ℚ) (some (some 0, some 100)) = [25, 50, 75] := by decide +kernel
example : hasBranch [0, 0, 1] (some "des") = .ok true ∧ hasBranch [0, 0] (some "des") = .ok false := by decide +kernel

end Whole

/-! ## G. The temperature seen by the accessors

The saturation pressure of a pressure-MODE change and the densities of a loading-BASIS change are taken at
`self.temperature`, the stored temperature expressed in kelvin — not at the raw stored number.  Consequences proved here:
the accessors do not depend on the unit the temperature is stored in, they are unchanged by `convert_temperature`, and
"accessor = read ∘ permanent conversion" holds in every temperature state. -/

section Temperature
variable {α : Type} [Field α] [LinearOrder α]

lemma containsC_degC : containsC "°C" = true := by decide +kernel
lemma containsC_K : containsC "K" = false := by decide +kernel

lemma normTemp_K : normTemp (some "K") = some "K" := by
  simp [normTemp, containsC_K]

lemma normTemp_degC : normTemp (some "°C") = some "°C" := by
  simp [normTemp, containsC_degC]

lemma tempOffset_K : (tempOffset "K" : Option α) = some (-(5463 / 20)) := by
  simp [tempOffset, temperatureUnits, List.lookup]
  ring

lemma tempOffset_degC : (tempOffset "°C" : Option α) = some (5463 / 20) := by
  have h : ("°C" == "K") = false := by decide +kernel
  simp [tempOffset, temperatureUnits, List.lookup, h]

/-- an accepted temperature label is `K` or `°C` (the two rows of the generated table) -/
lemma checkTemp_ok_cases (u : Option String) (o : α) (h : checkTemp u = .ok o) : u = some "K" ∨ u = some "°C" := by
  unfold checkTemp at h
  cases u with
  | none => cases h
  | some s =>
    by_contra hc
    rw [not_or, Option.some.injEq, Option.some.injEq] at hc
    have : (tempOffset s : Option α) = none := by
      rw [tempOffset, temperatureUnits, List.lookup, beq_false_of_ne hc.1, List.lookup, beq_false_of_ne hc.2]
      rfl
    dsimp only at h
    rw [this] at h
    split_ifs at h

theorem kelvin_K (t : α) : kelvin (some "K") t = .ok t := by simp [kelvin]

/-- degrees Celsius are shifted by 273.15 -/
theorem kelvin_degC (t : α) : kelvin (some "°C") t = .ok (t + 5463 / 20) := by
  have hne : (some "°C" : Option String) ≠ some "K" := by decide +kernel
  unfold kelvin cTemperature
  rw [if_neg hne, normTemp_K, normTemp_degC]
  simp only [checkTemp, tempOffset_K, tempOffset_degC, bind, Except.bind, pure, Except.pure]
  have h1 : ("K" : String) ≠ "" := by decide
  have h2 : ("°C" : String) ≠ "" := by decide +kernel
  simp only [h1, h2, if_false, hne, ite_false]
  congr 1
  ring

/-- **the temperature in kelvin is invariant under `convert_temperature`**: whatever accepted spelling is asked for,
the converted state describes the same physical temperature -/
theorem kelvin_convertTemperature (s : Iso α) (u : Option String)
    (hu : s.lab.tunit = some "K" ∨ s.lab.tunit = some "°C") (s' : Iso α)
    (h : convertTemperature s u = (s', .ok)) :
    kelvin s'.lab.tunit s'.temp = kelvin s.lab.tunit s.temp := by
  -- `c_temperature` goes through kelvin (`cTemperature_spec`: `b.ofK (a.toK v)`), so the kelvin value is conserved; the typed
  -- form is a conjunct of `C02.convertTemperature_typed`, which needs characteristic zero and is therefore redone here by cases
  unfold convertTemperature at h
  cases hc : cTemperature s.temp s.lab.tunit u with
  | error e => rw [hc] at h; cases h
  | ok t =>
    rw [hc] at h
    obtain rfl := (Prod.mk.inj h).1
    show kelvin (normTemp u) t = kelvin s.lab.tunit s.temp
    unfold cTemperature at hc
    dsimp only at hc
    cases h1 : (checkTemp (normTemp u) : Except Err α) with
    | error e => rw [h1] at hc; cases hc
    | ok ot =>
      -- stored K or °C, requested K or °C: in each of the four cases `hc` gives `t` and both sides are sums
      rcases hu with hu | hu <;> rcases checkTemp_ok_cases _ _ h1 with hn | hn <;>
        simp only [hu, hn, normTemp_K, normTemp_degC, checkTemp, tempOffset_K, tempOffset_degC, bind, Except.bind, pure,
          Except.pure, kelvin_K, kelvin_degC, Except.ok.injEq, Option.some.injEq, String.reduceEq, ↓reduceIte] at hc ⊢
      all_goals
        subst hc
        ring

theorem ctx_convertTemperature (th : Thermo α) (s : Iso α) (u : Option String)
    (hu : s.lab.tunit = some "K" ∨ s.lab.tunit = some "°C") (s' : Iso α)
    (h : convertTemperature s u = (s', .ok)) :
    th.ctx s'.lab.tunit s'.temp = th.ctx s.lab.tunit s.temp := by
  unfold Thermo.ctx
  rw [kelvin_convertTemperature s u hu s' h]

lemma convertTemperature_rest (s : Iso α) (u : Option String) (s' : Iso α) (h : convertTemperature s u = (s', .ok)) :
    s'.lab = { s.lab with tunit := normTemp u } ∧ s'.ps = s.ps ∧ s'.ls = s.ls := by
  unfold convertTemperature at h
  cases hc : cTemperature s.temp s.lab.tunit u with
  | error e => rw [hc] at h; cases h
  | ok t =>
    rw [hc] at h
    simp only [Prod.mk.injEq, and_true] at h
    subst h
    exact ⟨rfl, rfl, rfl⟩

lemma accessPressure_tunit (c : Ctx α) (lab : Labels) (tu : Option String) (v : α) (pm pu : Option String) :
    accessPressure c { lab with tunit := tu } v pm pu = accessPressure c lab v pm pu := rfl

lemma accessLoadingTarget_tunit (c : Ctx α) (lab : Labels) (tu : Option String) (v : α) (lb lu mb mu : Option String) :
    accessLoadingTarget c { lab with tunit := tu } v lb lu mb mu = accessLoadingTarget c lab v lb lu mb mu := rfl

/-- **the pressure accessor does not depend on the unit the temperature is stored in**: every request (in particular a
pressure-mode change, which needs `p0(T)`) gives the same answer before and after `convert_temperature` -/
theorem accessPressureAt_convertTemperature (th : Thermo α) (s : Iso α) (u : Option String)
    (hu : s.lab.tunit = some "K" ∨ s.lab.tunit = some "°C") (s' : Iso α)
    (h : convertTemperature s u = (s', .ok)) (v : α) (pm pu : Option String) :
    accessPressureAt th s' v pm pu = accessPressureAt th s v pm pu := by
  unfold accessPressureAt
  rw [ctx_convertTemperature th s u hu s' h, (convertTemperature_rest s u s' h).1]
  rfl

/-- the same for the loading accessor (a loading-basis change needs the densities at `T`) -/
theorem accessLoadingAt_convertTemperature (th : Thermo α) (s : Iso α) (u : Option String)
    (hu : s.lab.tunit = some "K" ∨ s.lab.tunit = some "°C") (s' : Iso α)
    (h : convertTemperature s u = (s', .ok)) (v : α) (lb lu mb mu : Option String) :
    accessLoadingAt th s' v lb lu mb mu = accessLoadingAt th s v lb lu mb mu := by
  unfold accessLoadingAt
  rw [ctx_convertTemperature th s u hu s' h, (convertTemperature_rest s u s' h).1]
  rfl

/-- an isotherm stored in °C at `t` reads like the one stored in K at `t + 273.15` (same labels otherwise) -/
theorem accessPressureAt_degC (th : Thermo α) (lab : Labels) (ps ls : List α) (t : α) (b1 b2 : Bool) (v : α)
    (pm pu : Option String) :
    accessPressureAt th ⟨{ lab with tunit := some "°C" }, ps, ls, t, b1, b2⟩ v pm pu
      = accessPressureAt th ⟨{ lab with tunit := some "K" }, ps, ls, t + 5463 / 20, b1, b2⟩ v pm pu := by
  unfold accessPressureAt Thermo.ctx
  simp only [kelvin_K, kelvin_degC]
  rfl

/-- **accessor = read ∘ permanent conversion in every temperature state**: with the constants taken at the kelvin
temperature of the state (`Thermo.ctx`), the three clauses of `accessPressure_eq_convert` hold for the state-level
accessor; the permanent conversion is the one of C02 run with the same constants. -/
theorem accessPressureAt_eq_convert [CharZero α] (th : Thermo α) (s : Iso α) (c : Ctx α)
    (hc : th.ctx s.lab.tunit s.temp = .ok c) (pm pu : Option String)
    (harg : truthy pm = true ∨ truthy pu = true) (hlab : PLabelsOk s.lab) :
    (∀ s', convertPressure c s pm pu = (s', .ok) →
      ∃ f, s'.ps = s.ps.map (· * f) ∧ ∀ v, accessPressureAt th s v pm pu = .ok (v * f)) ∧
    (∀ s' e, convertPressure c s pm pu = (s', .err e) →
      e = .calc ∧ s' = s ∧ ∀ v, accessPressureAt th s v pm pu = .error .calc) := by
  have hcond : (truthy pm || truthy pu) = true := by simpa using harg
  have hat : ∀ v, accessPressureAt th s v pm pu = accessPressure c s.lab v pm pu := by
    intro v; unfold accessPressureAt; rw [if_pos hcond, hc]
  obtain ⟨h1, _, h3⟩ := accessPressure_eq_convert c s pm pu harg hlab
  refine ⟨fun s' hs' => ?_, fun s' e hs' => ?_⟩
  · obtain ⟨f, hf, hv⟩ := h1 s' hs'
    exact ⟨f, hf, fun v => by rw [hat, hv]⟩
  · obtain ⟨he, hs, hv⟩ := h3 s' e hs'
    exact ⟨he, hs, fun v => by rw [hat, hv]⟩

/-! non-vacuity: 25 °C is 298.15 K; an adsorbate known only at 298.15 K serves an isotherm stored at 25 °C, and a reading
at the raw number 25 would find nothing -/
def thW : Thermo ℚ := ⟨fun T => if T = 5963 / 20 then some 100000 else none, fun _ _ => none⟩
def isoC : Iso ℚ := ⟨⟨"absolute", some "bar", "molar", some "mmol", "mass", some "g", some "°C"⟩, [1], [2], 25, false, false⟩

example : kelvin (some "°C") (25 : ℚ) = .ok (5963 / 20) := by decide +kernel
example : accessPressureAt thW isoC 1 (some "relative") none = .ok 1 := by decide +kernel
example : (convertTemperature isoC (some "K")).1.temp = 5963 / 20 ∧ (convertTemperature isoC (some "K")).2 = .ok := by
  decide +kernel
example : accessPressureAt thW (convertTemperature isoC (some "K")).1 1 (some "relative") none = .ok 1 := by decide +kernel

end Temperature
/-! ## H. Interpolated / model-evaluated values at a point in requested units -/

section AtPoint
variable {α : Type} [Field α] [LinearOrder α] [IsStrictOrderedRing α]

/-- interpolation commutes with a change of representation (pressures and query by a positive `f`, loadings by any `g`) -/
theorem interpLin_scale (f g : α) (hf : 0 < f) (ps ls : List α) (x : α) :
    interpLin (ps.map (· * f)) (ls.map (· * g)) (x * f) = (interpLin ps ls x).map (· * g) := by
  simpa only [mul_comm] using Model.interpLin_scale f g hf ps ls x

/-- **`loading_at` in requested units = native `loading_at` of the permanently converted copy**: if the request
re-expresses stored pressures by the positive factor `fp` (so a supplied pressure is read as `q / fp`) and loadings by
the factor `fl`, then the interpolated value in the requested representation is the linear interpolation through the
CONVERTED knots at the supplied query; a query outside the converted range is refused. -/
theorem pointLoadingAt_eq_converted (c : Ctx α) (lab : Labels) (ps ls : List α) (q fp fl : α) (hfp : 0 < fp)
    (pm pu lb lu mb mu : Option String)
    (hin : ∀ w, inputPressure c lab w pm pu = .ok (w / fp))
    (hout : ∀ v, accessLoadingStored c lab v lb lu mb mu = .ok (v * fl)) :
    pointLoadingAt c lab ps ls q pm pu lb lu mb mu =
      match interpLin (ps.map (· * fp)) (ls.map (· * fl)) q with
      | none => .error .value
      | some l => .ok l := by
  have hq : q = q / fp * fp := by field_simp
  unfold pointLoadingAt
  rw [hin]
  simp only [bind, Except.bind]
  conv_rhs => rw [hq, interpLin_scale fp fl hfp]
  cases interpLin ps ls (q / fp) with
  | none => rfl
  | some l => simp [hout]

/-- the same for `pressure_at`: the supplied loading is read as `q / fl` (`fl > 0`), the interpolated pressure is
re-expressed by `fp` -/
theorem pointPressureAt_eq_converted (c : Ctx α) (lab : Labels) (ls ps : List α) (q fp fl : α) (hfl : 0 < fl)
    (lb lu mb mu pm pu : Option String)
    (hin : ∀ w, inputLoading false c lab w lb lu mb mu = .ok (w / fl))
    (hout : ∀ v, outputPressurePoint c lab v pm pu = .ok (v * fp)) :
    pointPressureAt c lab ls ps q lb lu mb mu pm pu =
      match interpLin (ls.map (· * fl)) (ps.map (· * fp)) q with
      | none => .error .value
      | some p => .ok p := by
  have hq : q = q / fl * fl := by field_simp
  unfold pointPressureAt
  rw [hin]
  simp only [bind, Except.bind]
  conv_rhs => rw [hq, interpLin_scale fl fp hfl]
  cases interpLin ls ps (q / fl) with
  | none => rfl
  | some l => simp [hout]

theorem pointLoadingAt_native (c : Ctx α) (lab : Labels) (ps ls : List α) (q : α) :
    pointLoadingAt c lab ps ls q none none none none none none =
      match interpLin ps ls q with
      | none => .error .value
      | some l => .ok l := by
  unfold pointLoadingAt
  simp only [inputPressure, truthy, Bool.or_self, Bool.false_eq_true, if_false, bind, Except.bind]
  cases interpLin ps ls q with
  | none => rfl
  | some l => simp [accessLoadingStored, truthy]; rfl

/-- **model isotherms**: `loading_at` in requested units is the bare model at the supplied pressure brought to the stored
representation, times the one factor of the loading request — what a model isotherm stored in the requested
representation evaluates to -/
theorem modelLoadingAt_eq_factor (c : Ctx α) (lab : Labels) (m : α → α) (q fp fl : α)
    (pm pu lb lu mb mu : Option String)
    (hin : inputPressure c lab q pm pu = .ok (q / fp))
    (hout : ∀ v, accessLoadingTarget c lab v lb lu mb mu = .ok (v * fl)) :
    modelLoadingAt c lab m q pm pu lb lu mb mu = .ok (m (q / fp) * fl) := by
  unfold modelLoadingAt
  rw [hin]
  simp only [bind, Except.bind]
  exact hout _

theorem modelPressureAt_eq_factor (c : Ctx α) (lab : Labels) (mi : α → α) (q fp fl : α)
    (lb lu mb mu pm pu : Option String)
    (hin : inputLoading true c lab q lb lu mb mu = .ok (q / fl))
    (hout : ∀ v, outputPressureModel c lab v pm pu = .ok (v * fp)) :
    modelPressureAt c lab mi q lb lu mb mu pm pu = .ok (mi (q / fl) * fp) := by
  unfold modelPressureAt
  rw [hin]
  simp only [bind, Except.bind]
  exact hout _

/-! non-vacuity: knots 1, 2, 4 bar read in kPa; the query 300 kPa lies on the converted segment 200–400 kPa -/
example : interpLin ([1, 2, 4].map (· * (100 : ℚ))) ([10, 20, 60].map (· * (2 : ℚ))) 300 = some 80 := by decide +kernel
example : pointLoadingAt ctxW labMolar [1, 2, 4] [10, 20, 60] 300 none (some "kPa") none none none none = .ok 40 := by
  decide +kernel
example : pointLoadingAt ctxW labMolar [1, 2, 4] [10, 20, 60] 500 none (some "kPa") none none none none = .error .value := by
  decide +kernel

end AtPoint
end PgVerif.C03
