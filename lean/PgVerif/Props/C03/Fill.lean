/-
C03, continued — fill rules of `loading_at` / `pressure_at` ("refused outside the measured range unless a fill rule is given").

  `interpFill`: `interpLin` completed by an optional fill rule, a pair (value below the first knot, value above the last one);
  a single number `c` is the pair `(c, c)`.  The rule is an `Option`: "no rule" is `none` and nothing else — the value of a
  rule is never truth-tested, so the rule "zero outside the data" (falsy in Python) is a rule like any other.  Inside the
  range the rule is irrelevant, so the interpolation laws of `Props/C03.lean` (knots, straight line) carry over; without a
  rule the accessor is `interpLin`.
  Tie: harness/props/c03.py section (8a)-(8b) evaluates exactly these four clauses on the real accessors for every rule kind
  with the number zero in eight Python / numpy types.
-/
import PgVerif.Props.C03
set_option linter.unusedSectionVars false
set_option linter.unusedVariables false

namespace PgVerif.C03
open PgVerif.Model

section Fill
variable {α : Type} [Field α] [LinearOrder α]

/-- the rule given as a single number: the same value on both sides (`interp1d(fill_value=c)`) -/
def fillNumber (c : α) : α × α := (c, c)

/-- `interp1d(kind='linear', fill_value=rule, bounds_error=False)` when a rule is given, `interp1d(kind='linear')` when none is -/
def interpFill (fill : Option (α × α)) (ps ls : List α) (x : α) : Option α :=
  match interpLin ps ls x with
  | some y => some y
  | none =>
    match fill, ps with
    | some (lo, hi), p0 :: _ => some (if x < p0 then lo else hi)
    | _, _ => none

/-- without a rule the accessor is the bare interpolant (refusal outside the measured range: `interpLin_outside`) -/
theorem interpFill_no_rule (ps ls : List α) (x : α) : interpFill none ps ls x = interpLin ps ls x := by
  unfold interpFill
  cases interpLin ps ls x <;> rfl

/-- where the interpolant answers, the rule plays no part (data at the knots, straight line between: `interpLin_at_knot`, `interpLin_between`) -/
theorem interpFill_inside (fill : Option (α × α)) (ps ls : List α) (x y : α) (h : interpLin ps ls x = some y) :
    interpFill fill ps ls x = some y := by
  unfold interpFill
  rw [h]

/-- below the first measured point a rule answers with its lower value — WHATEVER that value is (zero included) -/
theorem interpFill_below (lo hi : α) (ps ls : List α) (hs : ps.Pairwise (· < ·)) (hne : ps ≠ []) (x : α)
    (h : x < ps.head hne) : interpFill (some (lo, hi)) ps ls x = some lo := by
  have ho := interpLin_outside ps ls hs hne x (Or.inl h)
  cases ps with
  | nil => exact absurd rfl hne
  | cons p0 t =>
    unfold interpFill
    rw [ho]
    simp only [List.head_cons] at h
    simp [h]

/-- above the last measured point a rule answers with its upper value — whatever that value is -/
theorem interpFill_above (lo hi : α) (ps ls : List α) (hs : ps.Pairwise (· < ·)) (hne : ps ≠ []) (x : α)
    (h : ps.getLast hne < x) : interpFill (some (lo, hi)) ps ls x = some hi := by
  have ho := interpLin_outside ps ls hs hne x (Or.inr h)
  have hle := head_le_getLast ps hs hne
  cases ps with
  | nil => exact absurd rfl hne
  | cons p0 t =>
    unfold interpFill
    rw [ho]
    simp only [List.head_cons] at hle
    have : ¬ x < p0 := not_lt.mpr (hle.trans h.le)
    simp [this]

/-- the falsy member of the rules: "zero outside the data" is honoured on both sides, never refused -/
theorem interpFill_zero_rule (ps ls : List α) (hs : ps.Pairwise (· < ·)) (hne : ps ≠ []) (x : α)
    (h : x < ps.head hne ∨ ps.getLast hne < x) : interpFill (some (fillNumber 0)) ps ls x = some 0 := by
  rcases h with h | h
  · exact interpFill_below 0 0 ps ls hs hne x h
  · exact interpFill_above 0 0 ps ls hs hne x h

theorem interpFill_answers (rule : α × α) (ps ls : List α) (hne : ps ≠ []) (x : α) :
    (interpFill (some rule) ps ls x).isSome := by
  cases ps with
  | nil => exact absurd rfl hne
  | cons p0 t =>
    unfold interpFill
    cases interpLin (p0 :: t) ls x <;> simp

/-- a number `c` and the pair `(c, c)` are the same rule (definitionally): one answer for both spellings -/
theorem interpFill_number_eq_pair (c : α) (ps ls : List α) (x : α) :
    interpFill (some (fillNumber c)) ps ls x = interpFill (some (c, c)) ps ls x := rfl

-- non-vacuity / behaviour on an instance: knots 1 < 2 < 4, the zero rule and a pair with a zero member
example : interpFill (some (fillNumber (0 : ℚ))) [1, 2, 4] [10, 20, 60] (1 / 2) = some 0 := by decide +kernel
example : interpFill (some (fillNumber (0 : ℚ))) [1, 2, 4] [10, 20, 60] 5 = some 0 := by decide +kernel
example : interpFill (some (fillNumber (0 : ℚ))) [1, 2, 4] [10, 20, 60] 3 = some 40 := by decide +kernel
example : interpFill (some ((0 : ℚ), 15 / 2)) [1, 2, 4] [10, 20, 60] 5 = some (15 / 2) := by decide +kernel
example : interpFill (none : Option (ℚ × ℚ)) [1, 2, 4] [10, 20, 60] 5 = none := by decide +kernel
example : ([1, 2, 4] : List ℚ).Pairwise (· < ·) := by decide +kernel

/-- finding S60-C03, stated by the accessor model as the code has it (`applyLimits_inactive`): an UPPER limit of zero is taken for
"no limits" — on a branch that holds the origin the whole branch comes back, not the single point inside `(-∞, 0]` -/
theorem applyLimits_upper_zero_witness :
    applyLimits ([0, 1, 2] : List ℚ) (some (none, some 0)) = [0, 1, 2] ∧ ([0, 1, 2] : List ℚ).filter (· ≤ 0) = [0] := by
  decide +kernel

/-- limits on data that are NOT ascending (a hysteresis loop: up, then down; a desorption branch alone, stored descending): the selection is by
VALUE, in measurement order — a bisection that assumes ascending data returns `[2, 3]` on the first and nothing on the second (round 8, C03-m1) -/
theorem applyLimits_hysteresis_witness :
    applyLimits ([1, 2, 3, 4, 5 / 2, 3 / 2] : List ℚ) (some (some (6 / 5), some (7 / 2))) = [2, 3, 5 / 2, 3 / 2] ∧
    applyLimits ([4, 5 / 2, 3 / 2, 1 / 2] : List ℚ) (some (some 1, none)) = [4, 5 / 2, 3 / 2] := by
  decide +kernel

end Fill
end PgVerif.C03
