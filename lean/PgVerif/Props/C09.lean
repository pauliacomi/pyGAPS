/-
C09 — database operations are atomic under statement failures and process death.

All statements are about `runOp db mem op fault : Result` of `PgVerif.Model.Store` (the statement-level model of
`with_connection` + the public write operations, with fault injection at statement index `k`).
The program logic used in the proofs is in `PgVerif.Lemmas.Store`.
-/
import PgVerif.Model.Store
import PgVerif.Lemmas.Store
import Mathlib.Tactic

namespace PgVerif.C09
open PgVerif.Model.Store PgVerif.StoreL

theorem empty_wellFormed : Db.empty.wellFormed = true := by decide

theorem failed_call_changes_nothing (db : Db) (mem : Mem) (op : Op) (fault : Option (Nat × FaultKind)) :
    (runOp db mem op fault).out = .parsingError ∨ (runOp db mem op fault).out = .otherError →
      (runOp db mem op fault).db = db := by
  rw [runOp_eq]
  rcases hr : (exec (prog op) ⟨db, mem, 0, fault⟩).1 with e | a
  · exact fun _ => (finish_error _ _ _ hr).1
  · rw [finish_ok _ _ _ hr]
    split_ifs <;> simp

/-- the process-global lists `MATERIAL_LIST` / `ADSORBATE_LIST` are written, never read -/
theorem runOp_db_independent_of_mem (db : Db) (mem₁ mem₂ : Mem) (op : Op) (f : Option (Nat × FaultKind)) :
    (runOp db mem₁ op f).db = (runOp db mem₂ op f).db ∧ (runOp db mem₁ op f).out = (runOp db mem₂ op f).out := by
  have h := runOp_mem_irrelevant db mem₁ mem₂ op f
  exact ⟨h.1, h.2.1⟩


/-- the final working state (working copy, statement counter, in-memory lists) is exactly that of the fault-free run: the
simulation `faultR` of `PgVerif.Lemmas.Store`, lifted through every operation -/
theorem fault_not_hit (db : Db) (mem : Mem) (op : Op) (k : Nat) (kind : FaultKind)
    (h : (exec (prog op) ⟨db, mem, 0, some (k, kind)⟩).1 = .ok ()) :
    (exec (prog op) ⟨db, mem, 0, none⟩).1 = .ok () ∧
    (exec (prog op) ⟨db, mem, 0, some (k, kind)⟩).2.db = (exec (prog op) ⟨db, mem, 0, none⟩).2.db ∧
    (exec (prog op) ⟨db, mem, 0, some (k, kind)⟩).2.n = (exec (prog op) ⟨db, mem, 0, none⟩).2.n ∧
    (exec (prog op) ⟨db, mem, 0, some (k, kind)⟩).2.mem = (exec (prog op) ⟨db, mem, 0, none⟩).2.mem :=
  let ⟨h0, h1, h2, h3, _⟩ := exec_fault_not_hit db mem op k kind h
  ⟨h0, h1, h2, h3⟩

theorem atomic (db : Db) (mem : Mem) (op : Op) (k : Nat) (kind : FaultKind) :
    (runOp db mem op (some (k, kind))).db = db ∨
      (runOp db mem op (some (k, kind))).db = (runOp db mem op none).db :=
  runOp_atomic db mem op k kind

/-! ### a fault inside the body is always hit -/

/-- unary invariant "the fault plan is `(k, kind)` and statement `k` has not been issued yet", as a relation -/
def notYet (k : Nat) (kind : FaultKind) (w w' : Work) : Prop := w = w' ∧ w.fault = some (k, kind) ∧ w.n ≤ k

/-- Until statement `k` is issued nothing differs from a run without fault plan; statement `k` is left with the injected
exception, or — the kind `exitAfter`, which lets the statement run — with the statement's own error or the exit after it.
`E` says which errors those may be. -/
lemma notYet_stmt {E : SqlErr → Prop} (k : Nat) (kind : FaultKind) (hE : ∀ e, injected (some (k, kind)) k = some e → E e)
    (hA : kind = .exitAfter → ∀ e, E e) {β : Type} (body : Db → Except SqlErr (β × Db)) :
    Rel E (notYet k kind) (stmt body) := by
  rintro ⟨db, mem, n, f⟩ _ ⟨rfl, h1, h2⟩
  simp only at h1 h2
  subst h1
  rw [exec_stmt]
  simp only
  rcases Nat.lt_or_eq_of_le h2 with hlt | rfl
  · rw [injected_miss k n kind (by omega)]
    simp only
    cases body db with
    | error e => exact Or.inr (by simp [notYet]; omega)
    | ok p =>
      obtain ⟨r, d⟩ := p
      simp only
      split
      · rename_i hc
        simp only [Option.some.injEq, Prod.mk.injEq] at hc
        omega
      · exact Or.inr (by simp [notYet]; omega)
  · left
    cases hi : injected (some (n, kind)) n with
    | some e => exact ⟨e, hE e hi, rfl⟩
    | none =>
      have hk : kind = .exitAfter := by cases kind <;> simp [injected] at hi ⊢
      subst hk
      simp only
      cases body db with
      | error e => exact ⟨e, hA rfl e, rfl⟩
      | ok p => exact ⟨.exit, hA rfl _, by simp⟩

lemma notYet_modifyMem {E : SqlErr → Prop} (k : Nat) (kind : FaultKind) (f : Mem → Mem) :
    Rel E (notYet k kind) (modifyMem f) := by
  rintro w _ ⟨rfl, h1, h2⟩
  exact Or.inr ⟨rfl, rfl, h1, h2⟩

theorem ok_run_stops_before_fault (db : Db) (mem : Mem) (op : Op) (k : Nat) (kind : FaultKind)
    (h : (exec (prog op) ⟨db, mem, 0, some (k, kind)⟩).1 = .ok ()) :
    (exec (prog op) ⟨db, mem, 0, some (k, kind)⟩).2.n ≤ k := by
  rcases rel_prog (E := fun _ => True) (fun b => notYet_stmt k kind (fun _ _ => trivial) (fun _ _ => trivial) b)
      (notYet_modifyMem k kind) op
      ⟨db, mem, 0, some (k, kind)⟩ _ ⟨rfl, rfl, Nat.zero_le _⟩ with ⟨e, _, he⟩ | ⟨_, _, _, h3⟩
  · rw [h] at he; cases he
  · exact h3


/-- A fault of ANY kind planted at a statement the fault-free run issues (`k < stmtCount`) makes the call fail or die, and
nothing is committed. -/
theorem fault_inside_body_fails (db : Db) (mem : Mem) (op : Op) (k : Nat) (kind : FaultKind)
    (hk : k < stmtCount db mem op) :
    (runOp db mem op (some (k, kind))).out ≠ .ok ∧ (runOp db mem op (some (k, kind))).db = db := by
  rw [stmtCount_eq] at hk
  rw [runOp_eq]
  rcases hr : (exec (prog op) ⟨db, mem, 0, some (k, kind)⟩).1 with e | a
  · obtain ⟨h1, h2⟩ := finish_error db mem (some (k, kind)) hr
    exact ⟨h2 ▸ outcomeOf_error_ne_ok e, h1⟩
  · obtain ⟨_, _, h2, _⟩ := fault_not_hit db mem op k kind hr
    have := ok_run_stops_before_fault db mem op k kind hr
    omega

/-- If the process dies during the call, the file holds either the content before the call, or — only when death strikes
right after the commit (`exitAfter` at index = number of statements issued = `stmtCount`) — the working copy of the
completed body, which is exactly what the fault-free call commits. -/
theorem death_commits_nothing_or_everything (db : Db) (mem : Mem) (op : Op) (fault : Option (Nat × FaultKind))
    (hd : (runOp db mem op fault).out = .died) :
    (runOp db mem op fault).db = db ∨
      ∃ k, fault = some (k, .exitAfter) ∧ k = (runOp db mem op fault).stmts ∧ k = stmtCount db mem op ∧
        (exec (prog op) ⟨db, mem, 0, fault⟩).1 = .ok () ∧
        (runOp db mem op fault).db = (exec (prog op) ⟨db, mem, 0, fault⟩).2.db ∧
        (runOp db mem op fault).db = (runOp db mem op none).db := by
  rcases hr : (exec (prog op) ⟨db, mem, 0, fault⟩).1 with e | a
  · left; rw [runOp_eq]; exact (finish_error _ _ _ hr).1
  · rw [runOp_eq, finish_ok _ _ _ hr] at hd ⊢
    split_ifs at hd ⊢ with c1 c2
    · exact Or.inl rfl
    · -- death right after the commit: the fault plan was never hit, so the run is the fault-free one
      generalize hn : (exec (prog op) ⟨db, mem, 0, fault⟩).2.n = n at c2 ⊢
      subst c2
      obtain ⟨h0, h1, h2, _⟩ := fault_not_hit db mem op n _ hr
      refine Or.inr ⟨n, rfl, rfl, ?_, rfl, rfl, ?_⟩
      · rw [stmtCount_eq, ← h2, hn]
      · rw [runOp_eq, finish_none_ok _ _ h0]
        exact h1

/-- Death before the commit commits nothing: `exitBefore` at any index, or `exitAfter` at an index smaller than the number of
statements issued. -/
theorem death_before_commit (db : Db) (mem : Mem) (op : Op) (k : Nat) (kind : FaultKind)
    (hd : (runOp db mem op (some (k, kind))).out = .died)
    (hk : kind = .exitBefore ∨ (kind = .exitAfter ∧ k < (runOp db mem op (some (k, kind))).stmts)) :
    (runOp db mem op (some (k, kind))).db = db := by
  rcases death_commits_nothing_or_everything db mem op _ hd with h | ⟨k', h1, h2, _⟩
  · exact h
  · cases h1
    rcases hk with hk | ⟨_, hk⟩
    · cases hk
    · omega

/-- the same with the fault position measured against the fault-free run, and without assuming the outcome:
`exitBefore` at any index `≤ stmtCount` (the commit included) and `exitAfter` at any index `< stmtCount` commit nothing. -/
theorem death_before_commit' (db : Db) (mem : Mem) (op : Op) (k : Nat) (kind : FaultKind)
    (hk : (kind = .exitBefore ∧ k ≤ stmtCount db mem op) ∨ (kind = .exitAfter ∧ k < stmtCount db mem op)) :
    (runOp db mem op (some (k, kind))).db = db := by
  rcases hk with ⟨rfl, hk⟩ | ⟨rfl, hk⟩
  · rcases Nat.lt_or_eq_of_le hk with hlt | heq
    · exact (fault_inside_body_fails db mem op k _ hlt).2
    · rw [runOp_eq]
      rcases hr : (exec (prog op) ⟨db, mem, 0, some (k, .exitBefore)⟩).1 with e | a
      · exact (finish_error _ _ _ hr).1
      · obtain ⟨_, _, h2, _⟩ := fault_not_hit db mem op k _ hr
        rw [stmtCount_eq] at heq
        rw [finish_ok _ _ _ hr, if_pos (by rw [h2, ← heq])]
  · exact (fault_inside_body_fails db mem op k _ hk).2

/-- Retry: when the call did not commit, repeating the same operation (now without fault) on the resulting state —
whatever the failed call left in the process-global lists — commits exactly what the fault-free call would have
committed in the first place, with the same outcome. -/
theorem retry_after_failure (db : Db) (mem : Mem) (op : Op) (fault : Option (Nat × FaultKind))
    (h : (runOp db mem op fault).db = db) :
    (runOp (runOp db mem op fault).db (runOp db mem op fault).mem op none).db = (runOp db mem op none).db ∧
    (runOp (runOp db mem op fault).db (runOp db mem op fault).mem op none).out = (runOp db mem op none).out := by
  rw [h]
  exact runOp_db_independent_of_mem db _ mem op none

theorem retry_succeeds (db : Db) (mem : Mem) (op : Op) (fault : Option (Nat × FaultKind))
    (h : (runOp db mem op fault).out = .parsingError ∨ (runOp db mem op fault).out = .otherError)
    (hv : (runOp db mem op none).out = .ok) :
    (runOp (runOp db mem op fault).db (runOp db mem op fault).mem op none).out = .ok :=
  ((retry_after_failure db mem op fault (failed_call_changes_nothing db mem op fault h)).2).trans hv

/-- Prior content intact (failed or dead-before-commit runs): unless the call returned normally or died right after the
commit, the file content is unchanged — so every row of every table is still there. -/
theorem prior_content_intact (db : Db) (mem : Mem) (op : Op) (fault : Option (Nat × FaultKind))
    (h : (runOp db mem op fault).out ≠ .ok)
    (hc : ∀ k, fault = some (k, .exitAfter) → k ≠ (runOp db mem op fault).stmts) :
    (runOp db mem op fault).db = db := by
  rcases ho : (runOp db mem op fault).out with _ | _ | _ | _
  · exact absurd ho h
  · exact failed_call_changes_nothing db mem op fault (Or.inl ho)
  · exact failed_call_changes_nothing db mem op fault (Or.inr ho)
  · rcases death_commits_nothing_or_everything db mem op fault ho with h' | ⟨k, h1, h2, _⟩
    · exact h'
    · exact absurd h2 (hc k h1)

/-- row-level reading of `prior_content_intact` -/
theorem prior_rows_intact (db : Db) (mem : Mem) (op : Op) (fault : Option (Nat × FaultKind))
    (h : (runOp db mem op fault).out ≠ .ok)
    (hc : ∀ k, fault = some (k, .exitAfter) → k ≠ (runOp db mem op fault).stmts) :
    (∀ r, r ∈ db.ads → r ∈ (runOp db mem op fault).db.ads) ∧
    (∀ r, r ∈ db.adsProps → r ∈ (runOp db mem op fault).db.adsProps) ∧
    (∀ r, r ∈ db.adsTypes → r ∈ (runOp db mem op fault).db.adsTypes) ∧
    (∀ r, r ∈ db.mats → r ∈ (runOp db mem op fault).db.mats) ∧
    (∀ r, r ∈ db.matProps → r ∈ (runOp db mem op fault).db.matProps) ∧
    (∀ r, r ∈ db.matTypes → r ∈ (runOp db mem op fault).db.matTypes) ∧
    (∀ r, r ∈ db.isoTypes → r ∈ (runOp db mem op fault).db.isoTypes) ∧
    (∀ r, r ∈ db.isos → r ∈ (runOp db mem op fault).db.isos) ∧
    (∀ r, r ∈ db.isoProps → r ∈ (runOp db mem op fault).db.isoProps) ∧
    (∀ r, r ∈ db.isoData → r ∈ (runOp db mem op fault).db.isoData) := by
  rw [prior_content_intact db mem op fault h hc]
  simp


/-! ### uploads never disturb prior content -/

/-- every table of `a` is an initial segment of the corresponding table of `b`: all rows of `a` are in `b`, in the same
order, new rows only appended -/
def Keeps (a b : Db) : Prop :=
  a.ads <+: b.ads ∧ a.adsProps <+: b.adsProps ∧ a.adsTypes <+: b.adsTypes ∧
  a.mats <+: b.mats ∧ a.matProps <+: b.matProps ∧ a.matTypes <+: b.matTypes ∧
  a.isoTypes <+: b.isoTypes ∧ a.isos <+: b.isos ∧ a.isoProps <+: b.isoProps ∧ a.isoData <+: b.isoData

lemma Keeps.refl (a : Db) : Keeps a a :=
  ⟨List.prefix_rfl, List.prefix_rfl, List.prefix_rfl, List.prefix_rfl, List.prefix_rfl, List.prefix_rfl,
   List.prefix_rfl, List.prefix_rfl, List.prefix_rfl, List.prefix_rfl⟩

/-- closes `okP (Keeps db0) anyErr (f d)` for an inserting statement: after unfolding, every branch is an error or appends one
row to one table -/
macro "keeps_disch" hd:ident : tactic => `(tactic|
  (stmt_split
   all_goals (first
     | exact trivial
     | (obtain ⟨h1, h2, h3, h4, h5, h6, h7, h8, h9, h10⟩ := $hd
        refine ⟨?_, ?_, ?_, ?_, ?_, ?_, ?_, ?_, ?_, ?_⟩ <;>
          first | assumption | exact List.IsPrefix.trans ‹_› (List.prefix_append _ _)))))

/-- the operations that only add: uploads without `overwrite` -/
def isUpload : Op → Prop
  | .adsToDb _ _ _ false => True
  | .matToDb _ _ _ false => True
  | .typeToDb _ _ _ _ false => True
  | .isoToDb _ _ _ => True
  | _ => False

/-- every write statement of an upload without `overwrite` is an `INSERT`: it appends to one table or fails -/
lemma keeps_writes {op : Op} {f : Db → Except SqlErr Db} (hw : Writes op f) (hu : isUpload op) (db0 d : Db)
    (hd : Keeps db0 d) : okP (Keeps db0) anyErr (f d) := by
  induction hw with
  | isoMat _ ih => exact ih trivial
  | isoAds _ ih => exact ih trivial
  | ads hk | mat hk => cases hk with
    | clear ho => subst ho; exact hu.elim
    | _ => keeps_disch hd
  | @typeAds _ t _ _ o => cases o <;> [(cases t <;> keeps_disch hd); exact hu.elim]
  | @typeMat _ t _ _ o => cases o <;> [(cases t <;> keeps_disch hd); exact hu.elim]
  | @typeIso _ t _ _ o => cases o <;> [(cases t <;> keeps_disch hd); exact hu.elim]
  | isoRow | isoProp | isoData => keeps_disch hd
  | _ => exact hu.elim

/-- Prior content intact, uploads (what `prior_content_intact` leaves open, the calls that commit): an upload without
`overwrite` — whether it succeeds, is refused, fails or dies at any statement — leaves every previously stored row of every
table in place and in order; new rows are only appended. -/
theorem uploads_keep_prior_rows (db : Db) (mem : Mem) (op : Op) (fault : Option (Nat × FaultKind)) (hu : isUpload op) :
    Keeps db (runOp db mem op fault).db :=
  (Inv.opBody (E := anyErr) trivial op fun _ hf => keeps_writes hf hu db).call db mem (Keeps.refl db) fault

/-! ### non-vacuity: concrete instances (kernel evaluation of the executable model) -/

/-- a concrete file: one material, one adsorbate with a property, the three isotherm types, one isotherm -/
def db0 : Db :=
  { Db.empty with
    ads := ["N2"], mats := ["MOF-1"],
    adsTypes := [("formula", "", "")], adsProps := [("N2", "formula", "N2")],
    isoTypes := [("isotherm", ""), ("pointisotherm", ""), ("modelisotherm", "")],
    isos := [("iso1", "pointisotherm", "MOF-1", "N2", "77.0")],
    isoProps := [("iso1", "pressure_unit", "bar")],
    isoData := [("iso1", "pressure", "float", "[1,2]")] }

def mem0 : Mem := ⟨["N2"], ["MOF-1"]⟩

/-- a new isotherm on a new material and a new adsorbate (both auto-inserted) -/
def iso2 : IsoIn :=
  { id := "iso2", isoType := "pointisotherm", material := some "MOF-2", matProps := [("density", [some "1.2"])],
    adsorbate := some "CO2", adsProps := [("formula", [some "CO2"])], temperature := some "298.0",
    props := [("pressure_unit", .val "bar")], data := [("pressure", "float", "[1]")] }

example : db0.wellFormed = true := by decide +kernel

/-- the fault-free isotherm upload with both auto-insertions issues 13 statements, is accepted and changes the file -/
example : (runOp db0 mem0 (.isoToDb iso2 true true) none).out = .ok ∧
          (runOp db0 mem0 (.isoToDb iso2 true true) none).db ≠ db0 ∧
          stmtCount db0 mem0 (.isoToDb iso2 true true) = 13 := by decide +kernel

/-- a statement failure at statement 3 (inside the material auto-insertion): `ParsingError` / other error, file unchanged -/
example : (runOp db0 mem0 (.isoToDb iso2 true true) (some (3, .integrity))).out = .parsingError ∧
          (runOp db0 mem0 (.isoToDb iso2 true true) (some (3, .integrity))).db = db0 ∧
          (runOp db0 mem0 (.isoToDb iso2 true true) (some (3, .operational))).out = .otherError ∧
          (runOp db0 mem0 (.isoToDb iso2 true true) (some (3, .operational))).db = db0 := by decide +kernel

/-- death after statement 3 and death just before the commit: file unchanged; death just after the commit: everything -/
example : (runOp db0 mem0 (.isoToDb iso2 true true) (some (3, .exitAfter))).out = .died ∧
          (runOp db0 mem0 (.isoToDb iso2 true true) (some (3, .exitAfter))).db = db0 ∧
          (runOp db0 mem0 (.isoToDb iso2 true true) (some (13, .exitBefore))).db = db0 ∧
          (runOp db0 mem0 (.isoToDb iso2 true true) (some (13, .exitAfter))).out = .died ∧
          (runOp db0 mem0 (.isoToDb iso2 true true) (some (13, .exitAfter))).db =
            (runOp db0 mem0 (.isoToDb iso2 true true) none).db := by decide +kernel

/-- after the failed call the same upload, repeated, succeeds -/
example :
    (runOp (runOp db0 mem0 (.isoToDb iso2 true true) (some (3, .integrity))).db
           (runOp db0 mem0 (.isoToDb iso2 true true) (some (3, .integrity))).mem (.isoToDb iso2 true true) none).out = .ok := by
  decide +kernel

end PgVerif.C09
