/-
C05 — the content of an isotherm as a function of the constructor's arguments.

`Model/Construct.lean` follows `BaseIsotherm.__init__` / `to_dict` statement by statement and runs on the GENERATED tables
`Gen/IsoParams.lean` (`_required_params`, `_unit_params`, `_reserved_params`, `SHORTHANDS`, the key-naming statements of `__init__`);
`harness/pgv/constructlib.py` ties it to the three real classes on every run.  Here:
the generated tables say what the manual documents (`Spec/IsoParams.lean`) and are consistent with each other (by kernel evaluation);
a missing required descriptor is refused; the constructor accepts exactly the label states `Model/IsoState.validLabels` accepts, after
defaulting and after the forcing of `pressure_unit` (the tie the C02 invariant "labels would be accepted by the constructor" needs);
what the defaults, the relative modes, the reserved keys and the shorthands do (also when both spellings are given); the dictionary
route `to_dict` → constructor reproduces the isotherm (what `from_isotherm` and the JSON / CSV / Excel / SQLite imports rely on);
content and identifier do not depend on the order of keyword arguments.
As the code has it (witnesses below): reserved names that are not consumed (`_material`, …) are NOT filtered out of the metadata; the
deprecated `loading_basis='volume'` is refused (the rewrite tests the class default, not the argument); an invalid material unit under a
gas/liquid-volume loading basis raises KeyError, not ParameterError.  Repaired (S58-C05): a material dictionary is no longer emptied of its
`name` in the CALLER's hands (`arguments_unchanged_by_call`, `second_construction_same`; `popping_setter_breaks_reuse_witness` = why).

Seven theorems of the sections on accepted labels, on the metadata and on the dictionary route are the lemmas of the same names in
`Lemmas/ConstructFacts.lean`, stated here as property theorems of C05: Props/C02/Construct and Props/C06/Params use the lemmas, so that
they do not depend on this file's ties of the generated tables to the documented interface.
-/
import Mathlib.Tactic
import Mathlib.Algebra.Order.Field.Rat
import PgVerif.Lemmas.ConstructFacts
import PgVerif.Spec.IsoParams
import PgVerif.Props.C05

set_option linter.unusedSimpArgs false

namespace PgVerif.C05
open PgVerif.Model PgVerif.Model.Construct PgVerif.Gen PgVerif.Gen.IsoParams

variable {α : Type}

/-! ### the generated tables: documented, and consistent with each other -/

/-- the unit parameters and their defaults are the documented ones -/
theorem generated_unit_defaults_documented : unitParams.Perm Spec.IsoParams.unitDefaults := by decide +kernel

/-- the required descriptors: the class attribute, the signature, the `None` test and the setters name the same three -/
theorem generated_required_documented :
    requiredParams.Perm Spec.IsoParams.required ∧ initParams = Spec.IsoParams.required ∧ requiredChecked.Perm initParams ∧
      setterOrder = initParams := by decide +kernel

/-- the shorthands are the documented ones and every one of them is handled by the loop -/
theorem generated_shorthands_documented :
    shorthands.Perm Spec.IsoParams.shorthands ∧ (∀ sp ∈ shorthands, sp.2 ∈ shorthandTargets) ∧ ∀ t ∈ shorthandTargets, t ∈ initParams := by
  decide +kernel

/-- every unit parameter with a default is popped into an attribute and vice versa: no `KeyError`, nothing of them left in the metadata -/
theorem unit_pops_cover_unit_params : unitPops.Perm (unitParams.map (·.1)) ∧ unitPops.Nodup ∧ (unitParams.map (·.1)).Nodup := by decide +kernel

/-- every key the constructor consumes without storing it under its own name is declared reserved; no reserved name hides a unit label
or a required descriptor from `to_dict`; the subclasses only add to the list -/
theorem consumed_keys_are_reserved :
    (∀ sp ∈ shorthands, sp.1 ∈ reservedBase) ∧ (∀ k ∈ reservedBase, k ∉ unitPops ∧ k ∉ initParams) ∧
      (∀ k ∈ reservedBase, k ∈ reservedPoint ∧ k ∈ reservedModel) ∧
      (∀ k ∈ reservedPoint ++ reservedModel, k ∉ unitPops ∧ k ∉ initParams) := by decide +kernel

/-- `to_dict` hides the private attributes and the data-carrying attributes of a point isotherm; of a model isotherm's two extra attributes
exactly `branch` is exported (and is a named parameter of its constructor, so the dictionary route hands it back) -/
theorem subclass_attributes :
    (∀ k ∈ ["_material", "_adsorbate", "_temperature"], k ∈ baseAttrs ∧ k ∈ reservedBase) ∧ (∀ k ∈ pointAttrs, k ∈ reservedPoint) ∧
      modelAttrs.filter (fun k => !reservedModel.contains k) = ["branch"] ∧ "branch" ∈ modelInitParams.map (·.1) ∧
      "branch" ∈ pointInitParams.map (·.1) := by decide +kernel

/-- what `from_isotherm` adds to the template's dictionary is bound by the constructor's signature (never leaks into the metadata) -/
theorem from_isotherm_keys_are_parameters :
    (∀ k ∈ pointFromIsothermKeys, k ∈ pointInitParams.map (·.1)) ∧ (∀ k ∈ modelFromIsothermKeys, k ∈ modelInitParams.map (·.1)) := by decide +kernel

/-- the named parameters of the subclasses do not shadow a unit parameter, a required descriptor or a shorthand -/
theorem subclass_parameters_disjoint :
    ∀ k ∈ pointInitParams.map (·.1) ++ modelInitParams.map (·.1), k ∉ unitPops ∧ k ∉ initParams ∧ k ∉ shorthands.map (·.1) := by decide +kernel

/-- the statement `if self._unit_params['loading_basis'] == 'volume'` tests the class default, which is not `volume`: it never fires -/
theorem volume_rewrite_is_dead : unitParams.lookup "loading_basis" ≠ some "volume" := by decide +kernel

/-- every pressure mode other than `absolute` is caught by the prefix test of the forcing -/
theorem non_absolute_modes_have_prefix : ∀ kv ∈ pressureMode, kv.1 ≠ "absolute" → hasPrefix relativePrefix kv.1 = true := by decide +kernel

/-! ### required descriptors -/

section
variable [Field α]

/-- a required descriptor that is `None` after the shorthands have been applied is refused with a ParameterError, whatever else is passed -/
theorem missing_required_refused (w : World α) (a : Args α)
    (h : (prepCall a).material.isNone = true ∨ (prepCall a).adsorbate.isNone = true ∨ (prepCall a).temperature.isNone = true) :
    construct w a = .error .param := by
  rw [construct_eq, missingRequired_eq]
  rcases h with h | h | h <;> simp [h]

def AbsentOrNone (o : Option (Val α)) : Prop := o = none ∨ o = some .none

omit [Field α] in
/-- neither the shorthand nor the long name gives a value: the named parameter stays `None` -/
lemma pick_none {o o' : Option (Val α)} (ho : AbsentOrNone o) (ho' : AbsentOrNone o') : (pick o (o'.getD .none)).isNone = true := by
  rcases ho with rfl | rfl <;> rcases ho' with rfl | rfl <;> rfl

/-- … in terms of the keyword dictionary: neither spelling gives a value -/
theorem missing_temperature_refused (w : World α) (a : Args α) (h1 : AbsentOrNone (a.lookup "temperature")) (h2 : AbsentOrNone (a.lookup "t")) :
    construct w a = .error .param := by
  apply missing_required_refused
  right; right
  rw [prepCall_eq]
  exact pick_none h2 h1

theorem missing_material_refused (w : World α) (a : Args α) (h1 : AbsentOrNone (a.lookup "material")) (h2 : AbsentOrNone (a.lookup "m")) :
    construct w a = .error .param := by
  apply missing_required_refused
  left
  rw [prepCall_eq]
  exact pick_none h2 h1

theorem missing_adsorbate_refused (w : World α) (a : Args α) (h1 : AbsentOrNone (a.lookup "adsorbate")) (h2 : AbsentOrNone (a.lookup "a")) :
    construct w a = .error .param := by
  apply missing_required_refused
  right; left
  rw [prepCall_eq]
  exact pick_none h2 h1

/-! ### accepted ⇔ valid labels after defaulting -/

omit [Field α] in
theorem checkLabels_accepts_iff_validLabels (kw : Args α) :
    (∃ l, checkLabels (eff kw "pressure_mode") (eff kw "pressure_unit") (eff kw "loading_basis") (eff kw "loading_unit")
        (eff kw "material_basis") (eff kw "material_unit") (eff kw "temperature_unit") = .ok l ∧ effLabels kw = some l.labels) ↔
      ∃ L, effLabels kw = some L ∧ validLabels L = true :=
  Construct.checkLabels_accepts_iff_validLabels kw

/-- the constructor accepts exactly the label states `validLabels` accepts (after defaulting and forcing), once the three required
descriptors are usable; and the labels it stores are that state -/
theorem construct_accepts_iff_validLabels (w : World α) (a : Args α) (ads : String) (t : α)
    (hreq : missingRequired (prepCall a) = false) (hads : setAdsorbate w (prepCall a).adsorbate = .ok ads)
    (ht : toFloat (prepCall a).temperature = .ok t) :
    (∃ i, construct w a = .ok i ∧ effLabels (prepCall a).kw = some i.lab.labels) ↔
      ∃ L, effLabels (prepCall a).kw = some L ∧ validLabels L = true :=
  Construct.construct_accepts_iff_validLabels w a ads t hreq hads ht

theorem accepted_labels_valid (w : World α) (a : Args α) (i : Construct.Iso α) (h : construct w a = .ok i) : validLabels i.lab.labels = true :=
  Construct.accepted_labels_valid w a i h

/-! ### defaults -/

omit [Field α] in
/-- an omitted unit parameter is read as the default of the (generated) table … -/
theorem defaults_applied (kw : Args α) (k d : String) (habs : kw.lookup k = none) (hd : unitParams.lookup k = some d) :
    eff kw k = .str d := by
  simp [eff, habs, hd]

omit [Field α] in
/-- … and a given one as given (even `None`: presence of the key is what counts) -/
theorem given_unit_param_kept (kw : Args α) (k : String) (v : Val α) (h : kw.lookup k = some v) : eff kw k = v := by
  simp [eff, h]

omit [Field α] in
lemma kw_lookup_none (a : Args α) (k : String) (h : a.lookup k = none) : (prepCall a).kw.lookup k = none := by
  rw [prepCall_eq]
  show (a.filter fun kv => !specialKeys.contains kv.1).lookup k = none
  rw [lookup_filter_key a (fun k => !specialKeys.contains k) k, h]
  simp

omit [Field α] in
/-- with no unit parameter given the label checks see the defaults of the (generated) table, and pass -/
lemma defaults_checked (a : Args α) (hno : ∀ k ∈ unitPops, a.lookup k = none) :
    checked (prepCall a).kw = .ok ⟨"absolute", .str "bar", "molar", .str "mmol", "mass", .str "g", "K"⟩ := by
  simp only [unitPops, List.forall_mem_cons] at hno
  obtain ⟨h1, h2, h3, h4, h5, h6, h7, -⟩ := hno
  simp only [checked, eff, kw_lookup_none a _ h1, kw_lookup_none a _ h2, kw_lookup_none a _ h3, kw_lookup_none a _ h4, kw_lookup_none a _ h5,
    kw_lookup_none a _ h6, kw_lookup_none a _ h7, unitParams, List.lookup_cons, String.reduceBEq, Option.getD_some, Option.getD_none]
  have hf : hasPrefix relativePrefix "absolute" = false := by decide +kernel
  refine (checkLabels_ok_iff _ _ _ _ _ _ _ _).2 ⟨_, _, _, _, rfl, rfl, rfl, rfl, by rw [forced, hf]; rfl, ?_⟩
  simp only [LabelVals.labels, strOf_str]
  decide +kernel

/-- with no unit parameter given an accepted isotherm carries the DOCUMENTED defaults: absolute pressure in bar, mmol per g, kelvin -/
theorem documented_defaults_applied (w : World α) (a : Args α) (i : Construct.Iso α) (h : construct w a = .ok i)
    (hno : ∀ k ∈ unitPops, a.lookup k = none) :
    i.lab = ⟨"absolute", .str "bar", "molar", .str "mmol", "mass", .str "g", "K"⟩ := by
  obtain ⟨-, -, -, hl, -, -⟩ := (construct_ok_iff w a i).1 h
  rw [defaults_checked a hno] at hl
  exact (Except.ok.inj hl).symm

/-- and such a call IS accepted whenever the three descriptors are usable -/
theorem documented_defaults_accepted (w : World α) (a : Args α) (ads : String) (t : α)
    (hreq : missingRequired (prepCall a) = false) (hads : setAdsorbate w (prepCall a).adsorbate = .ok ads)
    (ht : toFloat (prepCall a).temperature = .ok t) (hno : ∀ k ∈ unitPops, a.lookup k = none) :
    ∃ i, construct w a = .ok i :=
  ⟨⟨_, ads, t, _, _⟩, (construct_ok_iff w a _).2 ⟨hreq, hads, ht, defaults_checked a hno, rfl, rfl⟩⟩

/-! ### relative modes -/

theorem relative_mode_forces_no_pressure_unit (w : World α) (a : Args α) (i : Construct.Iso α) (h : construct w a = .ok i)
    (hp : hasPrefix relativePrefix i.lab.pmode = true) : i.lab.punit = Val.none := by
  obtain ⟨-, -, -, hl, -, -⟩ := (construct_ok_iff w a i).1 h
  obtain ⟨pms, lbs, mbs, tus, -, -, -, -, h5, -⟩ := (checkLabels_ok_iff _ _ _ _ _ _ _ _).1 hl
  rw [h5] at hp ⊢
  simp only at hp
  simp [forced, hp]

/-- every accepted isotherm whose mode is not `absolute` stores no pressure unit (all other modes of the generated table carry the prefix) -/
theorem non_absolute_isotherm_has_no_pressure_unit (w : World α) (a : Args α) (i : Construct.Iso α) (h : construct w a = .ok i)
    (hp : i.lab.pmode ≠ "absolute") : i.lab.punit = Val.none ∧ i.lab.labels.punit = none := by
  have hv := accepted_labels_valid w a i h
  have hm : (pressureMode.lookup i.lab.pmode).isSome = true := by
    unfold validLabels LabelVals.labels at hv
    simp only [Bool.and_eq_true] at hv
    exact hv.1.1.1.1.1
  obtain ⟨kv, hkv, hkv'⟩ := List.mem_map.1 ((mem_keys_iff _ _).2 hm)
  have hpre : hasPrefix relativePrefix i.lab.pmode = true := by
    rw [← hkv']
    exact non_absolute_modes_have_prefix kv hkv (by rw [hkv']; exact hp)
  have := relative_mode_forces_no_pressure_unit w a i h hpre
  exact ⟨this, by rw [LabelVals.labels, this]; rfl⟩

/-! ### what ends up among the metadata -/

/-- the metadata are exactly the keyword arguments that are not a unit parameter, a named parameter or a shorthand -/
theorem properties_are_the_other_keys (w : World α) (a : Args α) (i : Construct.Iso α) (h : construct w a = .ok i) (k : String) :
    i.properties.lookup k = if unitPops.contains k || specialKeys.contains k then none else a.lookup k :=
  Construct.properties_are_the_other_keys w a i h k

/-- no unit parameter, required descriptor or shorthand appears among the metadata; every metadata key was passed by the caller -/
theorem reserved_keys_not_in_properties (w : World α) (a : Args α) (i : Construct.Iso α) (h : construct w a = .ok i) :
    ∀ k ∈ keys i.properties, k ∉ unitPops ∧ k ∉ initParams ∧ k ∉ shorthands.map (·.1) ∧ k ∈ keys a :=
  Construct.reserved_keys_not_in_properties w a i h

/-- as the code has it: the reserved PRIVATE names are not consumed, so they pass as metadata like any other key -/
theorem private_names_pass_as_metadata (w : World α) (a : Args α) (i : Construct.Iso α) (h : construct w a = .ok i) :
    i.properties.lookup "_material" = a.lookup "_material" ∧ i.properties.lookup "_temperature" = a.lookup "_temperature" := by
  constructor <;> rw [properties_are_the_other_keys w a i h] <;> rfl

theorem properties_keys_nodup (w : World α) (a : Args α) (i : Construct.Iso α) (h : construct w a = .ok i) (hn : (keys a).Nodup) :
    (keys i.properties).Nodup :=
  Construct.properties_keys_nodup w a i h hn

/-! ### shorthands -/

/-- the constructor sees a call only through the three descriptors after the shorthand loop and the remaining keywords -/
theorem shorthand_equiv (w : World α) (a a' : Args α) (h : prepCall a = prepCall a') : construct w a = construct w a' := by
  rw [construct_eq, construct_eq, h]

omit [Field α] in
/-- what the call sees of a keyword dictionary with one more of the keys the constructor takes out in front: the same remaining
keywords, and the look-ups that `List.lookup_cons` gives -/
lemma prepCall_cons_special (k : String) (v : Val α) (a : Args α) (hk : k ∈ specialKeys) :
    prepCall ((k, v) :: a) =
      ⟨pick (((k, v) :: a).lookup "m") ((((k, v) :: a).lookup "material").getD .none),
       pick (((k, v) :: a).lookup "a") ((((k, v) :: a).lookup "adsorbate").getD .none),
       pick (((k, v) :: a).lookup "t") ((((k, v) :: a).lookup "temperature").getD .none), (prepCall a).kw⟩ := by
  rw [prepCall_eq, prepCall_eq, List.filter_cons_of_neg (by simpa using hk)]

omit [Field α] in
/-- the common case of the four theorems below that put a value under a shorthand: in front of `a`, which has no shorthand `s`, the entry `(s, v)` with a value, with or
without an entry for the long name `n` behind it, is read as the entry `(n, v)` -/
lemma prepCall_shorthand (s n : String) (hsn : (s, n) ∈ shorthands) (a rest : Args α) (v : Val α) (hv : v.isNone = false)
    (hrest : rest = [] ∨ ∃ v', rest = [(n, v')]) (h1 : s ∉ keys a) :
    prepCall ((s, v) :: (rest ++ a)) = prepCall ((n, v) :: a) := by
  have e1 := lookup_none_of_not_mem h1
  have hs := (by decide +kernel : ∀ sp ∈ shorthands, sp.1 ∈ specialKeys ∧ sp.2 ∈ specialKeys) _ hsn
  have hkw : (prepCall (rest ++ a)).kw = (prepCall a).kw := by
    rcases hrest with rfl | ⟨v', rfl⟩
    · rfl
    · rw [List.singleton_append, prepCall_cons_special _ _ _ hs.2]
  rw [prepCall_cons_special _ _ _ hs.1, prepCall_cons_special _ _ _ hs.2, hkw]
  simp only [shorthands, List.mem_cons, Prod.mk.injEq, List.not_mem_nil, or_false] at hsn
  rcases hsn with ⟨rfl, rfl⟩ | ⟨rfl, rfl⟩ | ⟨rfl, rfl⟩ <;> rcases hrest with rfl | ⟨v', rfl⟩ <;>
    simp only [List.lookup_cons, List.nil_append, List.singleton_append, String.reduceBEq, e1, pick_some hv, pick_absent,
      Option.getD_some]

/-- `m=v` ≡ `material=v` -/
theorem shorthand_material (w : World α) (a : Args α) (v : Val α) (hv : v.isNone = false) (h1 : "m" ∉ keys a) (h2 : "material" ∉ keys a) :
    construct w (("m", v) :: a) = construct w (("material", v) :: a) :=
  shorthand_equiv w _ _ (prepCall_shorthand "m" "material" (by decide +kernel) a [] v hv (.inl rfl) h1)

/-- `a=v` ≡ `adsorbate=v` -/
theorem shorthand_adsorbate (w : World α) (a : Args α) (v : Val α) (hv : v.isNone = false) (h1 : "a" ∉ keys a) (h2 : "adsorbate" ∉ keys a) :
    construct w (("a", v) :: a) = construct w (("adsorbate", v) :: a) :=
  shorthand_equiv w _ _ (prepCall_shorthand "a" "adsorbate" (by decide +kernel) a [] v hv (.inl rfl) h1)

/-- `t=v` ≡ `temperature=v`, for every value that is not `None` — zero and `False` included -/
theorem shorthand_temperature (w : World α) (a : Args α) (v : Val α) (hv : v.isNone = false) (h1 : "t" ∉ keys a) (h2 : "temperature" ∉ keys a) :
    construct w (("t", v) :: a) = construct w (("temperature", v) :: a) :=
  shorthand_equiv w _ _ (prepCall_shorthand "t" "temperature" (by decide +kernel) a [] v hv (.inl rfl) h1)

/-- both spellings given: the shorthand wins … -/
theorem shorthand_wins (w : World α) (a : Args α) (v v' : Val α) (hv : v.isNone = false) (h1 : "t" ∉ keys a) (h2 : "temperature" ∉ keys a) :
    construct w (("t", v) :: ("temperature", v') :: a) = construct w (("temperature", v) :: a) :=
  shorthand_equiv w _ _ (prepCall_shorthand "t" "temperature" (by decide +kernel) a [("temperature", v')] v hv (.inr ⟨v', rfl⟩) h1)

/-- … unless it is `None`, which counts as not given -/
theorem shorthand_none_ignored (w : World α) (a : Args α) (v' : Val α) (h1 : "t" ∉ keys a) (h2 : "temperature" ∉ keys a) :
    construct w (("t", Val.none) :: ("temperature", v') :: a) = construct w (("temperature", v') :: a) := by
  apply shorthand_equiv
  rw [prepCall_cons_special "t" _ _ (by decide +kernel), prepCall_cons_special "temperature" _ _ (by decide +kernel)]
  simp only [List.lookup_cons, String.reduceBEq, lookup_none_of_not_mem h1, pick_None, pick_absent, Option.getD_some]

/-! ### the dictionary route -/

/-- an accepted isotherm is well-formed: valid labels, no pressure unit under a relative mode, metadata keys distinct and none of them a
key the constructor consumes -/
theorem construct_wellformed (w : World α) (a : Args α) (i : Construct.Iso α) (h : construct w a = .ok i) (hn : (keys a).Nodup) :
    validLabels i.lab.labels = true ∧ forced i.lab.pmode i.lab.punit = i.lab.punit ∧
      (∀ k ∈ keys i.properties, k ∉ specialKeys ∧ k ∉ unitPops) ∧ (keys i.properties).Nodup :=
  Construct.construct_wellformed w a i h hn

/-- `to_dict()` of a well-formed metadata-only isotherm: its ten own entries followed by the metadata; and handing that dictionary back
to the constructor reproduces the isotherm — in any session `w'` whose registries resolve the material and the adsorbate to themselves -/
theorem toDict_construct (w' : World α) (i : Construct.Iso α) (m : Val α)
    (hm : matVal i.material = .ok m) (hm' : setMaterial w' m = i.material)
    (ha : (w'.adsFind i.adsorbate).getD i.adsorbate = i.adsorbate)
    (hl : validLabels i.lab.labels = true) (hf : forced i.lab.pmode i.lab.punit = i.lab.punit)
    (hp : ∀ k ∈ keys i.properties, k ∉ specialKeys ∧ k ∉ unitPops) (hn : (keys i.properties).Nodup) :
    toDictBase i = .ok (topDict i m ++ i.properties) ∧ construct w' (topDict i m ++ i.properties) = .ok i := by
  exact ⟨toDictBase_eq i m hm hp hn, construct_topDict w' i m hm hm' ha hl hf hp⟩

/-- construct, export, construct again: for any keyword dictionary the constructor accepts, `to_dict()` succeeds as soon as the material
can be named, and the constructor applied to it gives the same isotherm (same material, adsorbate, temperature, labels, metadata in the
same order) -/
theorem construct_toDict (w w' : World α) (a : Args α) (i : Construct.Iso α) (m : Val α) (h : construct w a = .ok i) (hn : (keys a).Nodup)
    (hm : matVal i.material = .ok m) (hm' : setMaterial w' m = i.material)
    (ha : (w'.adsFind i.adsorbate).getD i.adsorbate = i.adsorbate) :
    ∃ d, toDictBase i = .ok d ∧ construct w' d = .ok i ∧ (∀ k ∈ unitPops ++ initParams, (d.lookup k).isSome = true) := by
  obtain ⟨hl, hf, hp, hnp⟩ := construct_wellformed w a i h hn
  obtain ⟨h1, h2⟩ := toDict_construct w' i m hm hm' ha hl hf hp hnp
  refine ⟨_, h1, h2, ?_⟩
  intro k hk
  rw [← mem_keys_iff, keys_append, keys_topDict]
  have : ∀ k ∈ unitPops ++ initParams, k ∈ topKeys := by decide +kernel
  exact List.mem_append_left _ (this k hk)

omit [Field α] in
/-- the material resolves to itself when it is not registered in the session: a name … -/
theorem material_fixpoint_name (w' : World α) (s : String) (h : w'.matFind s = none) :
    matVal (⟨.str s, []⟩ : Mat α) = .ok (.str s) ∧ setMaterial w' (.str s) = ⟨.str s, []⟩ := by
  constructor
  · rfl
  · simp [setMaterial, Val.str, h]

omit [Field α] in
/-- … or a name with properties (exported as a dictionary whose first entry is the name) -/
theorem material_fixpoint_dict (w' : World α) (s : String) (kv : String × Sc α) (p : List (String × Sc α)) (h : w'.matFind s = none)
    (hk : "name" ∉ keys (kv :: p)) :
    matVal (⟨.str s, kv :: p⟩ : Mat α) = .ok (.dict (("name", .str s) :: kv :: p)) ∧
      setMaterial w' (.dict (("name", .str s) :: kv :: p)) = ⟨.str s, kv :: p⟩ := by
  constructor
  · rfl
  · have hd : del (("name", Sc.str s) :: kv :: p) "name" = kv :: p := by
      unfold del
      rw [List.filter_cons]
      simp only [bne_self_eq_false, Bool.false_eq_true, if_false]
      apply List.filter_eq_self.2
      intro x hx
      have : x.1 ≠ "name" := fun hc => hk (hc ▸ List.mem_map_of_mem hx)
      simpa using this
    simp only [setMaterial, List.lookup_cons_self, Option.getD_some, h, hd]
    rfl

/-! ### the order of keyword arguments -/

/-- the content does not depend on the order of the keyword arguments: a permuted call is accepted / refused alike (same error class),
and an accepted one differs at most in the order of the metadata -/
theorem properties_order_irrelevant (w : World α) (a₁ a₂ : Args α) (hp : a₁.Perm a₂) (hn : (keys a₁).Nodup) :
    (∀ i₁, construct w a₁ = .ok i₁ → ∃ i₂, construct w a₂ = .ok i₂ ∧ i₂.material = i₁.material ∧ i₂.adsorbate = i₁.adsorbate ∧
        i₂.temperature = i₁.temperature ∧ i₂.lab = i₁.lab ∧ i₁.properties.Perm i₂.properties) ∧
      (∀ e, construct w a₁ = .error e → construct w a₂ = .error e) := by
  obtain ⟨hc, hperm⟩ := construct_perm w hp hn
  constructor
  · intro i₁ h₁
    obtain ⟨-, -, -, -, -, hprops⟩ := (construct_ok_iff w a₁ i₁).1 h₁
    rw [hc, h₁]
    exact ⟨_, rfl, rfl, rfl, rfl, rfl, by rw [hprops]; exact hperm⟩
  · intro e h₁
    rw [hc, h₁]
    rfl

/-- … hence the identifier does not depend on the order of the keyword arguments (identifier = uninterpreted hash of the key-sorted
`to_dict()`, `Model/Json.isoId`; `pr` prints floats) -/
theorem id_independent_of_keyword_order {ι : Type} (H : Json.Dict × Json.Payload → ι) (pr : α → String) (w : World α) (a₁ a₂ : Args α)
    (hp : a₁.Perm a₂) (hn : (keys a₁).Nodup) (i₁ i₂ : Construct.Iso α) (h₁ : construct w a₁ = .ok i₁) (h₂ : construct w a₂ = .ok i₂)
    (d₁ d₂ : Args α) (hd₁ : toDictBase i₁ = .ok d₁) (hd₂ : toDictBase i₂ = .ok d₂) :
    Json.isoId H (content pr d₁) = Json.isoId H (content pr d₂) := by
  obtain ⟨i₂', h₂', e1, e2, e3, e4, e5⟩ := (properties_order_irrelevant w a₁ a₂ hp hn).1 i₁ h₁
  rw [h₂] at h₂'
  injection h₂' with h₂'
  subst h₂'
  obtain ⟨-, -, hp₁, hn₁⟩ := construct_wellformed w a₁ i₁ h₁ hn
  obtain ⟨-, -, hp₂, hn₂⟩ := construct_wellformed w a₂ i₂ h₂ (perm_nodup_keys hp hn)
  obtain ⟨m, hm, rfl⟩ := toDictBase_ok hd₁ hp₁ hn₁
  obtain ⟨m₂, hm₂, rfl⟩ := toDictBase_ok hd₂ hp₂ hn₂
  obtain rfl : m = m₂ := Except.ok.inj ((e1 ▸ hm).symm.trans hm₂)
  have htop : topDict i₂ m = topDict i₁ m := by simp [topDict, e2, e3, e4]
  rw [htop]
  apply id_of_permuted_content
  · exact (List.Perm.append_left _ e5).map _
  · show ((render pr (topDict i₁ m ++ i₁.properties)).map (·.1)).Nodup
    rw [keys_render]
    exact nodup_keys_toDict i₁ m hp₁ hn₁
  · rfl

end

/-! ### witnesses and non-vacuity (α = ℚ, by kernel evaluation of the model on the generated tables) -/

/-- a session in which `N2` is an alias of the registered `nitrogen` and no material is registered -/
def w0 : World ℚ := ⟨fun s => if s = "N2" ∨ s = "nitrogen" then some "nitrogen" else none, fun _ => none⟩

/-- a minimal call is accepted with the documented defaults (hypotheses of `documented_defaults_applied`,
`construct_accepts_iff_validLabels`, `construct_wellformed`) -/
example : construct w0 [("material", .str "M"), ("adsorbate", .str "N2"), ("t", .sc (.int 77))] =
    .ok ⟨⟨.str "M", []⟩, "nitrogen", 77, ⟨"absolute", .str "bar", "molar", .str "mmol", "mass", .str "g", "K"⟩, []⟩ := by decide +kernel

def aRoundTrip : Args ℚ :=
  [("user", .str "x"), ("material", .dict [("name", .str "M"), ("density", .num 2)]), ("a", .str "N2"),
   ("temperature", .sc (.num 78)), ("pressure_mode", .str "relative%"), ("pressure_unit", .str "bar"), ("n", .sc (.int 3))]

def iRoundTrip : Construct.Iso ℚ :=
  ⟨⟨.str "M", [("density", .num 2)]⟩, "nitrogen", 78, ⟨"relative%", .none, "molar", .str "mmol", "mass", .str "g", "K"⟩,
   [("user", .str "x"), ("n", .sc (.int 3))]⟩

/-- the dictionary route (`toDict_construct`, `construct_toDict`) with a material dictionary, metadata and a relative mode:
construct, export, construct again gives the same isotherm -/
example :
    construct w0 aRoundTrip = .ok iRoundTrip ∧ (toDictBase iRoundTrip).bind (construct w0) = .ok iRoundTrip ∧
      (toDictBase iRoundTrip).map (fun d => (d.lookup "material", d.lookup "pressure_unit", d.lookup "n")) =
        .ok (some (.dict [("name", .str "M"), ("density", .num 2)]), some Val.none, some (.sc (.int 3))) := by
  decide +kernel

/-- both spellings given: the shorthand wins (`shorthand_wins`), zero is a value (`shorthand_temperature`), `None` is not (`shorthand_none_ignored`) -/
theorem both_spellings_witness :
    (construct w0 [("material", .str "M"), ("a", .str "N2"), ("t", .sc (.int 0)), ("temperature", .sc (.int 77))]).map (·.temperature) = .ok 0 ∧
    (construct w0 [("material", .str "M"), ("a", .str "N2"), ("t", .none), ("temperature", .sc (.int 77))]).map (·.temperature) = .ok 77 ∧
    construct w0 [("material", .str "M"), ("a", .str "N2"), ("t", .none)] = .error .param := by decide +kernel

/-- as the code has it: the deprecated `loading_basis='volume'` is refused — the rewrite to `volume_gas` tests the class default
(`volume_rewrite_is_dead`), not the argument -/
theorem deprecated_volume_basis_refused_witness :
    construct w0 [("material", .str "M"), ("adsorbate", .str "N2"), ("temperature", .sc (.int 77)), ("loading_basis", .str "volume"),
      ("loading_unit", .str "cm3")] = .error .param := by decide +kernel

/-- as the code has it: an invalid material unit is refused with a KeyError when the loading basis is not also a material basis (the
message of the ParameterError reads `_MATERIAL_MODE[self.loading_basis]`), with a ParameterError otherwise -/
theorem material_unit_refusal_class_witness :
    construct w0 [("material", .str "M"), ("adsorbate", .str "N2"), ("temperature", .sc (.int 77)), ("loading_basis", .str "volume_gas"),
      ("loading_unit", .str "mL"), ("material_basis", .str "molar"), ("material_unit", .str "g")] = .error .key ∧
    construct w0 [("material", .str "M"), ("adsorbate", .str "N2"), ("temperature", .sc (.int 77)), ("loading_basis", .str "mass"),
      ("loading_unit", .str "mg"), ("material_basis", .str "molar"), ("material_unit", .str "g")] = .error .param := by decide +kernel

def dNamed : Val ℚ := .dict [("name", .str "X"), ("density", .num 2)]

def aNamed : Args ℚ := [("material", dNamed), ("adsorbate", .str "N2"), ("temperature", .sc (.int 77))]

/-- the arguments can be used again (finding S58-C05, repaired: the material setter works on a copy of a dictionary): what the caller
holds after a call is what was passed, so a second construction from the same argument OBJECTS is the same isotherm — same content, same
identifier (`construct` is a function of the arguments; `id_independent_of_keyword_order` for the identifier) -/
theorem arguments_unchanged_by_call (a : Args α) : argsAfterCall dictAfterCall a = a := by
  induction a with
  | nil => rfl
  | cons kv t ih =>
    have h : argsAfterCall dictAfterCall (kv :: t) = (if kv.1 = "material" ∨ kv.1 = "m" then (kv.1, dictAfterCall kv.2) else kv) ::
        argsAfterCall dictAfterCall t := rfl
    rw [h, ih]
    by_cases hk : kv.1 = "material" ∨ kv.1 = "m" <;> simp [hk, dictAfterCall]

theorem second_construction_same [Field α] (w : World α) (a : Args α) :
    construct w (argsAfterCall dictAfterCall a) = construct w a := by
  rw [arguments_unchanged_by_call]

/-- the dictionary route of the material, twice from the same arguments -/
example : construct w0 (argsAfterCall dictAfterCall aNamed) = construct w0 aNamed ∧
    (construct w0 aNamed).map (·.material) = .ok ⟨.str "X", [("density", .num 2)]⟩ := by decide +kernel

/-- the copy is NEEDED: a setter that takes `name` out of the argument itself (`dictAfterPoppingCall`, the tree before S58-C05) leaves the
caller a dictionary without the name, and the SAME dictionary object handed to a second constructor call describes a nameless material —
the two isotherms differ although the program passed the same arguments twice -/
theorem popping_setter_breaks_reuse_witness :
    dictAfterPoppingCall dNamed = .dict [("density", .num 2)] ∧ setMaterial w0 dNamed = ⟨.str "X", [("density", .num 2)]⟩ ∧
      setMaterial w0 (dictAfterPoppingCall dNamed) = ⟨.sc .none, [("density", .num 2)]⟩ ∧
      construct w0 (argsAfterCall dictAfterPoppingCall aNamed) ≠ construct w0 aNamed := by decide +kernel

/-- labels of the wrong type: a mode that is not a string is an AttributeError, an unhashable unit a TypeError,
an adsorbate that is not a string an AttributeError — refused all the same -/
theorem wrong_types_refused_witness :
    construct w0 [("material", .str "M"), ("adsorbate", .str "N2"), ("temperature", .sc (.int 77)), ("pressure_mode", .none)] = .error .attr ∧
    construct w0 [("material", .str "M"), ("adsorbate", .str "N2"), ("temperature", .sc (.int 77)), ("loading_unit", .list [.str "mmol"])] = .error .type ∧
    construct w0 [("material", .str "M"), ("adsorbate", .sc (.int 5)), ("temperature", .sc (.int 77))] = .error .attr := by decide +kernel

/-- under fraction / percent the loading and material units are stored unchecked (`validLabels` does not look at them either) -/
theorem fraction_units_unchecked_witness :
    (construct w0 [("material", .str "M"), ("adsorbate", .str "N2"), ("temperature", .sc (.int 77)), ("loading_basis", .str "fraction"),
      ("loading_unit", .sc (.int 5)), ("material_unit", .str "nonsense")]).map (fun i => (i.lab.lunit, i.lab.munit)) =
      .ok (.sc (.int 5), .str "nonsense") := by decide +kernel

/-! ### the data arguments of the two data-carrying classes (control logic only) -/

theorem default_branches :
    pointInitParams.lookup "branch" = some (some "guess") ∧ modelInitParams.lookup "branch" = some (some "ads") := by decide +kernel

/-- arrays: standard keys, no other keys, marks guessed from the pressures (`splitAds`); a table: the given keys first, `branch` third — also when
the table has such a column (then it is used as it is and `branch=` is ignored) —, the remaining columns sorted -/
theorem point_data_witness :
    pointData (⟨some [1, 2, 3, 2], some [1, 2, 3, 4], none, none, none, .str "guess"⟩ : PointArgs ℚ) =
      .ok ⟨"pressure", "loading", ["pressure", "loading", "branch"], [], [some 0, some 0, some 0, some 1]⟩ ∧
    pointData (⟨none, none, some ⟨["z", "p", "n", "branch", "a"], 2, [("p", [1, 2]), ("branch", [1, 0])]⟩, some "p", some "n", .str "ads"⟩ : PointArgs ℚ) =
      .ok ⟨"p", "n", ["p", "n", "branch", "a", "z"], ["a", "z"], [some 1, some 0]⟩ ∧
    pointData (⟨none, none, some ⟨["z", "p", "n"], 2, [("p", [1, 2])]⟩, some "p", some "n", .str "des"⟩ : PointArgs ℚ) =
      .ok ⟨"p", "n", ["p", "n", "branch", "z"], ["z"], [some 1, some 1]⟩ ∧
    pointData (⟨some [1, 2], none, none, none, none, .str "guess"⟩ : PointArgs ℚ) = .error .param ∧
    pointData (⟨some [1, 2], some [1, 2], none, none, none, .str "both"⟩ : PointArgs ℚ) = .error .param := by decide +kernel

/-- a model isotherm around a model INSTANCE stores the instance and the branch unchecked; with data the branch must be `ads` / `des` and
select at least one point; without a model nothing is accepted -/
theorem model_route_witness :
    modelRoute (⟨none, none, none, none, none, .str "guess", .inst "Henry"⟩ : ModelArgs ℚ) = .ok (.stored "Henry" (.str "guess")) ∧
    modelRoute (⟨none, none, some ⟨["p", "n"], 3, [("p", [1, 3, 2])]⟩, some "p", some "n", .str "des", .name "Henry"⟩ : ModelArgs ℚ) =
      .ok (.fit (.str "des") [2]) ∧
    modelRoute (⟨none, none, some ⟨["p", "n"], 3, [("p", [1, 2, 3])]⟩, some "p", some "n", .str "des", .name "Henry"⟩ : ModelArgs ℚ) = .error .param ∧
    modelRoute (⟨some [1], some [1], none, none, none, .str "ads", .none⟩ : ModelArgs ℚ) = .error .param ∧
    modelRoute (⟨none, none, none, none, none, .str "ads", .name "Henry"⟩ : ModelArgs ℚ) = .error .param := by decide +kernel

def iPlain : Construct.Iso ℚ :=
  ⟨⟨.str "M", []⟩, "nitrogen", 77, ⟨"absolute", .str "bar", "molar", .str "mmol", "mass", .str "g", "K"⟩, [("user", .str "x")]⟩

/-- `ModelIsotherm.to_dict()` exports the branch (and not the model); `PointIsotherm.to_dict()` is the metadata-only dictionary -/
theorem subclass_toDict_witness :
    (toDictModel iPlain (.str "des")).map (fun d => (d.lookup "branch", d.lookup "model")) = .ok (some (.str "des"), none) ∧
      toDictPoint iPlain = toDictBase iPlain := by decide +kernel

end PgVerif.C05
