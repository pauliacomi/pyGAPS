/-
C05 — "changing ANY unit label, the material, adsorbate, temperature, any metadata entry or anything of the payload changes the
identifier", for EVERY configuration (every pressure mode, every loading / material basis, all three isotherm classes).

Statements are about `PgVerif.Model.Identity`: a `Content` (material, adsorbate, temperature, the seven labels, metadata, payload)
is turned into the hashed dictionary by `Content.toIso` (constructor + `to_dict`), the identifier is `contentId H c = H (canon (toIso c))`.

Equal canonical forms have equal values under every key, hence equal stored labels — all seven, with no side condition on mode or
basis; from that the full statement (same identifier ⇔ same stored content, metadata up to order, for an injective hash) and one theorem
per label as its instances.  The only side condition in the family is "pressure mode not relative" for the pressure unit, and
`pressure_unit_not_stored_when_relative` shows that it is needed.  Last: every column of every row is part of the payload.
-/
import Mathlib.Tactic
import Mathlib.Data.List.Nodup
import PgVerif.Model.Identity
import PgVerif.Props.C05

namespace PgVerif.C05
open PgVerif.Model.Json PgVerif.Model.Identity

/-! ### dictionaries with distinct keys: a key has one value, and `canon` keeps it -/

lemma value_unique {d : Dict} (hn : (d.map (·.1)).Nodup) {k : String} {v w : MVal} (hv : (k, v) ∈ d) (hw : (k, w) ∈ d) : v = w := by
  have := List.inj_on_of_nodup_map hn hv hw rfl
  exact (Prod.mk.injEq _ _ _ _ ▸ this).2

theorem canon_entry_mem (a b : Iso) (h : canon a = canon b) {k : String} {v : MVal} (hv : (k, v) ∈ a.core) : (k, v) ∈ b.core :=
  ((canon_injective a b h).1).subset hv

theorem canon_entry_eq (a b : Iso) (hn : (b.core.map (·.1)).Nodup) (h : canon a = canon b) {k : String} {v w : MVal}
    (hv : (k, v) ∈ a.core) (hw : (k, w) ∈ b.core) : v = w :=
  value_unique hn (canon_entry_mem a b h hv) hw

/-- an entry that differs (any key: a label, a metadata key, material, adsorbate, temperature) shows in the canonical form -/
theorem canon_differs_of_entry_differs (a b : Iso) (hn : (b.core.map (·.1)).Nodup) {k : String} {v w : MVal}
    (hv : (k, v) ∈ a.core) (hw : (k, w) ∈ b.core) (hne : v ≠ w) : canon a ≠ canon b :=
  fun h => hne (canon_entry_eq a b hn h hv hw)

theorem canon_differs_of_entry_missing (a b : Iso) {k : String} {v : MVal} (hv : (k, v) ∈ a.core) (hb : (k, v) ∉ b.core) :
    canon a ≠ canon b :=
  fun h => hb (canon_entry_mem a b h hv)

/-- well-formed content: metadata keys are pairwise distinct and none of them is owned by the constructor (python: a `dict`
passed as `**properties` next to the named parameters) -/
def WF (c : Content) : Prop := (c.metadata.map (·.1)).Nodup ∧ ∀ k ∈ c.metadata.map (·.1), k ∉ fixedKeys

lemma fixed_keys (c : Content) : c.fixed.map (·.1) = fixedKeys := rfl

lemma fixedKeys_nodup : fixedKeys.Nodup := by decide +kernel

lemma toIso_keys_nodup (c : Content) (h : WF c) : ((c.toIso).core.map (·.1)).Nodup := by
  unfold Content.toIso
  rw [List.map_append, fixed_keys]
  refine List.Nodup.append fixedKeys_nodup h.1 ?_
  intro k hk hk'
  exact h.2 k hk' hk

lemma optStr_injective : Function.Injective optStr := by
  intro a b h
  cases a <;> cases b <;> simp_all [optStr]

lemma str_injective : Function.Injective strVal := by
  intro a b h
  simpa [strVal] using h

theorem labels_toDict_injective : Function.Injective Labels.toDict := by
  intro u v h
  simp only [Labels.toDict, List.cons.injEq, Prod.mk.injEq, true_and, and_true] at h
  obtain ⟨h1, h2, h3, h4, h5, h6, h7⟩ := h
  cases u; cases v
  simp only [Labels.mk.injEq]
  exact ⟨str_injective h1, optStr_injective h2, str_injective h5, optStr_injective h6, str_injective h3, optStr_injective h4,
    str_injective h7⟩

private lemma mem_fixed_of_mem_labels (c : Content) {kv : String × MVal} (h : kv ∈ c.labels.stored.toDict) : kv ∈ c.toIso.core := by
  unfold Content.toIso Content.fixed
  exact List.mem_append_left _ (List.mem_append_right _ h)

lemma eq_of_keys_eq : ∀ {l₁ l₂ : Dict}, l₁.map (·.1) = l₂.map (·.1) → (∀ k v w, (k, v) ∈ l₁ → (k, w) ∈ l₂ → v = w) → l₁ = l₂
  | [], [], _, _ => rfl
  | [], _ :: _, hk, _ => nomatch hk
  | _ :: _, [], hk, _ => nomatch hk
  | (k, v) :: t₁, (k', w) :: t₂, hk, hv => by
    obtain ⟨rfl, ht⟩ := List.cons.inj hk
    rw [hv k v w List.mem_cons_self List.mem_cons_self,
      eq_of_keys_eq ht fun k v w h₁ h₂ => hv k v w (List.mem_cons_of_mem _ h₁) (List.mem_cons_of_mem _ h₂)]

theorem fixed_of_canon_eq (c₁ c₂ : Content) (h₂ : WF c₂) (h : canon c₁.toIso = canon c₂.toIso) : c₁.fixed = c₂.fixed :=
  eq_of_keys_eq ((fixed_keys c₁).trans (fixed_keys c₂).symm) fun _ _ _ hv hw =>
    canon_entry_eq c₁.toIso c₂.toIso (toIso_keys_nodup c₂ h₂) h (List.mem_append_left _ hv) (List.mem_append_left _ hw)

lemma fixed_eq_iff (c₁ c₂ : Content) : c₁.fixed = c₂.fixed ↔
    c₁.material = c₂.material ∧ c₁.adsorbate = c₂.adsorbate ∧ c₁.temperature = c₂.temperature ∧ c₁.labels.stored = c₂.labels.stored := by
  constructor
  · intro h
    unfold Content.fixed at h
    simp only [List.cons_append, List.nil_append, List.cons.injEq, Prod.mk.injEq, true_and] at h
    obtain ⟨hm, ha, ht, hl⟩ := h
    refine ⟨hm, str_injective ha, ?_, labels_toDict_injective hl⟩
    simpa using ht
  · rintro ⟨hm, ha, ht, hl⟩
    unfold Content.fixed
    rw [hm, ha, ht, hl]

/-- equal canonical forms ⇒ equal stored labels — ALL seven, for every pressure mode and every loading / material basis -/
theorem stored_labels_of_canon_eq (c₁ c₂ : Content) (h₂ : WF c₂) (h : canon c₁.toIso = canon c₂.toIso) :
    c₁.labels.stored = c₂.labels.stored := by
  exact ((fixed_eq_iff c₁ c₂).1 (fixed_of_canon_eq c₁ c₂ h₂ h)).2.2.2

theorem canon_differs_of_label_differs (c₁ c₂ : Content) (h₂ : WF c₂) (hne : c₁.labels.stored ≠ c₂.labels.stored) :
    canon c₁.toIso ≠ canon c₂.toIso :=
  fun h => hne (stored_labels_of_canon_eq c₁ c₂ h₂ h)

theorem id_differs_of_label_differs {ι : Type} (H : Dict × Payload → ι) (hH : Function.Injective H) (c₁ c₂ : Content) (h₂ : WF c₂)
    (hne : c₁.labels.stored ≠ c₂.labels.stored) : contentId H c₁ ≠ contentId H c₂ :=
  fun h => canon_differs_of_label_differs c₁ c₂ h₂ hne (hH h)

/-- the stored content: everything but the order of the metadata (and the pressure unit of a relative mode) -/
def SameStored (c₁ c₂ : Content) : Prop :=
  c₁.material = c₂.material ∧ c₁.adsorbate = c₂.adsorbate ∧ c₁.temperature = c₂.temperature ∧
    c₁.labels.stored = c₂.labels.stored ∧ c₁.metadata.Perm c₂.metadata ∧ c₁.payload = c₂.payload

/-- FULL STRENGTH: with an injective hash, two (well-formed) contents have the same identifier iff they store the same content —
same material, adsorbate, temperature, same seven labels as stored, same metadata up to order, same payload.  No label, no
configuration is exempt. -/
theorem content_id_eq_iff {ι : Type} (H : Dict × Payload → ι) (hH : Function.Injective H) (c₁ c₂ : Content) (h₁ : WF c₁) (h₂ : WF c₂) :
    contentId H c₁ = contentId H c₂ ↔ SameStored c₁ c₂ := by
  unfold contentId
  rw [id_eq_iff H hH _ _ (toIso_keys_nodup c₁ h₁)]
  constructor
  · rintro ⟨hp, hpay⟩
    have hc : canon c₁.toIso = canon c₂.toIso := (canon_eq_iff _ _ (toIso_keys_nodup c₁ h₁)).2 ⟨hp, hpay⟩
    have hf := fixed_of_canon_eq c₁ c₂ h₂ hc
    obtain ⟨hm, ha, ht, hl⟩ := (fixed_eq_iff c₁ c₂).1 hf
    refine ⟨hm, ha, ht, hl, ?_, hpay⟩
    unfold Content.toIso at hp
    simp only at hp
    rw [hf] at hp
    exact (List.perm_append_left_iff _).1 hp
  · rintro ⟨hm, ha, ht, hl, hp, hpay⟩
    refine ⟨?_, hpay⟩
    unfold Content.toIso
    simp only
    rw [(fixed_eq_iff c₁ c₂).2 ⟨hm, ha, ht, hl⟩]
    exact List.Perm.append_left _ hp

/-- the constructor keeps every label as handed in, but for the pressure unit of a relative mode -/
lemma stored_eq (u : Labels) :
    u.stored = { u with pressureUnit := if isRelative u.pressureMode then none else u.pressureUnit } := by
  unfold Labels.stored
  split <;> rfl

lemma labels_of_stored_eq {u v : Labels} (h : u.stored = v.stored) :
    u.pressureMode = v.pressureMode ∧ u.loadingBasis = v.loadingBasis ∧ u.loadingUnit = v.loadingUnit ∧
      u.materialBasis = v.materialBasis ∧ u.materialUnit = v.materialUnit ∧ u.temperatureUnit = v.temperatureUnit ∧
      (isRelative u.pressureMode = false → u.pressureUnit = v.pressureUnit) := by
  rw [stored_eq, stored_eq, Labels.mk.injEq] at h
  obtain ⟨h1, h2, h3, h4, h5, h6, h7⟩ := h
  refine ⟨h1, h3, h4, h5, h6, h7, fun hr => ?_⟩
  rwa [← h1, hr, if_neg Bool.false_ne_true, if_neg Bool.false_ne_true] at h2

/-! ### one theorem per label: a changed label is a changed identifier -/

section PerLabel
variable {ι : Type} (H : Dict × Payload → ι) (hH : Function.Injective H) (c : Content) (hc : WF c)
include hH hc

theorem pressure_mode_label_changes_id (m : String) (hm : m ≠ c.labels.pressureMode) :
    contentId H { c with labels := { c.labels with pressureMode := m } } ≠ contentId H c :=
  id_differs_of_label_differs H hH _ _ hc fun h => hm (labels_of_stored_eq h).1

/-- pressure unit: any change, in a mode that is not relative (in the relative modes the constructor does not store it) -/
theorem pressure_unit_label_changes_id (hrel : isRelative c.labels.pressureMode = false) (v : Option String)
    (hv : v ≠ c.labels.pressureUnit) : contentId H { c with labels := { c.labels with pressureUnit := v } } ≠ contentId H c :=
  id_differs_of_label_differs H hH _ _ hc fun h => hv ((labels_of_stored_eq h).2.2.2.2.2.2 hrel)

theorem loading_basis_label_changes_id (b : String) (hb : b ≠ c.labels.loadingBasis) :
    contentId H { c with labels := { c.labels with loadingBasis := b } } ≠ contentId H c :=
  id_differs_of_label_differs H hH _ _ hc fun h => hb (labels_of_stored_eq h).2.1

/-- loading unit: any change (to another unit, to `None`, to `''`), on EVERY loading basis — fraction and percent included -/
theorem loading_unit_label_changes_id (v : Option String) (hv : v ≠ c.labels.loadingUnit) :
    contentId H { c with labels := { c.labels with loadingUnit := v } } ≠ contentId H c :=
  id_differs_of_label_differs H hH _ _ hc fun h => hv (labels_of_stored_eq h).2.2.1

theorem material_basis_label_changes_id (b : String) (hb : b ≠ c.labels.materialBasis) :
    contentId H { c with labels := { c.labels with materialBasis := b } } ≠ contentId H c :=
  id_differs_of_label_differs H hH _ _ hc fun h => hb (labels_of_stored_eq h).2.2.2.1

theorem material_unit_label_changes_id (v : Option String) (hv : v ≠ c.labels.materialUnit) :
    contentId H { c with labels := { c.labels with materialUnit := v } } ≠ contentId H c :=
  id_differs_of_label_differs H hH _ _ hc fun h => hv (labels_of_stored_eq h).2.2.2.2.1

theorem temperature_unit_label_changes_id (t : String) (ht : t ≠ c.labels.temperatureUnit) :
    contentId H { c with labels := { c.labels with temperatureUnit := t } } ≠ contentId H c :=
  id_differs_of_label_differs H hH _ _ hc fun h => ht (labels_of_stored_eq h).2.2.2.2.2.1

theorem material_changes_id (m : MVal) (hm : m ≠ c.material) : contentId H { c with material := m } ≠ contentId H c := by
  intro h
  exact hm ((content_id_eq_iff H hH { c with material := m } c hc hc).1 h).1

theorem adsorbate_changes_id (a : String) (ha : a ≠ c.adsorbate) : contentId H { c with adsorbate := a } ≠ contentId H c := by
  intro h
  exact ha ((content_id_eq_iff H hH { c with adsorbate := a } c hc hc).1 h).2.1

theorem temperature_changes_id (t : Scalar) (ht : t ≠ c.temperature) : contentId H { c with temperature := t } ≠ contentId H c := by
  intro h
  exact ht ((content_id_eq_iff H hH { c with temperature := t } c hc hc).1 h).2.2.1

/-- the payload: any change of the rows (a value of any column of any row, a branch mark, a row added or removed) or of the
model dictionary (name, any parameter, rmse, either range) -/
theorem payload_changes_id (p : Payload) (hp : p ≠ c.payload) : contentId H { c with payload := p } ≠ contentId H c := by
  intro h
  exact hp ((content_id_eq_iff H hH { c with payload := p } c hc hc).1 h).2.2.2.2.2

end PerLabel

/-- the side condition of `pressure_unit_label_changes_id` is needed: in a relative mode the pressure unit handed to the
constructor is not stored, hence not content -/
theorem pressure_unit_not_stored_when_relative (c : Content) (hrel : isRelative c.labels.pressureMode = true) (v : Option String) :
    ({ c with labels := { c.labels with pressureUnit := v } } : Content).toIso = c.toIso := by
  unfold Content.toIso Content.fixed Labels.stored
  simp [hrel]

/-! ### every column of every row is in the payload -/

theorem column_change_changes_rows (r₁ r₂ : List Row) (i : Nat) (h₁ : i < r₁.length) (h₂ : i < r₂.length)
    (hne : r₁[i].p ≠ r₂[i].p ∨ r₁[i].l ≠ r₂[i].l ∨ r₁[i].branch ≠ r₂[i].branch ∨ r₁[i].extra ≠ r₂[i].extra) :
    Payload.points r₁ ≠ Payload.points r₂ := by
  intro h
  have hr : r₁ = r₂ := by simpa using h
  subst hr
  simp at hne

theorem row_change_changes_id {ι : Type} (H : Dict × Payload → ι) (hH : Function.Injective H) (c : Content) (hc : WF c)
    (r₁ r₂ : List Row) (hp : c.payload = .points r₁) (i : Nat) (h₁ : i < r₁.length) (h₂ : i < r₂.length)
    (hne : r₁[i].p ≠ r₂[i].p ∨ r₁[i].l ≠ r₂[i].l ∨ r₁[i].branch ≠ r₂[i].branch ∨ r₁[i].extra ≠ r₂[i].extra) :
    contentId H { c with payload := .points r₂ } ≠ contentId H c := by
  apply payload_changes_id H hH c hc
  rw [hp]
  exact (column_change_changes_rows r₁ r₂ i h₁ h₂ hne).symm

theorem model_param_changes_payload (m : ModelDict) (ps : List (String × Scalar)) (hne : ps ≠ m.params) :
    Payload.model { m with params := ps } ≠ Payload.model m := by
  intro h
  have : ({ m with params := ps } : ModelDict) = m := by simpa using h
  exact hne (congrArg ModelDict.params this)

/-! ### non-vacuity: concrete instances (fraction / percent bases, `None` and `''` labels, relative modes) -/

/-- a percent-basis content with the default loading-unit label … -/
def exPercent : Content :=
  ⟨.scalar (.str "carbon"), "nitrogen", .int 77,
   ⟨"absolute", some "bar", "percent", some "mmol", "mass", some "g", "K"⟩, [("user", .scalar (.str "A"))], .none⟩

lemma exPercent_wf : WF exPercent := by
  refine ⟨by decide +kernel, ?_⟩
  intro k hk
  simp only [exPercent, List.map_cons, List.map_nil, List.mem_singleton] at hk
  subst hk
  decide +kernel

example : WF exPercent := exPercent_wf

lemma wf_of_metadata_nil {c : Content} (h : c.metadata = []) : WF c := by
  simp [WF, h]

/-- … differs in canonical form from the same content with the label `mol`, `None` or `''` -/
theorem canon_percent_loading_unit :
    canon exPercent.toIso ≠ canon ({ exPercent with labels := { exPercent.labels with loadingUnit := some "mol" } } : Content).toIso ∧
    canon exPercent.toIso ≠ canon ({ exPercent with labels := { exPercent.labels with loadingUnit := none } } : Content).toIso ∧
    canon ({ exPercent with labels := { exPercent.labels with loadingUnit := none } } : Content).toIso ≠
      canon ({ exPercent with labels := { exPercent.labels with loadingUnit := some "" } } : Content).toIso :=
  ⟨canon_differs_of_label_differs _ _ exPercent_wf (by decide +kernel), canon_differs_of_label_differs _ _ exPercent_wf (by decide +kernel),
    canon_differs_of_label_differs _ _ exPercent_wf (by decide +kernel)⟩

/-- relative mode: the pressure unit is not stored, every other label still is -/
theorem canon_relative_labels :
    let c : Content := ⟨.scalar (.str "carbon"), "nitrogen", .int 77,
      ⟨"relative%", some "bar", "fraction", none, "volume", some "cm3", "°C"⟩, [], .none⟩
    canon c.toIso = canon ({ c with labels := { c.labels with pressureUnit := some "Pa" } } : Content).toIso ∧
    canon c.toIso ≠ canon ({ c with labels := { c.labels with materialUnit := none } } : Content).toIso ∧
    canon c.toIso ≠ canon ({ c with labels := { c.labels with temperatureUnit := "K" } } : Content).toIso ∧
    canon c.toIso ≠ canon ({ c with labels := { c.labels with pressureMode := "relative" } } : Content).toIso := by
  intro c
  exact ⟨congrArg canon (pressure_unit_not_stored_when_relative c (by decide +kernel) _).symm,
    canon_differs_of_label_differs _ _ (wf_of_metadata_nil rfl) (by decide +kernel),
    canon_differs_of_label_differs _ _ (wf_of_metadata_nil rfl) (by decide +kernel),
    canon_differs_of_label_differs _ _ (wf_of_metadata_nil rfl) (by decide +kernel)⟩

/-- an extra column (numeric or text) of one row -/
theorem canon_extra_column :
    let c (e : Scalar) (t : String) : Content := ⟨.scalar (.str "carbon"), "nitrogen", .int 77,
      ⟨"absolute", some "bar", "molar", some "mmol", "mass", some "g", "K"⟩, [],
      .points [⟨.int 1, .int 10, 0, [("enthalpy", .int 5), ("phase", .str "a")]⟩, ⟨.int 2, .int 20, 0, [("enthalpy", e), ("phase", .str t)]⟩]⟩
    canon (c (.int 6) "a").toIso ≠ canon (c (.int 7) "a").toIso ∧ canon (c (.int 6) "a").toIso ≠ canon (c (.int 6) "b").toIso := by
  intro c
  exact ⟨fun h => absurd (canon_injective _ _ h).2 (by decide +kernel), fun h => absurd (canon_injective _ _ h).2 (by decide +kernel)⟩

end PgVerif.C05
