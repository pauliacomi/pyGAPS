/-
C05 — where the real identifier is NOT the `isoId H` of `Props/C05.lean` with an injective `H` (recorded findings S46-C05, S47-C05;
S63-C05 is about the content that is hashed), stated in the model so that the hypothesis that fails is visible, with what does hold
proved as `…_partial`.

The full-strength statements (`id_differs_of_content_differs`, `id_eq_iff`, `content_id_eq_iff`) take the hash as ONE uninterpreted injective
function of (key-sorted dictionary, payload).  `utilities/hashgen.isotherm_to_hash` is of that form for metadata-only and model isotherms.
For measured points it is not, in two places:

  * S46-C05  the payload enters through `hash_pandas_object(rows).sum()`: the hashes of the rows are ADDED.  `rowSumId` is that shape
             (`h` the hash of one row, `G` the md5 of the serialised dictionary).  `rowSumId_perm`: a permutation of the points leaves it
             unchanged, WHATEVER `h` and `G` are; `no_injective_hash_agrees`: so it is `isoId H` for no injective `H` (as soon as two different
             rows exist).  `rowSumId_eq_iff_partial` is what holds: with collision-free `G` and row-hash sums, same identifier ⇔ same
             dictionary (up to order) and the same points UP TO THEIR ORDER.
  * S47-C05  the data hash is stored INTO the dictionary under the key `data_hash` (`raw_dict["data_hash"] = …`, python item assignment =
             `setKey`) before serialisation.  `setKey_shadows`: whatever the user stored under that key is gone;
             `setKey_injective_partial`: for dictionaries that do not use the key nothing is lost.

A third finding is about the CONTENT that is hashed, not the hash:
  * S63-C05  branch marks handed over as a pandas Series are stored by `data_raw['branch'] = <Series>`, which aligns on ROW LABELS (`alignMarks`).
             `alignMarks_same_labels_partial`: right when the Series carries the (distinct) labels of the points; `alignMarks_shifted_labels_witness`,
             `alignMarks_other_labels_witness`: otherwise the marks are shifted / permuted / lost, so the same marks by another route are another content.
-/
import Mathlib.Tactic
import Mathlib.Algebra.BigOperators.Group.Multiset.Basic
import PgVerif.Model.Json
import PgVerif.Props.C05

namespace PgVerif.C05
open PgVerif.Model.Json

/-! ### S46-C05: the row hashes are added -/

/-- the identifier of a point isotherm as the library computes it: `G` of the key-sorted dictionary and of the SUM of the row hashes -/
def rowSumId {ι μ : Type} [AddCommMonoid μ] (G : Dict × μ → ι) (h : Row → μ) (core : Dict) (rows : List Row) : ι :=
  G (sortKeys core, (rows.map h).sum)

theorem rowSumId_perm {ι μ : Type} [AddCommMonoid μ] (G : Dict × μ → ι) (h : Row → μ) (core : Dict) {rows rows' : List Row}
    (hp : rows.Perm rows') : rowSumId G h core rows = rowSumId G h core rows' := by
  unfold rowSumId
  rw [(hp.map h).sum_eq]

/-- the witness of the finding: two points exchanged -/
theorem rowSumId_swap {ι μ : Type} [AddCommMonoid μ] (G : Dict × μ → ι) (h : Row → μ) (core : Dict) (r₁ r₂ : Row) (rest : List Row) :
    rowSumId G h core (r₁ :: r₂ :: rest) = rowSumId G h core (r₂ :: r₁ :: rest) :=
  rowSumId_perm G h core (List.Perm.swap r₂ r₁ rest)

/-- the hypothesis `Function.Injective H` of the full-strength theorems cannot be met by the real hash: no injective `H` gives the
identifiers that `rowSumId` gives (two different rows suffice) -/
theorem no_injective_hash_agrees {ι μ : Type} [AddCommMonoid μ] (G : Dict × μ → ι) (h : Row → μ) (r₁ r₂ : Row) (hne : r₁ ≠ r₂)
    (H : Dict × Payload → ι) (hH : Function.Injective H) :
    ¬ ∀ (core : Dict) (rows : List Row), isoId H ⟨core, .points rows⟩ = rowSumId G h core rows := by
  intro hall
  have e : isoId H ⟨[], .points [r₁, r₂]⟩ = isoId H ⟨[], .points [r₂, r₁]⟩ := by
    rw [hall, hall]
    exact rowSumId_swap G h [] r₁ r₂ []
  have := hH e
  simp only [canon, Prod.mk.injEq, Payload.points.injEq, List.cons.injEq, and_true, true_and] at this
  exact hne this.1

/-- what DOES hold (the order of the points apart, the property as stated): if the outer hash and the sums of row hashes are collision-free,
two point isotherms have the same identifier exactly when their dictionaries agree up to order and their points agree up to order -/
theorem rowSumId_eq_iff_partial {ι μ : Type} [AddCommMonoid μ] (G : Dict × μ → ι) (hG : Function.Injective G) (h : Row → μ)
    (hh : ∀ m m' : Multiset Row, (m.map h).sum = (m'.map h).sum → m = m')
    (a b : Dict) (hn : (a.map (·.1)).Nodup) (rows rows' : List Row) :
    rowSumId G h a rows = rowSumId G h b rows' ↔ a.Perm b ∧ rows.Perm rows' := by
  constructor
  · intro he
    have hp := hG he
    rw [Prod.mk.injEq] at hp
    refine ⟨((sortKeys_perm a).symm.trans (hp.1 ▸ List.Perm.refl _)).trans (sortKeys_perm b), ?_⟩
    have hm : (((rows : Multiset Row)).map h).sum = (((rows' : Multiset Row)).map h).sum := by
      simpa [Multiset.map_coe, Multiset.sum_coe] using hp.2
    exact Multiset.coe_eq_coe.1 (hh _ _ hm)
  · rintro ⟨hp, hr⟩
    unfold rowSumId
    rw [canon_perm_invariant _ _ hp hn, (hr.map h).sum_eq]

theorem rowSumId_differs_of_rows_differ_partial {ι μ : Type} [AddCommMonoid μ] (G : Dict × μ → ι) (hG : Function.Injective G) (h : Row → μ)
    (hh : ∀ m m' : Multiset Row, (m.map h).sum = (m'.map h).sum → m = m')
    (a : Dict) (hn : (a.map (·.1)).Nodup) (rows rows' : List Row) (hne : ¬ rows.Perm rows') :
    rowSumId G h a rows ≠ rowSumId G h a rows' := fun he =>
  hne ((rowSumId_eq_iff_partial G hG h hh a a hn rows rows').1 he).2

/-- non-vacuity of the collision-freeness hypothesis `hh`: the "hash" that keeps the row (sums = the multiset of rows itself) meets it -/
example : ∀ m m' : Multiset Row, (m.map (fun r => ({r} : Multiset Row))).sum = (m'.map (fun r => ({r} : Multiset Row))).sum → m = m' := by
  intro m m' he
  simpa [Multiset.sum_map_singleton] using he

/-- a concrete instance of the finding in the executable model: the full-strength model tells the two isotherms apart … -/
example : canon ⟨[], .points [⟨.int 1, .int 10, 0, []⟩, ⟨.int 2, .int 20, 0, []⟩]⟩ ≠
    canon ⟨[], .points [⟨.int 2, .int 20, 0, []⟩, ⟨.int 1, .int 10, 0, []⟩]⟩ := by decide +kernel

/-- … the library's shape does not (row hash = pressure + 100 · loading, say) -/
example : rowSumId (μ := ℕ) id (fun r => match r.p, r.l with | .int p, .int l => p.toNat + 100 * l.toNat | _, _ => 0) []
      [⟨.int 1, .int 10, 0, []⟩, ⟨.int 2, .int 20, 0, []⟩] =
    rowSumId (μ := ℕ) id (fun r => match r.p, r.l with | .int p, .int l => p.toNat + 100 * l.toNat | _, _ => 0) []
      [⟨.int 2, .int 20, 0, []⟩, ⟨.int 1, .int 10, 0, []⟩] := by decide +kernel

/-! ### S47-C05: the data hash is written into the dictionary under the key `data_hash` -/

/-- python's `d[k] = v` on a dictionary -/
def setKey (k : String) (v : MVal) (d : Dict) : Dict := (k, v) :: d.filter (fun kv => kv.1 != k)

/-- whatever the dictionary held under the key is overwritten: two contents that differ only there are hashed as one -/
theorem setKey_shadows (k : String) (v x y : MVal) (d : Dict) : setKey k v ((k, x) :: d) = setKey k v ((k, y) :: d) := by
  simp [setKey]

/-- … and so is a content that has no such entry at all -/
theorem setKey_shadows_absent (k : String) (v x : MVal) (d : Dict) : setKey k v ((k, x) :: d) = setKey k v d := by
  simp [setKey]

/-- what does hold: for dictionaries that do not use the key (every metadata key but the hashing function's own) nothing is lost -/
theorem setKey_injective_partial (k : String) (v w : MVal) (a b : Dict) (ha : ∀ kv ∈ a, kv.1 ≠ k) (hb : ∀ kv ∈ b, kv.1 ≠ k)
    (he : setKey k v a = setKey k w b) : v = w ∧ a = b := by
  have fa : a.filter (fun kv => kv.1 != k) = a := List.filter_eq_self.2 fun kv hkv => by simpa using ha kv hkv
  have fb : b.filter (fun kv => kv.1 != k) = b := List.filter_eq_self.2 fun kv hkv => by simpa using hb kv hkv
  unfold setKey at he
  rw [fa, fb, List.cons.injEq, Prod.mk.injEq] at he
  exact ⟨he.1.2, he.2⟩

/-- the hypothesis is needed: the instance the harness finds (`data_hash='x'` against `data_hash='y'`) -/
example : setKey "data_hash" (.scalar (.str "5871…")) [("data_hash", .scalar (.str "x")), ("material", .scalar (.str "m"))] =
    setKey "data_hash" (.scalar (.str "5871…")) [("data_hash", .scalar (.str "y")), ("material", .scalar (.str "m"))] := by decide +kernel

/-! ### S63-C05: branch marks handed over as a pandas Series are aligned on the row labels of the points -/

/-- `data_raw['branch'] = <Series>` (pandas column assignment of a Series): every row of the frame gets the mark that the Series holds under
the row's LABEL, and no mark (`none` = NaN) when the Series has no such label.  `rowLabels` = the labels of the points,
`markLabels` / `marks` = the labels and values of the Series handed over as `branch=` -/
def alignMarks {L β : Type} [DecidableEq L] (rowLabels markLabels : List L) (marks : List β) : List (Option β) :=
  rowLabels.map fun l => (markLabels.zip marks).lookup l

/-- what the property asks for (and what a list / ndarray / pandas.Index of the same marks gives): the marks by POSITION -/
def positionalMarks {β : Type} (marks : List β) : List (Option β) := marks.map some

/-- what holds: when the marks Series carries the labels of the points (distinct labels, as many as marks), alignment on labels IS the
positional reading — the route is right exactly under this hypothesis on the labels, which the property ("any row labelling") does not grant -/
theorem alignMarks_same_labels_partial {L β : Type} [DecidableEq L] :
    ∀ (labels : List L) (marks : List β), labels.Nodup → labels.length = marks.length →
      alignMarks labels labels marks = positionalMarks marks
  | [], [], _, _ => rfl
  | [], _ :: _, _, h => by simp at h
  | _ :: _, [], _, h => by simp at h
  | l :: ls, m :: ms, hn, hl => by
      have hn' := List.nodup_cons.mp hn
      have ih := alignMarks_same_labels_partial ls ms hn'.2 (by simpa using hl)
      unfold alignMarks positionalMarks at ih ⊢
      simp only [List.zip_cons_cons, List.map_cons, List.lookup_cons_self, List.cons.injEq, true_and]
      rw [← ih]
      apply List.map_congr_left
      intro x hx
      have hxl : x ≠ l := fun e => hn'.1 (e ▸ hx)
      have hb : (x == l) = false := by simpa using hxl
      simp [List.lookup_cons, hb]

example : alignMarks [1, 2, 3, 4] [1, 2, 3, 4] [0, 0, 0, 1] = positionalMarks [0, 0, 0, 1] :=
  alignMarks_same_labels_partial (L := ℕ) (β := ℕ) _ _ (by decide) rfl

/-- the witness of the finding: points labelled 1..4, marks `pandas.Series([0, 0, 0, 1])` (labels 0..3) — the marks are shifted by one and the
last point is in no branch; the hypothesis "same labels" of `alignMarks_same_labels_partial` is needed -/
theorem alignMarks_shifted_labels_witness :
    alignMarks [1, 2, 3, 4] [0, 1, 2, 3] [0, 0, 0, 1] = [some 0, some 0, some 1, none] ∧
    alignMarks [1, 2, 3, 4] [0, 1, 2, 3] [0, 0, 0, 1] ≠ positionalMarks [0, 0, 0, 1] := by decide +kernel

/-- labels in another order: the marks are permuted (reverse labels: reversed marks); disjoint labels: every mark is lost -/
theorem alignMarks_other_labels_witness :
    alignMarks [0, 1, 2, 3] [3, 2, 1, 0] [0, 0, 0, 1] = [some 1, some 0, some 0, some 0] ∧
    alignMarks [0, 1, 2, 3] [10, 11, 12, 13] [0, 0, 0, 1] = [none, none, none, none] := by decide +kernel

end PgVerif.C05
