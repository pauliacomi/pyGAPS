/-
C07 — the text formats: format tables, list codec, document structure.

Part 1 (kernel evaluation on the GENERATED tables `PgVerif.Gen.Formats`, regenerated from parsing/{__init__,csv,excel,aif}.py on
every run): the AIF tag map is a bijection between its key sets, old and new AIF maps fit together as the reader assumes, the
writers' and readers' literal prefixes / slices / positions agree, no two Excel fields share a cell and none lies in the data area,
the labelled lines of the CSV model block are written in the order the reader expects by position, each version gate accepts the
version its writer writes.
Part 2 (general theorems about the hand-written executable models in `PgVerif.Model.TextCodec`): Excel's end-of-table detection, AIF
quoted values and custom keys, the material-property prefix, `_to_string`/`_from_list` on flat sequences of numbers.
-/
import Mathlib.Tactic
import PgVerif.Model.TextCodec
import PgVerif.Gen.Formats
import PgVerif.Props.C07

namespace PgVerif.C07
open PgVerif.Model.TextCodec
open PgVerif.Gen.Formats

/-! ## Part 1 — the generated tables -/

/-! ### AIF -/

/-- no two entries of `_META_DICT` have the same tag (a duplicate key in the dict literal would silently drop a field) -/
theorem aif_tags_distinct : (aifMeta.map (·.1)).Nodup := by decide +kernel

/-- no two tags carry the same pyGAPS key (two tags writing the same field: one of them would be written with a popped value) -/
theorem aif_keys_distinct : (aifMeta.map (·.2.1)).Nodup := by decide +kernel

/-- hence the table is a bijection between its tags and its keys: looking a row up by its tag (import) or by its key (export) finds
that row, so export followed by import is the identity on the names of these fields -/
theorem aif_meta_bijection :
    ∀ r ∈ aifMeta, aifMeta.find? (fun x => x.1 == r.1) = some r ∧ aifMeta.find? (fun x => x.2.1 == r.2.1) = some r := by decide +kernel

/-- every type named in the tables is one the reader can apply to a text -/
theorem aif_types_known : ∀ r ∈ aifMeta ++ aifMetaOld, r.2.2 = "float" ∨ r.2.2 = "str" ∨ r.2.2 = "int" := by decide +kernel

/-- the three fields the writer sets by hand use the tag the table gives to that key (the reader finds them through the table) -/
theorem aif_required_in_table : ∀ p ∈ aifRequired, ∃ r ∈ aifMeta, r.1 = p.1 ∧ r.2.1 = p.2 := by decide +kernel

/-- old tags: pairwise distinct, none is a current tag, none is taken by the `_pygaps_` branch or excluded before the old table is
consulted, and each maps to a key of the current table with the same type -/
theorem aif_old_new_agree :
    (aifMetaOld.map (·.1)).Nodup ∧
    (∀ o ∈ aifMetaOld, o.1 ∉ aifMeta.map (·.1) ∧ o.1 ∉ aifExcluded ++ aifUnits ∧
      aifCustomReaderPrefix.toList.isPrefixOf o.1.toList = false ∧ ∃ r ∈ aifMeta, r.2.1 = o.2.1 ∧ r.2.2 = o.2.2) := by decide +kernel

/-- no table tag begins with the custom prefix: otherwise the custom metadata key spelt like the rest of that tag would be written under
the table's tag and read back under the table's key -/
theorem aif_table_tags_not_custom : ∀ r ∈ aifMeta, aifCustomWriterPrefix.toList.isPrefixOf r.1.toList = false := by decide +kernel

/-- custom metadata: writer and reader use the same prefix, the reader's slice removes exactly the prefix, and the quotes the writer
adds are the ones the reader strips -/
theorem aif_custom_prefix_agrees :
    aifCustomWriterPrefix = aifCustomReaderPrefix ∧ aifCustomReaderSlice = aifCustomReaderPrefix.toList.length ∧
    aifReaderStripsQuote = true := by decide +kernel

/-- model block: the reader pops exactly the names the writer writes (after the custom prefix is sliced off), for the same attribute
and the same index -/
theorem aif_model_fields_agree :
    (∀ w ∈ aifModelWriter, (w.2.1, w.2.2.1, String.ofList (w.1.toList.drop aifCustomReaderSlice)) ∈ aifModelReader ∧
      aifCustomReaderPrefix.toList.isPrefixOf w.1.toList = true ∧ (w.2.2.2 = "raw" ∨ w.2.2.2 = "str")) ∧
    (∀ r ∈ aifModelReader, ∃ w ∈ aifModelWriter, (w.2.1, w.2.2.1, String.ofList (w.1.toList.drop aifCustomReaderSlice)) = r) ∧
    (aifModelWriter.map (·.1)).Nodup ∧ (aifModelReader.map (·.2.2)).Nodup ∧ (aifModelReader.map fun r => (r.1, r.2.1)).Nodup := by
  decide +kernel

/-- model parameters: the reader's test and slice fit the writer's prefix; every name of the model block sends the document to the
model branch and none to the data branch (tested first) -/
theorem aif_model_params_agree :
    aifCustomReaderPrefix.toList.isPrefixOf aifParamWriterPrefix.toList = true ∧
    aifParamReaderPrefix.toList.isPrefixOf (aifParamWriterPrefix.toList.drop aifCustomReaderSlice) = true ∧
    (aifParamWriterPrefix.toList.drop aifCustomReaderSlice).length = aifParamReaderSlice ∧
    (∀ r ∈ aifModelReader, aifDispatchModel.toList.isPrefixOf r.2.2.toList = true ∧
      aifDispatchData.toList.isPrefixOf r.2.2.toList = false) ∧
    aifDispatchModel.toList.isPrefixOf (aifParamWriterPrefix.toList.drop aifCustomReaderSlice) = true := by decide +kernel

/-- what the AIF reader builds from the keys it has collected in `raw_dict` (the data loops are stored there as `data0` / `data1`, the
model block under its `model_…` names): `if any(a.startswith(<data>) …): PointIsotherm … if any(a.startswith(<model>) …): ModelIsotherm … BaseIsotherm` -/
inductive AifKind | point | model | base
  deriving DecidableEq, Repr

def aifDispatch (keys : List Str) : AifKind :=
  if keys.any (fun k => aifDispatchData.toList.isPrefixOf k) then .point
  else if keys.any (fun k => aifDispatchModel.toList.isPrefixOf k) then .model else .base

/-- exact failure (findings S47-C07-aif-data-base / -aif-data-model): ANY collected key that begins with the data prefix — a metadata key `dataset` as well as the
reader's own `data0` — sends the document to the point-isotherm branch, whatever it holds … -/
theorem aif_key_with_data_prefix_dispatches (keys : List Str) (k : Str) (hk : k ∈ keys) (h : aifDispatchData.toList <+: k) :
    aifDispatch keys = .point := by
  unfold aifDispatch
  rw [if_pos]
  exact List.any_eq_true.2 ⟨k, hk, List.isPrefixOf_iff_prefix.2 h⟩

/-- … and (finding S47-C07-aif-model-base), when no key has the data prefix, any key that begins with the model prefix (`model_x`, `modelling`) sends it to the model
branch, which then looks for the names of the model block -/
theorem aif_key_with_model_prefix_dispatches (keys : List Str) (k : Str) (hk : k ∈ keys) (h : aifDispatchModel.toList <+: k)
    (hno : ∀ k' ∈ keys, ¬ aifDispatchData.toList <+: k') : aifDispatch keys = .model := by
  unfold aifDispatch
  rw [if_neg, if_pos]
  · exact List.any_eq_true.2 ⟨k, hk, List.isPrefixOf_iff_prefix.2 h⟩
  · intro hh
    obtain ⟨k', hk', hp⟩ := List.any_eq_true.1 hh
    exact hno k' hk' (List.isPrefixOf_iff_prefix.1 hp)

example : aifDispatch ["material".toList, "dataset".toList] = .point ∧ aifDispatch ["material".toList, "model_x".toList] = .model ∧
    aifDispatch ["material".toList, "date".toList] = .base := by decide +kernel

/-- the branch number the reader gives a data loop, from the loop's prefix -/
def aifLoopBranch (loopPrefix : String) : Nat :=
  if aifLoopReaderPrefix.toList.isPrefixOf loopPrefix.toList then aifLoopReaderBranch else aifLoopReaderDefault

/-- data loops: the loop written for `has_branch('ads')` is read back as branch 0 and the one for `'des'` as branch 1 (pyGAPS's
branch numbers), both branches are written; each loop prefix has the length the reader slices off the column tags; the fixed column tags are mapped by `_DATA_DICT` to the column names the reader declares as pressure and
loading keys -/
theorem aif_loops_agree :
    (∀ l ∈ aifLoopsWriter, (l.1, aifLoopBranch l.2.1) ∈ [("ads", 0), ("des", 1)] ∧ l.2.1.toList.length = aifLoopReaderSlice ∧
      l.2.2.map (fun t => (aifData.find? (·.1 == t)).map (·.2)) = [some aifReaderPressureKey, some aifReaderLoadingKey]) ∧
    (∀ b ∈ ["ads", "des"], b ∈ aifLoopsWriter.map (·.1)) ∧ (aifLoopsWriter.map (·.1)).Nodup ∧ (aifData.map (·.1)).Nodup ∧ (aifData.map (·.2)).Nodup := by decide +kernel

/-! ### CSV -/

/-- the positional contract of the model block: the attributes behind the labelled lines, in the order the writer writes them, are
the keys the reader assigns to the 1st, 2nd, … line — and the converters on the two sides undo each other.  Swapping two lines of
the writer (labels and values together, so that each line still looks right) breaks exactly this. -/
theorem csv_model_lines_in_reader_order :
    csvModelWriter.map (·.2.1) = csvModelReader.map (·.1) ∧
    (List.zipWith (fun w r => convCompatible w.2.2.toList r.2.toList) csvModelWriter csvModelReader).all id = true :=
  ⟨rfl, by decide +kernel⟩

/-- the reader's metadata loop stops at a line that starts with one of its stop prefixes (or is empty) -/
def csvMetaLoopStops (line : Str) : Bool := csvMetaStops.any (fun p => p.toList.isPrefixOf line) || line.isEmpty

/-- the header lines the writer emits end the metadata loop and send the reader to the right block, unambiguously (the data test
comes first: the model header must not pass it) -/
theorem csv_headers_dispatch :
    csvMetaLoopStops csvDataHeader.toList = true ∧ csvMetaLoopStops csvModelHeader.toList = true ∧
    csvDataPrefix.toList.isPrefixOf csvDataHeader.toList = true ∧ csvModelPrefix.toList.isPrefixOf csvModelHeader.toList = true ∧
    csvDataPrefix.toList.isPrefixOf csvModelHeader.toList = false := by decide +kernel

/-- exact failure (findings S46-C07-csv-data / -csv-model): a metadata KEY that begins with a stop prefix (`dataset`, `model_x`, …) ends the metadata block —
the line is never read as metadata and the rest of the document is taken for a data table / model block -/
theorem csv_key_with_stop_prefix_ends_metadata (sep : Char) (k v : Str) (h : ∃ p ∈ csvMetaStops, p.toList <+: k) :
    csvMetaLoopStops (encodeLine sep k v) = true := by
  obtain ⟨p, hp, hk⟩ := h
  unfold csvMetaLoopStops encodeLine
  rw [Bool.or_eq_true, List.any_eq_true]
  refine Or.inl ⟨p, hp, ?_⟩
  rw [List.isPrefixOf_iff_prefix, List.append_assoc]
  exact hk.trans (List.prefix_append _ _)

example : csvMetaLoopStops (encodeLine ',' "dataset".toList "3".toList) = true ∧ csvMetaLoopStops (encodeLine ',' "date".toList "3".toList) = false := by
  decide +kernel

theorem csvMetaLoopStops_eq_stopsAt (line : Str) : csvMetaLoopStops line = stopsAt (csvMetaStops.map String.toList) line := by
  simp [csvMetaLoopStops, stopsAt, List.any_map, Function.comp_def]

/-- the whole metadata block, with the generated stop prefixes and either header the writer emits: the header line is what the reader
dispatches on -/
theorem csv_metadata_block_read_back (sep : Char) (hsep : isSpaceC sep = false) (entries : List (Str × Str)) (more : List Str)
    (h : ∀ kv ∈ entries, CleanEntry sep (csvMetaStops.map String.toList) kv) :
    ∀ hdr ∈ [csvDataHeader, csvModelHeader],
      readMeta sep (csvMetaStops.map String.toList) (entries.map (fun kv => encodeLine sep kv.1 kv.2) ++ hdr.toList :: more) =
        .read entries (hdr.toList :: more) := by
  intro hdr hh
  refine readMeta_written sep hsep _ entries _ h (Or.inr ⟨_, _, rfl, stopsAt_stripR _ (by decide +kernel) _ ?_⟩)
  -- the stop test on the headers as written is `csv_headers_dispatch`
  rw [← csvMetaLoopStops_eq_stopsAt]
  rw [List.mem_cons, List.mem_singleton] at hh
  rcases hh with rfl | rfl
  exacts [csv_headers_dispatch.1, csv_headers_dispatch.2.1]

theorem csv_metadata_block_refuses_trailing_separator (sep : Char) (hsep : isSpaceC sep = false) (entries : List (Str × Str))
    (k v : Str) (more : List Str) (h : ∀ kv ∈ entries, CleanEntry sep (csvMetaStops.map String.toList) kv)
    (hstop : csvMetaLoopStops (stripR (encodeLine sep k (v ++ [sep]))) = false) :
    readMeta sep (csvMetaStops.map String.toList) (entries.map (fun kv => encodeLine sep kv.1 kv.2) ++ encodeLine sep k (v ++ [sep]) :: more) =
      .refused :=
  readMeta_refuses_separator sep hsep _ entries k _ more h (by rw [← csvMetaLoopStops_eq_stopsAt]; exact hstop) (Or.inr (by simp))

example : csvMetaLoopStops (stripR (encodeLine ',' "comment".toList ("see notes".toList ++ [',']))) = false := by decide +kernel

/-- the writer's own metadata keys of the version line do not stop the loop -/
theorem csv_version_key_is_metadata : ∀ v ∈ [csvVersion, xlVersion], csvMetaLoopStops (encodeLine ',' v.writtenTag.toList v.written.toList) = false := by
  decide +kernel

/-- what the reader makes of a cell of the branch column -/
def branchDecode (c : BranchCodec) (cell : String) : Nat := if cell = c.readText then c.thenN else c.elseN

/-- the branch column: every number is written as a text the reader maps back to that number; the texts are distinct -/
theorem csv_branch_roundtrip :
    (∀ p ∈ csvBranch.writer, branchDecode csvBranch p.2 = p.1) ∧ (csvBranch.writer.map (·.1)).Nodup ∧ (csvBranch.writer.map (·.2)).Nodup ∧
    (∀ n ∈ [0, 1], n ∈ csvBranch.writer.map (·.1)) := by decide +kernel

theorem xl_branch_roundtrip :
    (∀ p ∈ xlBranch.writer, branchDecode xlBranch p.2 = p.1) ∧ (xlBranch.writer.map (·.1)).Nodup ∧ (xlBranch.writer.map (·.2)).Nodup ∧
    (∀ n ∈ [0, 1], n ∈ xlBranch.writer.map (·.1)) := by decide +kernel

/-- the four places where a material-property prefix is spelt agree, in each format, and the prefix is not empty -/
theorem material_prefixes_agree :
    ∀ p ∈ [csvMaterial, xlMaterial, aifMaterial],
      p.writer = p.startsWith ∧ p.writer = p.replace ∧ p.writer = p.pop ∧ p.writer ≠ "" := by decide +kernel

/-! ### version gates -/

/-- the reader looks the version up under the tag the writer wrote it to, and its gate accepts the version the writer writes -/
theorem version_gates_accept_written :
    ∀ v ∈ [csvVersion, xlVersion, aifVersion],
      v.writtenTag = v.readTag ∧ gateWarns v.gate v.written.toList v.required.toList = some false := by decide +kernel

/-- the documented precision of the data tables -/
theorem precision_is_eight_decimals : parserPrecision = 8 := by decide +kernel

/-! ### Excel -/

/-- label cell and value cell of every field -/
def xlCells : List (Nat × Nat) :=
  xlMeta.flatMap fun r => [(r.2.2.2.1, r.2.2.2.2), (r.2.2.2.1, r.2.2.2.2 + xlValueColOffsetWriter)]

/-- row and column of the `isotherm_data` field -/
def xlTypeCell : Option (Nat × Nat) := (xlMeta.find? (·.1 == "isotherm_data")).map fun r => (r.2.2.2.1, r.2.2.2.2)

/-- cells the point table or the model block may occupy: every row from the first row either uses, and the dtype row right of the
fixed columns -/
def xlInTableArea (typeRow : Nat) (cell : Nat × Nat) : Bool :=
  decide (typeRow + min (min xlPointWriter.headerRow xlPointWriter.dataRow) ((xlModelWriter.map (·.1)).foldl min xlParamHeadingRow) ≤ cell.1) ||
  (cell.1 == typeRow + xlPointWriter.dtypeRow && decide (xlPointWriter.dtypeCol ≤ cell.2))

/-- no two fields share a cell (labels and values); no dict key is repeated (a repeated key of the literal silently drops a field) and
no two fields carry the same name (the second would find its value already popped) -/
theorem xl_cells_distinct :
    xlCells.Nodup ∧ (xlMeta.map (·.1)).Nodup ∧ (xlMeta.map (·.2.1)).Nodup ∧ 0 < xlValueColOffsetWriter := by decide +kernel

theorem xl_cells_outside_table_area :
    ∃ t, xlTypeCell = some t ∧ ∀ c ∈ xlCells, xlInTableArea t.1 c = false := by
  refine ⟨_, rfl, ?_⟩
  decide +kernel

/-- writer and reader agree on every position of the point table; the dtype cells start right of the fixed columns; the branch
column is one of the fixed columns; rows are ordered dtype ≤ header < data; the end of the rows is looked for in a column every row fills -/
theorem xl_point_positions_agree :
    xlPointWriter = xlPointReader ∧ xlValueColOffsetWriter = xlValueColOffsetReader ∧
    xlPointWriter.dtypeCol = xlPointWriter.firstCol + xlFixedColumns ∧ xlBranchCol < xlFixedColumns ∧
    xlPointWriter.dtypeRow ≤ xlPointWriter.headerRow ∧ xlPointWriter.headerRow < xlPointWriter.dataRow ∧
    xlPointWriter.firstCol ≤ xlRowTestCol ∧ xlRowTestCol < xlPointWriter.firstCol + xlFixedColumns := by decide +kernel

/-- model block: the reader takes each model key from the cell where the writer put the value of that attribute, with converters
that undo each other; labels do not collide with values; parameters start where the reader starts, below every labelled row -/
theorem xl_model_positions_agree :
    (∀ w ∈ xlModelWriter, ∃ r ∈ xlModelReader, r.1 = w.2.2.2.1 ∧ r.2.1 = w.1 ∧ r.2.2.1 = w.2.2.2.2.2 ∧
      convCompatible w.2.2.2.2.1.toList r.2.2.2.toList = true ∧ w.2.2.1 ≠ w.2.2.2.2.2) ∧
    (∀ r ∈ xlModelReader, ∃ w ∈ xlModelWriter, r.1 = w.2.2.2.1 ∧ r.2.1 = w.1) ∧
    (xlModelWriter.map (·.1)).Nodup ∧ (xlModelReader.map (·.1)).Nodup ∧
    xlParamsWriter = xlParamsReader ∧ xlParamsWriter.firstRow = xlParamsWriter.valueRow ∧ xlParamsWriter.nameCol ≠ xlParamsWriter.valueCol ∧
    (∀ w ∈ xlModelWriter, w.1 < xlParamsWriter.firstRow) ∧ xlParamHeadingRow < xlParamsWriter.firstRow ∧
    xlParamHeadingRow ∉ xlModelWriter.map (·.1) := by decide +kernel

/-- the type marker: read from the cell it is written to; the point marker is taken as point, the model marker as model and NOT as
point (tested first), the metadata-only marker as neither -/
theorem xl_type_markers_dispatch :
    ∃ t, xlTypeCell = some t ∧
      xlTypes.map (fun x => (x.1, x.2.1)) = [(0, t.2 + xlValueColOffsetWriter), (0, t.2 + xlValueColOffsetWriter)] ∧
      xlMarkers.map (fun m => xlTypes.map fun x => x.2.2.toList.isPrefixOf (lower m.toList)) =
        [[true, false], [false, true], [false, false]] := by
  refine ⟨_, rfl, ?_⟩
  decide +kernel

/-- a number — zero included — never ends the data rows or the parameter rows; only an empty cell does -/
theorem xl_zero_is_not_end_of_data :
    ∀ t ∈ [xlRowEnd, xlParamRowEnd, xlColEnd], ∀ z, xlIsEnd t (.num z) = false ∧ xlIsEnd t (.bool z) = false ∧ xlIsEnd t .empty = true := by
  decide +kernel

/-! ## Part 2 — the hand-written models -/

/-! ### Excel: end of a table -/

lemma xlCount_of_no_end (t : EndTest) (cells : List Cell) (h : ∀ c ∈ cells, xlIsEnd t c = false) :
    xlCount t cells = cells.length := by
  unfold xlCount
  conv_lhs => rw [← List.append_nil cells]
  rw [List.takeWhile_append_of_pos fun c hc => by rw [h c hc]; rfl, List.takeWhile_nil, List.append_nil]

lemma xlCount_append_end (t : EndTest) (cells : List Cell) (e : Cell) (rest : List Cell)
    (h : ∀ c ∈ cells, xlIsEnd t c = false) (he : xlIsEnd t e = true) : xlCount t (cells ++ e :: rest) = cells.length := by
  unfold xlCount
  rw [List.takeWhile_append_of_pos fun c hc => by rw [h c hc]; rfl, List.takeWhile_cons_of_neg (by simp [he]),
    List.append_nil]

/-- with the `== ''` test every row is read as long as the test column holds numbers (any numbers: zero pressure included) -/
theorem xlCount_emptyText_all (zs : List Bool) : xlCount .emptyText (zs.map .num) = zs.length := by
  rw [xlCount_of_no_end _ _ (List.forall_mem_map.2 fun _ _ => rfl), List.length_map]

theorem xlCount_emptyText_stops (zs : List Bool) (rest : List Cell) :
    xlCount .emptyText (zs.map .num ++ .empty :: rest) = zs.length := by
  rw [xlCount_append_end _ _ _ _ (List.forall_mem_map.2 fun _ _ => rfl) rfl, List.length_map]

/-- the truthiness test stops at the first zero: the rows from there on are lost -/
theorem xlCount_falsy_stops_at_zero (zs : List Bool) (rest : List Bool) (h : ∀ z ∈ zs, z = false) :
    xlCount .falsy ((zs ++ true :: rest).map .num) = zs.length := by
  rw [List.map_append, List.map_cons, xlCount_append_end _ _ _ _ (List.forall_mem_map.2 h) rfl, List.length_map]

example : xlCount .falsy [.num false, .num true, .num false] = 1 ∧ xlCount .emptyText [.num false, .num true, .num false] = 3 := by decide +kernel

/-- the generated end tests read every row of a numeric column -/
theorem xl_reads_all_rows (zs : List Bool) : xlCount xlRowEnd (zs.map .num) = zs.length ∧ xlCount xlParamRowEnd (zs.map .num) = zs.length :=
  ⟨xlCount_emptyText_all zs, xlCount_emptyText_all zs⟩

/-! ### AIF: quoted values -/

lemma stripChar_eq_stripBy (q : Char) (s : Str) : stripChar q s = stripBy (· == q) s := by
  have h : ∀ t : Str, stripCharL q t = t.dropWhile (· == q) := by
    intro t
    induction t with
    | nil => rfl
    | cons c t ih => rw [stripCharL, List.dropWhile_cons, ih]
  unfold stripChar stripBy
  rw [h, h]

/-- the writer's quotes vanish together with any the value had at its ends -/
theorem stripChar_quote (q : Char) (v : Str) : stripChar q (quote q v) = stripChar q v := by
  rw [stripChar_eq_stripBy, stripChar_eq_stripBy]
  exact stripBy_wrap (· == q) (beq_self_eq_true q) v

theorem stripChar_eq_self_iff (q : Char) (v : Str) : stripChar q v = v ↔ v.head? ≠ some q ∧ v.getLast? ≠ some q := by
  have key : ∀ o : Option Char, (∀ c, o = some c → (c == q) = false) ↔ o ≠ some q := by
    intro o
    cases o <;> simp
  rw [stripChar_eq_stripBy, stripBy_eq_self_iff, key, key]

theorem stripChar_quote_roundtrip (q : Char) (v : Str) (h1 : v.head? ≠ some q) (h2 : v.getLast? ≠ some q) :
    stripChar q (quote q v) = v := by
  rw [stripChar_quote]
  exact (stripChar_eq_self_iff q v).2 ⟨h1, h2⟩

/-- the AIF value codec (`'<value>'` written, `.strip("'")` read) returns the value unchanged EXACTLY when the value neither begins nor
ends with the quote character; every other value comes back shorter (finding S55-C07d: `'ab` -> `ab`, never refused) -/
theorem stripChar_quote_roundtrip_iff (q : Char) (v : Str) :
    stripChar q (quote q v) = v ↔ v.head? ≠ some q ∧ v.getLast? ≠ some q := by
  rw [stripChar_quote, stripChar_eq_self_iff]

example : stripChar '\'' (quote '\'' "ab'".toList) = "ab".toList ∧ stripChar '\'' (quote '\'' "'".toList) = [] := by decide +kernel

/-- the exact failure: quotes at the ends of the value itself are lost -/
theorem stripChar_quote_loses_own_quotes : stripChar '\'' (quote '\'' "'q'".toList) = "q".toList := by decide +kernel

example : stripChar '\'' (quote '\'' "it's".toList) = "it's".toList := by decide +kernel

/-! ### AIF: custom metadata keys -/

private lemma isPrefixOf_append_self (p k : Str) : p.isPrefixOf (p ++ k) = true :=
  List.isPrefixOf_iff_prefix.2 (List.prefix_append p k)

theorem aifKey_roundtrip_general (pre k : Str) : aifKeyDec pre pre.length (aifKeyEnc pre k) = some (replaceC ' ' '_' k) := by
  unfold aifKeyDec aifKeyEnc
  rw [isPrefixOf_append_self]
  simp

lemma replaceC_eq_self_iff {a b : Char} (hab : a ≠ b) (s : Str) : replaceC a b s = s ↔ a ∉ s := by
  induction s with
  | nil => simp [replaceC]
  | cons c t ih =>
    rw [show replaceC a b (c :: t) = (if c == a then b else c) :: replaceC a b t from rfl, List.cons.injEq, ih, List.mem_cons,
      not_or]
    refine and_congr_left' ?_
    rcases eq_or_ne c a with rfl | hc
    · simp [hab.symm]
    · simp [hc, hc.symm]

theorem aifKey_roundtrip (pre k : Str) (h : ' ' ∉ k) : aifKeyDec pre pre.length (aifKeyEnc pre k) = some k := by
  rw [aifKey_roundtrip_general, (replaceC_eq_self_iff (by decide) k).2 h]

/-- the exact failure: a key WITH a blank never comes back as itself (it comes back with underscores, silently) -/
theorem aifKey_blank_changed (pre k : Str) (h : ' ' ∈ k) : aifKeyDec pre pre.length (aifKeyEnc pre k) ≠ some k := by
  rw [aifKey_roundtrip_general, Ne, Option.some.injEq, replaceC_eq_self_iff (by decide)]
  exact not_not.2 h

/-- with the generated prefix and slice -/
theorem aif_custom_key_roundtrip (k : Str) (h : ' ' ∉ k) :
    aifKeyDec aifCustomReaderPrefix.toList aifCustomReaderSlice (aifKeyEnc aifCustomWriterPrefix.toList k) = some k := by
  have e := aif_custom_prefix_agrees
  rw [e.1, e.2.1]
  exact aifKey_roundtrip _ k h

example : aifKeyDec "_pygaps_".toList 8 (aifKeyEnc "_pygaps_".toList "two words".toList) = some "two_words".toList := by decide +kernel

/-! ### material properties -/

private lemma removeAllAux_skip (p a k : Str) : removeAllAux p a.length (a ++ k) = removeAllAux p 0 k := by
  induction a with
  | nil => rfl
  | cons c t ih =>
    show removeAllAux p (t.length + 1) (c :: (t ++ k)) = _
    rw [removeAllAux]
    exact ih

theorem removeAll_prefix (p k : Str) (hp : p ≠ []) : removeAll p (p ++ k) = removeAll p k := by
  unfold removeAll
  cases p with
  | nil => exact absurd rfl hp
  | cons c t =>
    rw [List.cons_append, removeAllAux, if_pos (show (c :: t).isPrefixOf (c :: (t ++ k)) = true from isPrefixOf_append_self (c :: t) k)]
    exact removeAllAux_skip (c :: t) t k

theorem removeAll_of_not_infix (p k : Str) (h : ¬ p <:+: k) : removeAll p k = k := by
  unfold removeAll
  induction k with
  | nil => rfl
  | cons c t ih =>
    rw [removeAllAux, if_neg fun hh => h (List.isPrefixOf_iff_prefix.1 hh).isInfix,
      ih fun hi => h (hi.trans (List.infix_cons List.infix_rfl))]

/-- exactly what the reader makes of a property the writer wrote as `P ++ name`: the property `name` when the prefix does not
occur in the name again — otherwise a `KeyError` (the name with the occurrences removed is not found) -/
theorem matRead_join (p k : Str) (hp : p ≠ []) :
    matRead p (matJoin p k) = if removeAll p k = k then .prop k else .keyError := by
  unfold matRead matJoin
  rw [isPrefixOf_append_self, if_pos rfl, removeAll_prefix p k hp]
  by_cases h : removeAll p k = k <;> simp [h]

theorem matRead_join_roundtrip (p k : Str) (hp : p ≠ []) (h : ¬ p <:+: k) : matRead p (matJoin p k) = .prop k := by
  rw [matRead_join p k hp, if_pos (removeAll_of_not_infix p k h)]

private lemma removeAllAux_length_le (p : Str) (n : Nat) (s : Str) : (removeAllAux p n s).length ≤ s.length := by
  induction s generalizing n with
  | nil => cases n <;> simp [removeAllAux]
  | cons c t ih =>
    cases n with
    | succ k =>
      rw [removeAllAux]
      exact le_trans (ih k) (Nat.le_succ _)
    | zero =>
      rw [removeAllAux]
      split_ifs
      · exact le_trans (ih _) (Nat.le_succ _)
      · simpa using ih 0

private lemma removeAll_length_lt (p k : Str) (hp : p ≠ []) (h : p <:+: k) : (removeAll p k).length < k.length := by
  unfold removeAll
  induction k with
  | nil =>
    exact absurd (List.eq_nil_of_infix_nil h) hp
  | cons c t ih =>
    rw [removeAllAux]
    split_ifs with hpre
    · exact Nat.lt_succ_of_le (removeAllAux_length_le p _ t)
    · rcases List.infix_cons_iff.1 h with h' | h'
      · exact absurd (List.isPrefixOf_iff_prefix.2 h') hpre
      · simpa using ih h'

/-- the stated domain is exact: a name is left alone by the reader's `replace` iff the prefix does not occur in it -/
theorem removeAll_eq_self_iff (p k : Str) (hp : p ≠ []) : removeAll p k = k ↔ ¬ p <:+: k := by
  refine ⟨fun e h => absurd (removeAll_length_lt p k hp h) ?_, removeAll_of_not_infix p k⟩
  rw [e]
  exact lt_irrefl _

theorem matRead_join_roundtrip_iff (p k : Str) (hp : p ≠ []) : matRead p (matJoin p k) = .prop k ↔ ¬ p <:+: k := by
  rw [matRead_join p k hp, ← removeAll_eq_self_iff p k hp]
  by_cases h : removeAll p k = k <;> simp [h]

theorem matRead_other (p key : Str) (h : p.isPrefixOf key = false) : matRead p key = .notMaterial := by
  unfold matRead
  simp [h]

/-- the exact failure of a reader that takes the name with `replace` (the defect repaired in the readers — S45; the witness that
the way of taking the name matters): a property name containing the prefix is a `KeyError` at import -/
theorem matRead_name_with_prefix_keyError :
    matRead csvMaterial.startsWith.toList (matJoin csvMaterial.writer.toList "a_material_b".toList) = .keyError ∧
    matRead aifMaterial.startsWith.toList (matJoin aifMaterial.writer.toList "sample_x".toList) = .keyError := by decide +kernel

theorem matReadBy_replaceAll (p key : Str) : matReadBy .replaceAll p key = matRead p key := rfl

/-- a reader that slices the LEADING prefix off: every property the writer wrote comes back under its own name — no hypothesis on
the name (compare `matRead_join_roundtrip_iff`) -/
theorem matReadBy_leading_join (p k : Str) : matReadBy .leading p (matJoin p k) = .prop k := by
  unfold matReadBy matJoin matName
  rw [isPrefixOf_append_self, if_pos rfl]
  simp

theorem matReadBy_other (m : Strip) (p key : Str) (h : p.isPrefixOf key = false) : matReadBy m p key = .notMaterial := by
  unfold matReadBy
  simp [h]

/-- the material-property round trip of the three generated readers: every property comes back under its own name, whatever the name —
the format's own prefix inside it included (`a_material_b`, `sample_x`).  Holds because each reader slices the leading prefix off
(`strip = .leading`); with `replace` it fails exactly on the names that contain the prefix (`matRead_join_roundtrip_iff`). -/
theorem material_props_roundtrip :
    ∀ p ∈ [csvMaterial, xlMaterial, aifMaterial], ∀ k : Str,
      matReadBy p.strip p.startsWith.toList (matJoin p.writer.toList k) = .prop k := by
  intro p hp k
  have h : ∀ q ∈ [csvMaterial, xlMaterial, aifMaterial], q.strip = .leading := by decide +kernel
  rw [h p hp, (material_prefixes_agree p hp).1]
  exact matReadBy_leading_join _ k

example : matReadBy csvMaterial.strip csvMaterial.startsWith.toList (matJoin csvMaterial.writer.toList "a_material_b".toList) = .prop "a_material_b".toList ∧
    matReadBy aifMaterial.strip aifMaterial.startsWith.toList (matJoin aifMaterial.writer.toList "sample_x".toList) = .prop "sample_x".toList := by decide +kernel

/-- exact failure (findings S48-C07-csv-capture / -xl-capture / -aif-capture): writer and reader share ONE namespace for metadata keys and material properties — the metadata key
`P ++ t` and the material property `t` are written as the same key, so no reader can tell them apart; both readers take it for the
property: an ordinary metadata key that happens to start with the prefix silently becomes a material property -/
theorem material_key_ambiguous (m : Strip) (p t : Str) (hp : p ≠ []) (h : ¬ p <:+: t) : matReadBy m p (p ++ t) = .prop t := by
  cases m with
  | replaceAll => exact matRead_join_roundtrip p t hp h
  | leading => exact matReadBy_leading_join p t

/-- … with the generated prefixes: `_material_weight` (CSV, Excel), `sample_weight` (AIF) -/
theorem matRead_metadata_key_captured :
    ∀ p ∈ [csvMaterial, xlMaterial, aifMaterial],
      matReadBy p.strip p.startsWith.toList (p.startsWith.toList ++ "weight".toList) = .prop "weight".toList := by decide +kernel

/-! ### `_to_string` / `_from_list` -/

lemma pyNumClass_some_all {t : Str} (h : (pyNumClass t).isSome = true) : t.all isNumChar = true := by
  cases hc : t.all isNumChar
  · rw [pyNumClass, hc] at h
    exact Bool.noConfusion h
  · rfl

lemma pyNumClass_some_ne_nil {t : Str} (h : (pyNumClass t).isSome = true) : t ≠ [] := by
  rintro rfl
  revert h
  decide +kernel

private lemma item_clean {t : Str} (h : (pyNumClass t).isSome = true) {c : Char} (hc : isNumChar c = false) : c ∉ t := by
  intro hm
  rw [List.all_eq_true.1 (pyNumClass_some_all h) c hm] at hc
  exact Bool.noConfusion hc

private lemma replaceC_append (a b : Char) (s t : Str) : replaceC a b (s ++ t) = replaceC a b s ++ replaceC a b t := by
  simp [replaceC]

lemma replaceC_joinWith (items : List Str) (h : ∀ t ∈ items, ' ' ∉ t) :
    replaceC ' ' ',' (joinWith ' ' items) = joinWith ',' items := by
  induction items with
  | nil => rfl
  | cons a rest ih =>
    cases rest with
    | nil => exact (replaceC_eq_self_iff (by decide) a).2 (h a (by simp))
    | cons b t =>
      show replaceC ' ' ',' (a ++ ' ' :: joinWith ' ' (b :: t)) = a ++ ',' :: joinWith ',' (b :: t)
      rw [replaceC_append, (replaceC_eq_self_iff (by decide) a).2 (h a (by simp))]
      congr 1
      rw [← ih (fun x hx => h x (by simp [hx]))]
      rfl

/-- the whole path through `_to_string` and `_from_list`, for either pair of brackets: the items come back, packed as `seqOf` packs
them for the opening bracket -/
private lemma fromList_bracketed (o c : Char) (items : List Str) (hb : ((o == '[' && c == ']') || (o == '(' && c == ')')) = true)
    (ho : o ≠ ' ') (hc : c ≠ ' ') (h : ∀ t ∈ items, (pyNumClass t).isSome = true) :
    fromList (o :: (joinWith ' ' items ++ [c])) = some (seqOf o items false) := by
  have e : replaceC ' ' ',' (o :: (joinWith ' ' items ++ [c])) = o :: (joinWith ',' items ++ [c]) := by
    rw [← replaceC_joinWith items fun t ht => item_clean (h t ht) rfl]
    simp [replaceC, ho, hc]
  unfold fromList literalSeq
  rw [e]
  simp only [unbracket, List.reverse_append, List.reverse_cons, List.reverse_nil, List.nil_append, List.cons_append, List.reverse_reverse]
  rw [if_pos hb]
  by_cases hne : items = []
  · subst hne
    rfl
  · have hsplit := splitOn_joinWith ',' items hne fun t ht => item_clean (h t ht) rfl
    have hnil : ∀ t ∈ items, t ≠ [] := fun t ht => pyNumClass_some_ne_nil (h t ht)
    -- the joined text is not empty: its split would be `[[]]`, and no item is empty
    have hjn : joinWith ',' items ≠ [] := fun e =>
      hnil [] (by rw [← hsplit, e]; exact List.mem_singleton_self _) rfl
    have hlast : (items.getLast? == some []) = false :=
      beq_eq_false_iff_ne.2 fun e => hnil [] (List.mem_of_getLast? e) rfl
    simp only [List.isEmpty_iff, hjn, if_false, hsplit, hlast, Bool.and_false, Bool.false_eq_true]
    rw [if_pos (List.all_eq_true.2 h)]

/-- negative numbers included: unlike `cast_string`, `literal_eval` reads `-3` as an integer -/
theorem fromList_toString_list (items : List Str) (h : ∀ t ∈ items, (pyNumClass t).isSome = true) :
    fromList (toStringSeq .list items) = some (.list items) :=
  fromList_bracketed '[' ']' items (by decide) (by decide) (by decide) h

/-- as the code has it: a tuple of two or more (or zero) numbers comes back as that tuple … -/
theorem fromList_toString_tuple (items : List Str) (h : ∀ t ∈ items, (pyNumClass t).isSome = true) (hlen : items.length ≠ 1) :
    fromList (toStringSeq .tuple items) = some (.tuple items) := by
  rw [toStringSeq, fromList_bracketed '(' ')' items (by decide) (by decide) (by decide) h]
  match items, hlen with
  | [], _ => rfl
  | [_], hl => exact absurd rfl hl
  | _ :: _ :: _, _ => rfl

/-- … but a one-element tuple is written `(x)` and comes back as the bare number -/
theorem fromList_toString_tuple_single (t : Str) (h : (pyNumClass t).isSome = true) :
    fromList (toStringSeq .tuple [t]) = some (.scalar t) :=
  fromList_bracketed '(' ')' [t] (by decide) (by decide) (by decide) (List.forall_mem_singleton.2 h)

/-- what `str()` prints for some ints and floats -/
example : ∀ t ∈ ["0", "17", "-3", "2.5", "-0.0", "1e-05", "1.7976931348623157e+308", "5e-324"].map String.toList, (pyNumClass t).isSome = true := by
  decide +kernel

example : fromList (toStringSeq .list ["1".toList, "-2".toList, "2.5".toList]) = some (.list ["1".toList, "-2".toList, "2.5".toList]) := by
  decide +kernel

/-- outside the domain — exact failures: `inf`/`nan` items, nested lists and text items are errors of `literal_eval` (no pyGAPS error) -/
theorem fromList_failures :
    fromList "[inf 1.0]".toList = none ∧ fromList "[nan]".toList = none ∧ fromList "[1  2]".toList = none ∧
    fromList "[ 1]".toList = none ∧ fromList "[007]".toList = none := by decide +kernel

theorem pyNumClass_examples :
    pyNumClass "-3".toList = some .int ∧ pyNumClass "3.0".toList = some .float ∧ pyNumClass "1e5".toList = some .float ∧
    pyNumClass "1_000".toList = some .int ∧ pyNumClass "00".toList = some .int ∧ pyNumClass "01".toList = none ∧
    pyNumClass "--1".toList = none ∧ pyNumClass "".toList = none := by decide +kernel

end PgVerif.C07
