/-
C10, exact reference for the rational models.  `Model.MEval.*` (Model/ModelEval.lean) are the published rational
equations over an arbitrary field; the driver runs them at ℚ on the doubles the harness sends, the harness compares the
library's floating-point result with that exact value over the whole range (extreme low coverage … the pole).

Here: (1) at ℝ they ARE the specification `Spec.M.*`, hence (tie lemmas) what modelling/*.py says now;
(2) the facts the harness' tolerances rest on, for every ordered field (so also for the ℚ that is executed):
round trip, the quantitative Henry limit `0 ≤ n_m K p − n(p) ≤ n_m K p · K p` (the relative distance of `n(p)/p` from
the Henry constant is at most `K p`: an evaluation whose relative error grows as the coverage falls cannot be within
it), and the conditioning of the inverse near saturation (`pressure` amplifies a relative error of the loading by
`n_m / (n_m − n)`, which is the factor in the tolerance of the round trip close to saturation).
-/
import PgVerif.Model.ModelEval
import PgVerif.Tie.Models
import PgVerif.Lemmas.Isotherm
import Mathlib.Tactic

namespace PgVerif.C10
open PgVerif.Model

/-! ### (1) the executed reference is the specification -/

theorem exact_henry_eq_spec (K p : ℝ) : MEval.henry K p = Spec.M.henry K p := rfl
theorem exact_henryInv_eq_spec (K n : ℝ) : MEval.henryInv K n = Spec.M.henryInv K n := rfl
theorem exact_langmuir_eq_spec (K nm p : ℝ) : MEval.langmuir K nm p = Spec.M.langmuir K nm p := rfl
theorem exact_langmuirInv_eq_spec (K nm n : ℝ) : MEval.langmuirInv K nm n = Spec.M.langmuirInv K nm n := rfl
theorem exact_dslangmuir_eq_spec (nm1 K1 nm2 K2 p : ℝ) :
    MEval.dslangmuir nm1 K1 nm2 K2 p = Spec.M.dslangmuir nm1 K1 nm2 K2 p := rfl
theorem exact_tslangmuir_eq_spec (nm1 nm2 nm3 K1 K2 K3 p : ℝ) :
    MEval.tslangmuir nm1 nm2 nm3 K1 K2 K3 p = Spec.M.tslangmuir nm1 nm2 nm3 K1 K2 K3 p := rfl
theorem exact_bet_eq_spec (nm C N p : ℝ) : MEval.bet nm C N p = Spec.M.bet nm C N p := rfl
theorem exact_gab_eq_spec (nm C K p : ℝ) : MEval.gab nm C K p = Spec.M.gab nm C K p := rfl
theorem exact_quadratic_eq_spec (nm Ka Kb p : ℝ) : MEval.quadratic nm Ka Kb p = Spec.M.quadratic nm Ka Kb p := rfl
theorem exact_temkin_eq_spec (nm K tht p : ℝ) : MEval.temkin nm K tht p = Spec.M.temkin nm K tht p := rfl

/-- … and therefore what the code says now (generated from modelling/langmuir.py on this run) -/
theorem exact_langmuir_eq_code (K nm p : ℝ) : Gen.R.Langmuir_loading K nm p = MEval.langmuir K nm p := by
  rw [PgVerif.Tie.langmuir_loading]; rfl
theorem exact_langmuirInv_eq_code (K nm n : ℝ) : Gen.R.Langmuir_pressure K nm n = MEval.langmuirInv K nm n := by
  rw [PgVerif.Tie.langmuir_pressure]; rfl
theorem exact_dslangmuir_eq_code (nm1 K1 nm2 K2 p : ℝ) :
    Gen.R.DSLangmuir_loading nm1 K1 nm2 K2 p = MEval.dslangmuir nm1 K1 nm2 K2 p := by
  rw [PgVerif.Tie.dslangmuir_loading]; rfl
theorem exact_tslangmuir_eq_code (nm1 nm2 nm3 K1 K2 K3 p : ℝ) :
    Gen.R.TSLangmuir_loading nm1 nm2 nm3 K1 K2 K3 p = MEval.tslangmuir nm1 nm2 nm3 K1 K2 K3 p := by
  rw [PgVerif.Tie.tslangmuir_loading]; rfl
theorem exact_bet_eq_code (nm C N p : ℝ) : Gen.R.BET_loading nm C N p = MEval.bet nm C N p := by
  rw [PgVerif.Tie.bet_loading]; rfl
theorem exact_gab_eq_code (nm C K p : ℝ) : Gen.R.GAB_loading nm C K p = MEval.gab nm C K p := by
  rw [PgVerif.Tie.gab_loading]; rfl
theorem exact_quadratic_eq_code (nm Ka Kb p : ℝ) : Gen.R.Quadratic_loading nm Ka Kb p = MEval.quadratic nm Ka Kb p := by
  rw [PgVerif.Tie.quadratic_loading]; rfl
theorem exact_temkin_eq_code (nm K tht p : ℝ) : Gen.R.TemkinApprox_loading nm K tht p = MEval.temkin nm K tht p := by
  rw [PgVerif.Tie.temkin_loading]; rfl

/-! ### (2) facts over every ordered field -/

section Field
set_option linter.unusedSectionVars false
variable {α : Type} [Field α] [LinearOrder α] [IsStrictOrderedRing α]

theorem exact_langmuir_roundtrip (K nm p : α) (hK : 0 < K) (hnm : 0 < nm) (hp : 0 ≤ p) :
    MEval.langmuirInv K nm (MEval.langmuir K nm p) = p := by
  unfold MEval.langmuirInv MEval.langmuir
  have h1 : (1 + K * p) ≠ 0 := by positivity
  -- `n_m - n = n_m / (1 + K p)`
  have h2 : nm - nm * (K * p) / (1 + K * p) = nm / (1 + K * p) := by
    rw [eq_div_iff h1, sub_mul, div_mul_cancel₀ _ h1]; ring
  rw [h2, mul_div_assoc', div_div_div_cancel_right₀ h1, mul_comm K nm, mul_div_mul_left _ _ hnm.ne',
    mul_div_cancel_left₀ _ hK.ne']

theorem exact_langmuir_roundtrip' (K nm n : α) (hK : 0 < K) (hnm : 0 < nm) (hsat : n < nm) :
    MEval.langmuir K nm (MEval.langmuirInv K nm n) = n := by
  unfold MEval.langmuirInv MEval.langmuir
  have h1 : nm - n ≠ 0 := by linarith
  -- `K p = n / (n_m - n)` and `1 + K p = n_m / (n_m - n)`
  rw [mul_div_assoc' K, mul_div_mul_left _ _ hK.ne', one_add_div h1, sub_add_cancel, mul_div_assoc',
    div_div_div_cancel_right₀ h1, mul_div_cancel_left₀ _ hnm.ne']

theorem exact_langmuir_henry_gap (K nm p : α) (hK : 0 < K) (hp : 0 ≤ p) :
    nm * K * p - MEval.langmuir K nm p = nm * K * p * (K * p / (1 + K * p)) := by
  unfold MEval.langmuir
  have h1 : (1 + K * p) ≠ 0 := by positivity
  rw [mul_div_assoc', eq_div_iff h1, sub_mul, div_mul_cancel₀ _ h1]
  ring

/-- one site against any bound `Kmax` of its affinity: `0 ≤ n_m K p − n(p) ≤ n_m K p · Kmax p`, since the coverage
`K p / (1 + K p)` is at most `K p` -/
lemma langmuir_henry_rate_le (K Kmax nm p : α) (hK : 0 < K) (hnm : 0 < nm) (hmax : K ≤ Kmax) (hp : 0 ≤ p) :
    0 ≤ nm * K * p - MEval.langmuir K nm p ∧ nm * K * p - MEval.langmuir K nm p ≤ nm * K * p * (Kmax * p) := by
  rw [exact_langmuir_henry_gap K nm p hK hp]
  have hx : 0 ≤ K * p := by positivity
  have h4 : 0 ≤ nm * K * p := by positivity
  exact ⟨mul_nonneg h4 (cov_nonneg hx),
    mul_le_mul_of_nonneg_left ((div_le_self hx (by linarith)).trans (mul_le_mul_of_nonneg_right hmax hp)) h4⟩

lemma henry_rate_add {A B f g p k : α} (hf : 0 ≤ A * p - f ∧ A * p - f ≤ A * p * k)
    (hg : 0 ≤ B * p - g ∧ B * p - g ≤ B * p * k) :
    0 ≤ (A + B) * p - (f + g) ∧ (A + B) * p - (f + g) ≤ (A + B) * p * k :=
  ⟨by rw [add_mul, add_sub_add_comm]; exact add_nonneg hf.1 hg.1,
    by rw [add_mul, add_mul, add_sub_add_comm]; exact add_le_add hf.2 hg.2⟩

theorem exact_langmuir_henry_rate (K nm p : α) (hK : 0 < K) (hnm : 0 < nm) (hp : 0 ≤ p) :
    0 ≤ nm * K * p - MEval.langmuir K nm p ∧ nm * K * p - MEval.langmuir K nm p ≤ nm * K * p * (K * p) :=
  langmuir_henry_rate_le K K nm p hK hnm le_rfl hp

/-- the relative form is what the harness checks -/
theorem exact_langmuir_henry_rel (K nm p : α) (hK : 0 < K) (hnm : 0 < nm) (hp : 0 < p) :
    |MEval.langmuir K nm p / (nm * K * p) - 1| ≤ K * p := by
  have hd : 0 < nm * K * p := by positivity
  obtain ⟨h0, h1⟩ := exact_langmuir_henry_rate K nm p hK hnm hp.le
  have e : MEval.langmuir K nm p / (nm * K * p) - 1 = -((nm * K * p - MEval.langmuir K nm p) / (nm * K * p)) := by
    rw [sub_div, div_self hd.ne', neg_sub]
  rw [e, abs_neg, abs_of_nonneg (div_nonneg h0 hd.le), div_le_iff₀ hd]
  exact h1.trans_eq (mul_comm _ _)

/-- the Henry rate of the multi-site models, against the largest affinity `Kmax` -/
theorem exact_dslangmuir_henry_rate (nm1 K1 nm2 K2 Kmax p : α) (hK1 : 0 < K1) (hK2 : 0 < K2) (hnm1 : 0 < nm1)
    (hnm2 : 0 < nm2) (h1 : K1 ≤ Kmax) (h2 : K2 ≤ Kmax) (hp : 0 ≤ p) :
    0 ≤ (nm1 * K1 + nm2 * K2) * p - MEval.dslangmuir nm1 K1 nm2 K2 p ∧
      (nm1 * K1 + nm2 * K2) * p - MEval.dslangmuir nm1 K1 nm2 K2 p ≤ (nm1 * K1 + nm2 * K2) * p * (Kmax * p) :=
  henry_rate_add (langmuir_henry_rate_le K1 Kmax nm1 p hK1 hnm1 h1 hp) (langmuir_henry_rate_le K2 Kmax nm2 p hK2 hnm2 h2 hp)

theorem exact_tslangmuir_henry_rate (nm1 nm2 nm3 K1 K2 K3 Kmax p : α) (hK1 : 0 < K1) (hK2 : 0 < K2) (hK3 : 0 < K3)
    (hnm1 : 0 < nm1) (hnm2 : 0 < nm2) (hnm3 : 0 < nm3) (h1 : K1 ≤ Kmax) (h2 : K2 ≤ Kmax) (h3 : K3 ≤ Kmax) (hp : 0 ≤ p) :
    0 ≤ (nm1 * K1 + nm2 * K2 + nm3 * K3) * p - MEval.tslangmuir nm1 nm2 nm3 K1 K2 K3 p ∧
      (nm1 * K1 + nm2 * K2 + nm3 * K3) * p - MEval.tslangmuir nm1 nm2 nm3 K1 K2 K3 p
        ≤ (nm1 * K1 + nm2 * K2 + nm3 * K3) * p * (Kmax * p) :=
  henry_rate_add (henry_rate_add (langmuir_henry_rate_le K1 Kmax nm1 p hK1 hnm1 h1 hp)
    (langmuir_henry_rate_le K2 Kmax nm2 p hK2 hnm2 h2 hp)) (langmuir_henry_rate_le K3 Kmax nm3 p hK3 hnm3 h3 hp)

/-- conditioning of the inverse: a perturbed loading `n'` moves the pressure by exactly this much … -/
theorem exact_langmuirInv_sub (K nm n n' : α) (hK : K ≠ 0) (h : nm - n ≠ 0) (h' : nm - n' ≠ 0) :
    MEval.langmuirInv K nm n' - MEval.langmuirInv K nm n = nm * (n' - n) / (K * (nm - n) * (nm - n')) := by
  unfold MEval.langmuirInv; field_simp; ring

/-- … i.e. a relative error of the loading is amplified by `n_m / (n_m − n')` (unbounded towards saturation; `1` at low
coverage: no loss of relative accuracy is inherent there) -/
theorem exact_langmuirInv_rel (K nm n n' : α) (hK : K ≠ 0) (hn : n ≠ 0) (h : nm - n ≠ 0) (h' : nm - n' ≠ 0) :
    (MEval.langmuirInv K nm n' - MEval.langmuirInv K nm n) / MEval.langmuirInv K nm n
      = (n' - n) / n * (nm / (nm - n')) := by
  rw [exact_langmuirInv_sub K nm n n' hK h h']
  unfold MEval.langmuirInv; field_simp

/-- BET and Quadratic: the ratio to Henry's law in closed form (`n(p)/(K_H p)`; its distance from 1 is first
order in `p`) -/
theorem exact_bet_henry_ratio (nm C N p : α) (hnm : nm ≠ 0) (hC : C ≠ 0) (hp : p ≠ 0) :
    MEval.bet nm C N p / (nm * C * p) = 1 / ((1 - N * p) * (1 - N * p + C * p)) := by
  unfold MEval.bet
  rw [div_right_comm, div_self (mul_ne_zero (mul_ne_zero hnm hC) hp)]

theorem exact_quadratic_henry_ratio (nm Ka Kb p : α) (hnm : nm ≠ 0) (hKa : Ka ≠ 0) (hp : p ≠ 0) :
    MEval.quadratic nm Ka Kb p / (nm * Ka * p) = (1 + 2 * (Kb / Ka) * p) / (1 + Ka * p + Kb * p ^ 2) := by
  unfold MEval.quadratic
  rw [div_right_comm, mul_div_mul_right _ _ hp, mul_div_mul_left _ _ hnm, add_div, div_self hKa]
  ring

end Field

example : MEval.langmuir (3 : ℚ) 5 (1 / 10 ^ 18) = 15 / 1000000000000000003 := by decide +kernel
example : MEval.langmuirInv (3 : ℚ) 5 (MEval.langmuir 3 5 (1 / 10 ^ 18)) = 1 / 10 ^ 18 :=
  exact_langmuir_roundtrip 3 5 _ (by norm_num) (by norm_num) (by positivity)
example : |MEval.langmuir (3 : ℚ) 5 (1 / 10 ^ 6) / (5 * 3 * (1 / 10 ^ 6)) - 1| ≤ 3 * (1 / 10 ^ 6) :=
  exact_langmuir_henry_rel 3 5 _ (by norm_num) (by norm_num) (by positivity)

end PgVerif.C10
