/-
C10 for the multi-site Langmuir models.  Statements are about the *generated* functions
(`Gen.R.DSLangmuir_*`, `Gen.R.TSLangmuir_loading` = what modelling/dslangmuir.py and modelling/tslangmuir.py
say now); proofs go through the tie lemmas to the published equations (sums of single-site Langmuir terms: `site_*` of Langmuir.lean).
Parameters strictly inside the declared bounds (0, ∞).  The TSLangmuir inverse is numerical (not translated).
-/
import PgVerif.Props.C10.Langmuir
import PgVerif.Lemmas.Quad

namespace PgVerif.C10
open PgVerif.Gen.R PgVerif.Spec.M Filter Topology

theorem dslangmuir_pos (nm1 K1 nm2 K2 p : ℝ) (hnm1 : 0 < nm1) (hK1 : 0 < K1) (hnm2 : 0 < nm2) (hK2 : 0 < K2)
    (hp : 0 < p) : 0 < DSLangmuir_loading nm1 K1 nm2 K2 p := by
  rw [PgVerif.Tie.dslangmuir_loading]; unfold dslangmuir
  exact add_pos (site_pos K1 nm1 p hK1 hnm1 hp) (site_pos K2 nm2 p hK2 hnm2 hp)

theorem dslangmuir_zero (nm1 K1 nm2 K2 : ℝ) : DSLangmuir_loading nm1 K1 nm2 K2 0 = 0 := by
  rw [PgVerif.Tie.dslangmuir_loading]; unfold dslangmuir
  rw [site_zero, site_zero]; ring

theorem dslangmuir_nonneg (nm1 K1 nm2 K2 p : ℝ) (hnm1 : 0 < nm1) (hK1 : 0 < K1) (hnm2 : 0 < nm2) (hK2 : 0 < K2)
    (hp : 0 ≤ p) : 0 ≤ DSLangmuir_loading nm1 K1 nm2 K2 p := by
  rw [PgVerif.Tie.dslangmuir_loading]; unfold dslangmuir
  exact add_nonneg (site_nonneg K1 nm1 p hK1 hnm1 hp) (site_nonneg K2 nm2 p hK2 hnm2 hp)

theorem dslangmuir_lt_sat (nm1 K1 nm2 K2 p : ℝ) (hnm1 : 0 < nm1) (hK1 : 0 < K1) (hnm2 : 0 < nm2) (hK2 : 0 < K2)
    (hp : 0 ≤ p) : DSLangmuir_loading nm1 K1 nm2 K2 p < nm1 + nm2 := by
  rw [PgVerif.Tie.dslangmuir_loading]; unfold dslangmuir
  exact add_lt_add (site_lt_sat K1 nm1 p hK1 hnm1 hp) (site_lt_sat K2 nm2 p hK2 hnm2 hp)

theorem dslangmuir_strictMonoOn (nm1 K1 nm2 K2 : ℝ) (hnm1 : 0 < nm1) (hK1 : 0 < K1) (hnm2 : 0 < nm2)
    (hK2 : 0 < K2) : StrictMonoOn (DSLangmuir_loading nm1 K1 nm2 K2) (Set.Ici 0) := by
  intro a ha b _ hab
  simp only [Set.mem_Ici] at ha
  rw [PgVerif.Tie.dslangmuir_loading, PgVerif.Tie.dslangmuir_loading]; unfold dslangmuir
  exact add_lt_add (site_lt K1 nm1 a b hK1 hnm1 ha hab) (site_lt K2 nm2 a b hK2 hnm2 ha hab)

theorem dslangmuir_henry (nm1 K1 nm2 K2 : ℝ) :
    Tendsto (fun p => DSLangmuir_loading nm1 K1 nm2 K2 p / p) (𝓝[>] 0) (𝓝 (nm1 * K1 + nm2 * K2)) := by
  simp only [PgVerif.Tie.dslangmuir_loading, dslangmuir, add_div]
  exact (site_henry K1 nm1).add (site_henry K2 nm2)

/-- pressure(loading(p)) = p for p > 0: `p` is the root of `x q² + y q - n = 0`, `x = (nm1+nm2-n) K1 K2 > 0`, at which the
derivative is positive (the other root is negative), which is the one the code's `+√` form returns.
The point `p = 0` is `dslangmuir_pressure_zero` (together with `dslangmuir_zero`). -/
theorem dslangmuir_pressure_loading (nm1 K1 nm2 K2 p : ℝ) (hnm1 : 0 < nm1) (hK1 : 0 < K1) (hnm2 : 0 < nm2)
    (hK2 : 0 < K2) (hp : 0 < p) :
    DSLangmuir_pressure nm1 K1 nm2 K2 (DSLangmuir_loading nm1 K1 nm2 K2 p) = p := by
  have hn := dslangmuir_pos nm1 K1 nm2 K2 p hnm1 hK1 hnm2 hK2 hp
  have hsat := dslangmuir_lt_sat nm1 K1 nm2 K2 p hnm1 hK1 hnm2 hK2 hp.le
  rw [PgVerif.Tie.dslangmuir_loading] at hn hsat ⊢
  -- the defining relation  n (1 + K1 p)(1 + K2 p) = nm1 K1 p (1 + K2 p) + nm2 K2 p (1 + K1 p)
  have hrel : dslangmuir nm1 K1 nm2 K2 p * ((1 + K1 * p) * (1 + K2 * p))
      = nm1 * (K1 * p) * (1 + K2 * p) + nm2 * (K2 * p) * (1 + K1 * p) := by
    have h1 : 0 < 1 + K1 * p := by positivity
    have h2 : 0 < 1 + K2 * p := by positivity
    unfold dslangmuir langmuir
    field_simp
  generalize dslangmuir nm1 K1 nm2 K2 p = n at hn hsat hrel ⊢
  have hx : 0 < (nm1 + nm2 - n) * K1 * K2 := mul_pos (mul_pos (by linarith) hK1) hK2
  unfold DSLangmuir_pressure nanToZero
  simp only []
  apply PgVerif.Quad.stable_plus_of_root_pos hx.ne' hp
  · linear_combination -hrel
  · linarith [mul_pos hx (pow_pos hp 2)]

/-- pressure(0) = 0: at loading 0 the branch `y = nm1 K1 + nm2 K2 > 0` is taken, a genuine `(2 · 0) / (y + √D)` whose denominator is
at least `y` (this needs the parameters positive; it is not an instance of `x / 0 = 0`, no NaN). -/
theorem dslangmuir_pressure_zero (nm1 K1 nm2 K2 : ℝ) (hnm1 : 0 < nm1) (hK1 : 0 < K1) (hnm2 : 0 < nm2)
    (hK2 : 0 < K2) : DSLangmuir_pressure nm1 K1 nm2 K2 0 = 0 := by
  have hy : nm1 * K1 + nm2 * K2 - 0 * (K1 + K2) > 0 := by linarith [mul_pos hnm1 hK1, mul_pos hnm2 hK2]
  unfold DSLangmuir_pressure nanToZero
  simp only []
  rw [if_pos hy, mul_zero, zero_div]

theorem tslangmuir_zero (nm1 nm2 nm3 K1 K2 K3 : ℝ) : TSLangmuir_loading nm1 nm2 nm3 K1 K2 K3 0 = 0 := by
  rw [PgVerif.Tie.tslangmuir_loading]; unfold tslangmuir
  rw [site_zero, site_zero, site_zero]; ring

theorem tslangmuir_nonneg (nm1 nm2 nm3 K1 K2 K3 p : ℝ) (hnm1 : 0 < nm1) (hnm2 : 0 < nm2) (hnm3 : 0 < nm3)
    (hK1 : 0 < K1) (hK2 : 0 < K2) (hK3 : 0 < K3) (hp : 0 ≤ p) :
    0 ≤ TSLangmuir_loading nm1 nm2 nm3 K1 K2 K3 p := by
  rw [PgVerif.Tie.tslangmuir_loading]; unfold tslangmuir
  exact add_nonneg (add_nonneg (site_nonneg K1 nm1 p hK1 hnm1 hp) (site_nonneg K2 nm2 p hK2 hnm2 hp))
    (site_nonneg K3 nm3 p hK3 hnm3 hp)

theorem tslangmuir_lt_sat (nm1 nm2 nm3 K1 K2 K3 p : ℝ) (hnm1 : 0 < nm1) (hnm2 : 0 < nm2) (hnm3 : 0 < nm3)
    (hK1 : 0 < K1) (hK2 : 0 < K2) (hK3 : 0 < K3) (hp : 0 ≤ p) :
    TSLangmuir_loading nm1 nm2 nm3 K1 K2 K3 p < nm1 + nm2 + nm3 := by
  rw [PgVerif.Tie.tslangmuir_loading]; unfold tslangmuir
  exact add_lt_add (add_lt_add (site_lt_sat K1 nm1 p hK1 hnm1 hp) (site_lt_sat K2 nm2 p hK2 hnm2 hp))
    (site_lt_sat K3 nm3 p hK3 hnm3 hp)

theorem tslangmuir_strictMonoOn (nm1 nm2 nm3 K1 K2 K3 : ℝ) (hnm1 : 0 < nm1) (hnm2 : 0 < nm2) (hnm3 : 0 < nm3)
    (hK1 : 0 < K1) (hK2 : 0 < K2) (hK3 : 0 < K3) :
    StrictMonoOn (TSLangmuir_loading nm1 nm2 nm3 K1 K2 K3) (Set.Ici 0) := by
  intro a ha b _ hab
  simp only [Set.mem_Ici] at ha
  rw [PgVerif.Tie.tslangmuir_loading, PgVerif.Tie.tslangmuir_loading]; unfold tslangmuir
  exact add_lt_add (add_lt_add (site_lt K1 nm1 a b hK1 hnm1 ha hab) (site_lt K2 nm2 a b hK2 hnm2 ha hab))
    (site_lt K3 nm3 a b hK3 hnm3 ha hab)

theorem tslangmuir_henry (nm1 nm2 nm3 K1 K2 K3 : ℝ) :
    Tendsto (fun p => TSLangmuir_loading nm1 nm2 nm3 K1 K2 K3 p / p) (𝓝[>] 0)
      (𝓝 (nm1 * K1 + nm2 * K2 + nm3 * K3)) := by
  simp only [PgVerif.Tie.tslangmuir_loading, tslangmuir, add_div]
  exact ((site_henry K1 nm1).add (site_henry K2 nm2)).add (site_henry K3 nm3)

end PgVerif.C10
