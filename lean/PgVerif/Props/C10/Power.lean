/-
C10 for the power-law family: Freundlich, Toth, Jensen–Seaton.  Statements are about the *generated*
functions (`Gen.R.*` = what modelling/freundlich.py, toth.py, jensenseaton.py say now); proofs go through
the tie lemmas to the published equations.  Parameters strictly inside the declared bounds (0, ∞).

Real powers: `x ^ (y : ℝ)` is only the genuine power for `0 ≤ x` (and `0 ^ y = 0` needs `y ≠ 0`), so every
statement carries the guard `0 ≤ p` / `0 ≤ n` and the exponent hypotheses `0 < m`, `0 < t`, `0 < c`
(which make `1/m`, `1/t`, `1/c` non-zero: in Lean `1 / 0 = 0` and `0 ^ 0 = 1`).
-/
import PgVerif.Tie.Models
import PgVerif.Lemmas.Isotherm
import Mathlib.Analysis.SpecialFunctions.Pow.Continuity
import Mathlib.Tactic

namespace PgVerif.C10
open PgVerif.Gen.R PgVerif.Spec.M Filter Topology

private lemma rpow_rpow_one_div {x c : ℝ} (hx : 0 ≤ x) (hc : c ≠ 0) : (x ^ c) ^ (1 / c) = x := by
  rw [one_div]; exact Real.rpow_rpow_inv hx hc

private lemma rpow_one_div_rpow {x c : ℝ} (hx : 0 ≤ x) (hc : c ≠ 0) : (x ^ (1 / c)) ^ c = x := by
  rw [one_div]; exact Real.rpow_inv_rpow hx hc

/-- the common shape `u / (1 + (u/v)^c)^(1/c)` (Toth: `v = 1`; Jensen–Seaton: `v = a (1 + b p)`) is strictly
increasing in `u ≥ 0` and non-decreasing in `v > 0` -/
private lemma gtoth_lt {c u1 u2 v1 v2 : ℝ} (hc : 0 < c) (hu1 : 0 ≤ u1) (hu : u1 < u2) (hv1 : 0 < v1)
    (hv : v1 ≤ v2) :
    u1 / (1 + (u1 / v1) ^ c) ^ (1 / c) < u2 / (1 + (u2 / v2) ^ c) ^ (1 / c) := by
  have hu2 : 0 ≤ u2 := hu1.trans hu.le
  have hv2 : 0 < v2 := hv1.trans_le hv
  have hc' : 0 < 1 / c := by positivity
  -- in `u`, at fixed `v`: the shape is `v` times the `1/c`-th power of the Langmuir coverage of `(u/v)^c`
  have key : ∀ u, 0 ≤ u → u / (1 + (u / v1) ^ c) ^ (1 / c) = v1 * ((u / v1) ^ c / (1 + (u / v1) ^ c)) ^ (1 / c) := by
    intro u hu
    have hw : 0 ≤ u / v1 := by positivity
    rw [Real.div_rpow (Real.rpow_nonneg hw c) (by positivity : (0 : ℝ) ≤ 1 + (u / v1) ^ c), rpow_rpow_one_div hw hc.ne',
      div_div, mul_div_assoc', mul_div_mul_left _ _ hv1.ne']
  have h1 : u1 / (1 + (u1 / v1) ^ c) ^ (1 / c) < u2 / (1 + (u2 / v1) ^ c) ^ (1 / c) := by
    rw [key u1 hu1, key u2 hu2]
    exact mul_lt_mul_of_pos_left (Real.rpow_lt_rpow (cov_nonneg (by positivity))
      (cov_lt_cov (by positivity) (Real.rpow_lt_rpow (by positivity) (div_lt_div_of_pos_right hu hv1) hc)) hc') hv1
  -- in `v`: a larger `v` makes the denominator smaller
  exact h1.trans_le (div_le_div_of_nonneg_left hu2 (by positivity) (Real.rpow_le_rpow (by positivity)
    (add_le_add le_rfl (Real.rpow_le_rpow (by positivity) (div_le_div_of_nonneg_left hu2 hv1 hv) hc.le)) hc'.le))

/-! ### Freundlich: n = K p^(1/m) -/

theorem freundlich_pressure_loading (K m p : ℝ) (hK : 0 < K) (hm : 0 < m) (hp : 0 ≤ p) :
    Freundlich_pressure K m (Freundlich_loading K m p) = p := by
  rw [PgVerif.Tie.freundlich_loading, PgVerif.Tie.freundlich_pressure]
  unfold freundlichInv freundlich
  rw [mul_div_cancel_left₀ _ hK.ne', rpow_one_div_rpow hp hm.ne']

theorem freundlich_loading_pressure (K m n : ℝ) (hK : 0 < K) (hm : 0 < m) (hn : 0 ≤ n) :
    Freundlich_loading K m (Freundlich_pressure K m n) = n := by
  rw [PgVerif.Tie.freundlich_pressure, PgVerif.Tie.freundlich_loading]
  unfold freundlichInv freundlich
  rw [rpow_rpow_one_div (div_nonneg hn hK.le) hm.ne']; field_simp

/-- loading at zero pressure is zero.  This is true because the exponent `1/m` is non-zero (`0 < m`):
`0 ^ y = 0` only for `y ≠ 0`.  (Without the guard, Lean's `1 / 0 = 0`, `0 ^ 0 = 1` would give `K`.) -/
theorem freundlich_zero (K m : ℝ) (hm : 0 < m) : Freundlich_loading K m 0 = 0 := by
  rw [PgVerif.Tie.freundlich_loading]; unfold freundlich
  rw [Real.zero_rpow (one_div_ne_zero hm.ne'), mul_zero]

theorem freundlich_nonneg (K m p : ℝ) (hK : 0 < K) (hp : 0 ≤ p) : 0 ≤ Freundlich_loading K m p := by
  rw [PgVerif.Tie.freundlich_loading]; unfold freundlich
  exact mul_nonneg hK.le (Real.rpow_nonneg hp _)

theorem freundlich_strictMonoOn (K m : ℝ) (hK : 0 < K) (hm : 0 < m) :
    StrictMonoOn (Freundlich_loading K m) (Set.Ici 0) := by
  intro a ha b _ hab
  simp only [Set.mem_Ici] at ha
  rw [PgVerif.Tie.freundlich_loading, PgVerif.Tie.freundlich_loading]; unfold freundlich
  exact mul_lt_mul_of_pos_left (Real.rpow_lt_rpow ha hab (by positivity)) hK

/-! ### Toth: n = n_m K p / (1 + (K p)^t)^(1/t) -/

/-- at `p = 0` both sides are genuinely `0`: `0 ^ t = 0`, `t > 0` -/
theorem toth_pressure_loading (nm K t p : ℝ) (hnm : 0 < nm) (hK : 0 < K) (ht : 0 < t) (hp : 0 ≤ p) :
    Toth_pressure nm K t (Toth_loading nm K t p) = p := by
  rw [PgVerif.Tie.toth_loading, PgVerif.Tie.toth_pressure]
  unfold tothInv toth
  have hu : 0 ≤ K * p := by positivity
  have hA : 0 < 1 + (K * p) ^ t := by positivity
  have hAt : 0 < (1 + (K * p) ^ t) ^ (1 / t) := by positivity
  rw [mul_div_assoc, mul_div_cancel_left₀ _ hnm.ne', Real.div_rpow hu hAt.le, rpow_one_div_rpow hA.le ht.ne',
    one_sub_div hA.ne', add_sub_cancel_right, Real.div_rpow zero_le_one hA.le, Real.one_rpow]
  field_simp

theorem toth_loading_pressure (nm K t n : ℝ) (hnm : 0 < nm) (hK : 0 < K) (ht : 0 < t) (hn : 0 ≤ n)
    (hsat : n < nm) :
    Toth_loading nm K t (Toth_pressure nm K t n) = n := by
  rw [PgVerif.Tie.toth_pressure, PgVerif.Tie.toth_loading]
  unfold tothInv toth
  have hx0 : 0 ≤ n / nm := by positivity
  have hB : 0 < 1 - (n / nm) ^ t := sub_pos.mpr (Real.rpow_lt_one hx0 ((div_lt_one hnm).mpr hsat) ht)
  have hBt : 0 < (1 - (n / nm) ^ t) ^ (1 / t) := by positivity
  rw [show K * (n / (nm * K) / (1 - (n / nm) ^ t) ^ (1 / t)) = n / nm / (1 - (n / nm) ^ t) ^ (1 / t) by field_simp,
    Real.div_rpow hx0 hBt.le, rpow_one_div_rpow hB.le ht.ne', one_add_div hB.ne', sub_add_cancel,
    Real.div_rpow zero_le_one hB.le, Real.one_rpow]
  field_simp

theorem toth_zero (nm K t : ℝ) : Toth_loading nm K t 0 = 0 := by
  rw [PgVerif.Tie.toth_loading]; simp [toth]

theorem toth_nonneg (nm K t p : ℝ) (hnm : 0 < nm) (hK : 0 < K) (hp : 0 ≤ p) : 0 ≤ Toth_loading nm K t p := by
  rw [PgVerif.Tie.toth_loading]; unfold toth
  positivity

theorem toth_lt_sat (nm K t p : ℝ) (hnm : 0 < nm) (hK : 0 < K) (ht : 0 < t) (hp : 0 ≤ p) :
    Toth_loading nm K t p < nm := by
  rw [PgVerif.Tie.toth_loading]; unfold toth
  have hu : 0 ≤ K * p := by positivity
  -- `K p = ((K p)^t)^(1/t) < (1 + (K p)^t)^(1/t)`
  have key := Real.rpow_lt_rpow (Real.rpow_nonneg hu t) (lt_one_add _) (by positivity : 0 < 1 / t)
  rw [rpow_rpow_one_div hu ht.ne'] at key
  rw [mul_div_assoc]
  exact mul_lt_of_lt_one_right hnm ((div_lt_one (by positivity)).mpr key)

theorem toth_strictMonoOn (nm K t : ℝ) (hnm : 0 < nm) (hK : 0 < K) (ht : 0 < t) :
    StrictMonoOn (Toth_loading nm K t) (Set.Ici 0) := by
  intro a ha b _ hab
  simp only [Set.mem_Ici] at ha
  rw [PgVerif.Tie.toth_loading, PgVerif.Tie.toth_loading]; unfold toth
  have h := gtoth_lt (c := t) (u1 := K * a) (u2 := K * b) (v1 := 1) (v2 := 1) ht (by positivity)
    (mul_lt_mul_of_pos_left hab hK) one_pos le_rfl
  simp only [div_one] at h
  rw [mul_div_assoc nm (K * a), mul_div_assoc nm (K * b)]
  exact mul_lt_mul_of_pos_left h hnm

/-- needs `t ≠ 0` so that `(K·0)^t = 0` -/
theorem toth_henry (nm K t : ℝ) (ht : 0 < t) :
    Tendsto (fun p => Toth_loading nm K t p / p) (𝓝[>] 0) (𝓝 (nm * K)) := by
  refine tendsto_div_nhdsGT_zero (g := fun p => nm * K / (1 + (K * p) ^ t) ^ (1 / t))
    (by fun_prop (disch := simp [Real.zero_rpow ht.ne', ht.le])) (by simp [Real.zero_rpow ht.ne']) ?_
  intro p
  rw [PgVerif.Tie.toth_loading]; unfold toth
  ring

/-! ### Jensen–Seaton: n = K p / (1 + (K p / (a (1 + b p)))^c)^(1/c)  (the inverse is numerical) -/

theorem jensenseaton_zero (K a b c : ℝ) : JensenSeaton_loading K a b c 0 = 0 := by
  rw [PgVerif.Tie.jensenseaton_loading]; simp [jensenSeaton]

theorem jensenseaton_nonneg (K a b c p : ℝ) (hK : 0 < K) (ha : 0 < a) (hb : 0 < b) (hp : 0 ≤ p) :
    0 ≤ JensenSeaton_loading K a b c p := by
  rw [PgVerif.Tie.jensenseaton_loading]; unfold jensenSeaton
  positivity

theorem jensenseaton_henry (K a b c : ℝ) (ha : 0 < a) (hc : 0 < c) :
    Tendsto (fun p => JensenSeaton_loading K a b c p / p) (𝓝[>] 0) (𝓝 K) := by
  refine tendsto_div_nhdsGT_zero (g := fun p => K / (1 + (K * p / (a * (1 + b * p))) ^ c) ^ (1 / c))
    (by fun_prop (disch := simp [Real.zero_rpow hc.ne', hc.le, ha.ne'])) (by simp [Real.zero_rpow hc.ne']) ?_
  intro p
  rw [PgVerif.Tie.jensenseaton_loading]; unfold jensenSeaton
  ring

/-- strictly increasing on `[0, ∞)`: both `K p` and `a (1 + b p)` increase, and
`u / (1 + (u/v)^c)^(1/c)` increases in `u` and in `v` -/
theorem jensenseaton_strictMonoOn (K a b c : ℝ) (hK : 0 < K) (ha : 0 < a) (hb : 0 < b) (hc : 0 < c) :
    StrictMonoOn (JensenSeaton_loading K a b c) (Set.Ici 0) := by
  intro p hp q _ hpq
  simp only [Set.mem_Ici] at hp
  rw [PgVerif.Tie.jensenseaton_loading, PgVerif.Tie.jensenseaton_loading]; unfold jensenSeaton
  have hv1 : 0 < a * (1 + b * p) := by positivity
  have hv : a * (1 + b * p) ≤ a * (1 + b * q) := by
    have := mul_lt_mul_of_pos_left hpq hb
    exact mul_le_mul_of_nonneg_left (by linarith) ha.le
  exact gtoth_lt hc (by positivity) (mul_lt_mul_of_pos_left hpq hK) hv1 hv

theorem jensenseaton_monotoneOn (K a b c : ℝ) (hK : 0 < K) (ha : 0 < a) (hb : 0 < b) (hc : 0 < c) :
    MonotoneOn (JensenSeaton_loading K a b c) (Set.Ici 0) :=
  (jensenseaton_strictMonoOn K a b c hK ha hb hc).monotoneOn

end PgVerif.C10
