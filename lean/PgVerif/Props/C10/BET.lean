/-
C10 for BET.  Statements about the generated functions (`Gen.R.BET_*` = modelling/bet.py now).
Validity range of the property: below the pole, `N p < 1`; parameters strictly inside the bounds
`n_m, C > 0`, `0 < N` (`N ≤ 1` is not needed).  Since the repair of finding S51-C10a/b the inverse is computed in the
cancellation-free form of the same root (`Lemmas/Quad.lean` `stable_minus_eq`), which also covers `N = C` (the quadratic
degenerates to a linear equation there; the earlier form divided by zero and returned the pressure 0 for every loading:
`Props/C10/Findings.lean`), so the round trip holds for `N = C` too.
-/
import PgVerif.Tie.Models
import PgVerif.Lemmas.Quad
import PgVerif.Lemmas.Isotherm
import Mathlib.Tactic

namespace PgVerif.C10
open PgVerif.Gen.R PgVerif.Spec.M Filter Topology

theorem bet_pos (nm C N p : ℝ) (hnm : 0 < nm) (hC : 0 < C) (hN : 0 < N) (hp : 0 < p) (hpole : N * p < 1) :
    0 < BET_loading nm C N p := by
  rw [PgVerif.Tie.bet_loading]; unfold bet
  have h1 : 0 < 1 - N * p := by linarith
  positivity

/-- `N = C`, the degenerate case of finding S51-C10b, is included -/
theorem bet_pressure_loading (nm C N p : ℝ) (hnm : 0 < nm) (hC : 0 < C) (hN : 0 < N)
    (hp : 0 < p) (hpole : N * p < 1) :
    BET_pressure nm C N (BET_loading nm C N p) = p := by
  have hn := bet_pos nm C N p hnm hC hN hp hpole
  rw [PgVerif.Tie.bet_loading] at hn ⊢
  have h1 : 0 < 1 - N * p := by linarith
  -- the defining relation n (1 - N p)(1 - N p + C p) = nm C p, multiplied out, is the quadratic the code solves
  have hrel : bet nm C N p * ((1 - N * p) * (1 - N * p + C * p)) = nm * C * p :=
    div_mul_cancel₀ _ (by positivity)
  generalize bet nm C N p = n at hn hrel ⊢
  unfold BET_pressure nanToZero
  simp only []
  apply PgVerif.Quad.stable_minus_of_root_pos hp hn
  · linear_combination hrel
  · -- N (N - C) p² ≤ (N p)² < 1
    have hu := mul_pos hN hp
    have : N * (N - C) * p ^ 2 ≤ 1 := by
      linarith [mul_pos h1 (by linarith : 0 < 1 + N * p), mul_pos hu (mul_pos hC hp)]
    linarith [mul_le_mul_of_nonneg_left this hn.le]

/-- the instance that was finding S51-C10b: `N = C` -/
example : BET_pressure 1 (2 / 5) (2 / 5) (BET_loading 1 (2 / 5) (2 / 5) 1) = 1 :=
  bet_pressure_loading 1 (2 / 5) (2 / 5) 1 (by norm_num) (by norm_num) (by norm_num) (by norm_num) (by norm_num)

theorem bet_zero (nm C N : ℝ) : BET_loading nm C N 0 = 0 := by
  rw [PgVerif.Tie.bet_loading]; simp [bet]

/-- the zero point of the inverse: at loading 0 the branch `y = -n_m C < 0` is taken and the quotient is a genuine
`(2 · 0) / (2 n_m C)` with a non-zero denominator (no `0/0`, no NaN, no reliance on `x / 0 = 0`; the textbook form was `0/0` here
and relied on `nan_to_num`).  `x`, `y` are the subterms `v_x`, `v_y` of the generated `BET_pressure` at loading 0, copied literally. -/
theorem bet_pressure_zero_point (nm C N : ℝ) (hnm : 0 < nm) (hC : 0 < C) :
    let x := (0 : ℝ) * N * (N - C)
    let y := (0 : ℝ) * C - 2 * 0 * N - nm * C
    y < 0 ∧ Real.sqrt (y ^ 2 - 4 * x * 0) - y ≠ 0 ∧ BET_pressure nm C N 0 = 0 := by
  simp only []
  have hy : (0 : ℝ) * C - 2 * 0 * N - nm * C < 0 := by linarith [mul_pos hnm hC]
  refine ⟨hy, (sub_pos.mpr (hy.trans_le (Real.sqrt_nonneg _))).ne', ?_⟩
  unfold BET_pressure nanToZero
  simp only []
  rw [if_pos hy, mul_zero, zero_div]

theorem bet_pressure_loading_nonneg (nm C N p : ℝ) (hnm : 0 < nm) (hC : 0 < C) (hN : 0 < N)
    (hp : 0 ≤ p) (hpole : N * p < 1) :
    BET_pressure nm C N (BET_loading nm C N p) = p := by
  rcases hp.eq_or_lt with h0 | hpos
  · rw [← h0, bet_zero]
    exact (bet_pressure_zero_point nm C N hnm hC).2.2
  · exact bet_pressure_loading nm C N p hnm hC hN hpos hpole

theorem bet_strictMonoOn (nm C N : ℝ) (hnm : 0 < nm) (hC : 0 < C) (hN : 0 < N) :
    StrictMonoOn (BET_loading nm C N) {p | 0 ≤ p ∧ N * p < 1} := by
  intro a ha b hb hab
  rw [PgVerif.Tie.bet_loading, PgVerif.Tie.bet_loading]; unfold bet
  have hb0 : 0 ≤ b := ha.1.trans hab.le
  have a1 : 0 < 1 - N * a := by linarith [ha.2]
  have b1 : 0 < 1 - N * b := by linarith [hb.2]
  have a2 : 0 < 1 - N * a + C * a := by have := ha.1; positivity
  have b2 : 0 < 1 - N * b + C * b := by positivity
  rw [div_lt_div_iff₀ (mul_pos a1 a2) (mul_pos b1 b2)]
  -- `a (1 - N b + C b) < b (1 - N a + C a)` (the difference is `b - a`), and `1 - N b ≤ 1 - N a`
  have h : a * (1 - N * b + C * b) * (1 - N * b) < b * (1 - N * a + C * a) * (1 - N * a) :=
    mul_lt_mul (by linarith) (by linarith [mul_lt_mul_of_pos_left hab hN]) b1 (mul_nonneg hb0 a2.le)
  linarith [mul_lt_mul_of_pos_left h (mul_pos hnm hC)]

theorem bet_henry (nm C N : ℝ) :
    Tendsto (fun p => BET_loading nm C N p / p) (𝓝[>] 0) (𝓝 (nm * C)) := by
  refine tendsto_div_nhdsGT_zero (g := fun p => nm * C / ((1 - N * p) * (1 - N * p + C * p))) ?_ (by simp) ?_
  · exact continuousAt_const.div (by fun_prop) (by simp)
  · intro p
    rw [PgVerif.Tie.bet_loading]; unfold bet
    ring

end PgVerif.C10
