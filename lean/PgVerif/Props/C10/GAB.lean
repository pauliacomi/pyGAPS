/-
C10 for GAB.  Statements about the generated functions (`Gen.R.GAB_*` = modelling/gab.py now).
GAB is BET in the reduced variable `u = K p`.  Validity range of the property: below the pole, `K p < 1`;
parameters strictly inside the bounds `n_m, C > 0`, `0 < K` (`K < 1` is not needed).  Since the repair of finding S51-C10a/b the
inverse is computed in the cancellation-free form of the same root (`Lemmas/Quad.lean` `stable_minus_eq`), which also covers
`C = 1` (the quadratic degenerates, `x = 0`; the earlier form divided by zero and returned the pressure 0 for every loading:
`Props/C10/Findings.lean`), so the round trip holds for `C = 1` too.
-/
import PgVerif.Props.C10.BET

namespace PgVerif.C10
open PgVerif.Gen.R PgVerif.Spec.M Filter Topology

lemma gab_loading_eq_bet (nm C K p : ℝ) : GAB_loading nm C K p = BET_loading nm C 1 (K * p) := by
  rw [PgVerif.Tie.gab_loading, PgVerif.Tie.bet_loading]; unfold gab bet
  rw [one_mul]

theorem gab_pos (nm C K p : ℝ) (hnm : 0 < nm) (hC : 0 < C) (hK : 0 < K) (hp : 0 < p) (hpole : K * p < 1) :
    0 < GAB_loading nm C K p := by
  rw [gab_loading_eq_bet]
  exact bet_pos nm C 1 (K * p) hnm hC one_pos (mul_pos hK hp) (by rwa [one_mul])

/-- `C = 1`, the degenerate case of finding S51-C10b, is included -/
theorem gab_pressure_loading (nm C K p : ℝ) (hnm : 0 < nm) (hC : 0 < C) (hK : 0 < K)
    (hp : 0 < p) (hpole : K * p < 1) :
    GAB_pressure nm C K (GAB_loading nm C K p) = p := by
  have hn := gab_pos nm C K p hnm hC hK hp hpole
  rw [PgVerif.Tie.gab_loading] at hn ⊢
  have h1 : 0 < 1 - K * p := by linarith
  have hu := mul_pos hK hp
  -- the defining relation n (1 - K p)(1 - K p + C K p) = nm C K p, multiplied out, is the quadratic the code solves
  have hrel : gab nm C K p * ((1 - K * p) * (1 - K * p + C * (K * p))) = nm * C * (K * p) :=
    div_mul_cancel₀ _ (by positivity)
  generalize gab nm C K p = n at hn hrel ⊢
  unfold GAB_pressure nanToZero
  simp only []
  apply PgVerif.Quad.stable_minus_of_root_pos hp hn
  · linear_combination hrel
  · -- (1 - C) (K p)² ≤ (K p)² < 1
    have : (1 - C) * K ^ 2 * p ^ 2 ≤ 1 := by
      linarith [mul_pos h1 (by linarith : 0 < 1 + K * p), mul_pos hC (mul_pos hu hu)]
    linarith [mul_le_mul_of_nonneg_left this hn.le]

/-- the instance that was finding S51-C10b: `C = 1` -/
example : GAB_pressure 1 1 (2 / 5) (GAB_loading 1 1 (2 / 5) 1) = 1 :=
  gab_pressure_loading 1 1 (2 / 5) 1 (by norm_num) (by norm_num) (by norm_num) (by norm_num) (by norm_num)

theorem gab_zero (nm C K : ℝ) : GAB_loading nm C K 0 = 0 := by
  rw [PgVerif.Tie.gab_loading]; simp [gab]

/-- the zero point of the inverse: at loading 0 the branch `y = -n_m C K < 0` is taken and the quotient is a genuine
`(2 · 0) / (2 n_m C K)` with a non-zero denominator (no `0/0`, no NaN; the textbook form was `0/0` here and relied on `nan_to_num`).
`x`, `y` are the subterms `v_x`, `v_y` of the generated `GAB_pressure` at loading 0, copied literally. -/
theorem gab_pressure_zero_point (nm C K : ℝ) (hnm : 0 < nm) (hC : 0 < C) (hK : 0 < K) :
    let x := (0 : ℝ) * (1 - C) * K ^ 2
    let y := ((0 : ℝ) * (C - 2) - nm * C) * K
    y < 0 ∧ Real.sqrt (y ^ 2 - 4 * x * 0) - y ≠ 0 ∧ GAB_pressure nm C K 0 = 0 := by
  simp only []
  have hy : ((0 : ℝ) * (C - 2) - nm * C) * K < 0 := by
    have : (0 : ℝ) * (C - 2) - nm * C < 0 := by linarith [mul_pos hnm hC]
    exact mul_neg_of_neg_of_pos this hK
  refine ⟨hy, (sub_pos.mpr (hy.trans_le (Real.sqrt_nonneg _))).ne', ?_⟩
  unfold GAB_pressure nanToZero
  simp only []
  rw [if_pos hy, mul_zero, zero_div]

theorem gab_pressure_loading_nonneg (nm C K p : ℝ) (hnm : 0 < nm) (hC : 0 < C) (hK : 0 < K)
    (hp : 0 ≤ p) (hpole : K * p < 1) :
    GAB_pressure nm C K (GAB_loading nm C K p) = p := by
  rcases hp.eq_or_lt with h0 | hpos
  · rw [← h0, gab_zero]
    exact (gab_pressure_zero_point nm C K hnm hC hK).2.2
  · exact gab_pressure_loading nm C K p hnm hC hK hpos hpole

theorem gab_strictMonoOn (nm C K : ℝ) (hnm : 0 < nm) (hC : 0 < C) (hK : 0 < K) :
    StrictMonoOn (GAB_loading nm C K) {p | 0 ≤ p ∧ K * p < 1} := by
  intro a ha b hb hab
  rw [gab_loading_eq_bet, gab_loading_eq_bet]
  exact bet_strictMonoOn nm C 1 hnm hC one_pos ⟨mul_nonneg hK.le ha.1, by rw [one_mul]; exact ha.2⟩
    ⟨mul_nonneg hK.le hb.1, by rw [one_mul]; exact hb.2⟩ (mul_lt_mul_of_pos_left hab hK)

theorem gab_henry (nm C K : ℝ) :
    Tendsto (fun p => GAB_loading nm C K p / p) (𝓝[>] 0) (𝓝 (nm * C * K)) := by
  refine tendsto_div_nhdsGT_zero (g := fun p => nm * C * K / ((1 - K * p) * (1 - K * p + C * (K * p)))) ?_ (by simp) ?_
  · exact continuousAt_const.div (by fun_prop) (by simp)
  · intro p
    rw [PgVerif.Tie.gab_loading]; unfold gab
    ring

end PgVerif.C10
