/-
C10 for TemkinApprox (modelling/temkinapprox.py).  Statements are about the *generated* function
`Gen.R.TemkinApprox_loading nm K tht p = nm (θ + tht θ² (θ - 1))`, `θ = K p / (1 + K p)`; proofs go through the tie
lemma to the published equation.  Parameters: `nm, K > 0`, `tht ≥ 0` (declared bounds); the inverse is numerical
(no closed form, nothing to prove).  The upper bounds on `tht` (4 for non-negativity, 3 for monotonicity) are
part of the properties: they are not implied by the declared bounds `(0, ∞)`.
-/
import PgVerif.Tie.Models
import PgVerif.Lemmas.Isotherm
import Mathlib.Tactic

namespace PgVerif.C10
open PgVerif.Gen.R PgVerif.Spec.M Filter Topology

/-! ### the cubic `θ + tht θ² (θ - 1)` in the Langmuir coverage `θ = K p / (1 + K p)` (`Lemmas/Isotherm.lean`) -/

/-- the cubic is ≥ 0 for `θ ≥ 0` when `0 ≤ tht ≤ 4`: `1 + tht (θ² - θ) = 1 - tht/4 + tht (θ - 1/2)²` -/
lemma temkin_cubic_nonneg (tht t : ℝ) (h0 : 0 ≤ tht) (h4 : tht ≤ 4) (ht : 0 ≤ t) :
    0 ≤ t + tht * t ^ 2 * (t - 1) := by
  rw [show t + tht * t ^ 2 * (t - 1) = t * ((4 - tht) / 4 + tht * (t - 1 / 2) ^ 2) by ring]
  exact mul_nonneg ht (add_nonneg (div_nonneg (sub_nonneg.mpr h4) four_pos.le) (mul_nonneg h0 (sq_nonneg _)))

lemma temkin_cubic_le (tht t : ℝ) (h0 : 0 ≤ tht) (ht1 : t ≤ 1) :
    t + tht * t ^ 2 * (t - 1) ≤ t := by
  have h1 : 0 ≤ tht * t ^ 2 := mul_nonneg h0 (sq_nonneg _)
  have h2 : tht * t ^ 2 * (t - 1) ≤ 0 := mul_nonpos_of_nonneg_of_nonpos h1 (by linarith)
  linarith

/-- the cubic is strictly increasing on all of ℝ when `0 ≤ tht ≤ 3`: the difference is `(b - a) (1 + tht q)`,
`q = a² + a b + b² - a - b`, and `q + 1/3 = ¾ (a + b - ⅔)² + ¼ (b - a)² > 0`, so `1 + tht q = (3 - tht)/3 + tht (q + 1/3)` is
the sum of a positive and a non-negative term -/
lemma temkin_cubic_strictMono (tht a b : ℝ) (h0 : 0 ≤ tht) (h3 : tht ≤ 3) (hab : a < b) :
    a + tht * a ^ 2 * (a - 1) < b + tht * b ^ 2 * (b - 1) := by
  have hd : 0 < b - a := sub_pos.mpr hab
  have hg : 0 < 3 / 4 * (a + b - 2 / 3) ^ 2 + 1 / 4 * (b - a) ^ 2 := by positivity
  have hbr : 0 < (3 - tht) / 3 + tht * (3 / 4 * (a + b - 2 / 3) ^ 2 + 1 / 4 * (b - a) ^ 2) := by
    rcases h3.lt_or_eq with h | h
    · exact add_pos_of_pos_of_nonneg (div_pos (sub_pos.mpr h) three_pos) (mul_nonneg h0 hg.le)
    · exact add_pos_of_nonneg_of_pos (div_nonneg (sub_nonneg.mpr h3) three_pos.le) (mul_pos (h ▸ three_pos) hg)
  have hf : b + tht * b ^ 2 * (b - 1) - (a + tht * a ^ 2 * (a - 1))
      = (b - a) * ((3 - tht) / 3 + tht * (3 / 4 * (a + b - 2 / 3) ^ 2 + 1 / 4 * (b - a) ^ 2)) := by ring
  exact sub_pos.mp (hf ▸ mul_pos hd hbr)

theorem temkin_zero (nm K tht : ℝ) : TemkinApprox_loading nm K tht 0 = 0 := by
  rw [PgVerif.Tie.temkin_loading]; simp [temkin]

theorem temkin_nonneg (nm K tht p : ℝ) (hnm : 0 < nm) (hK : 0 < K) (h0 : 0 ≤ tht) (h4 : tht ≤ 4) (hp : 0 ≤ p) :
    0 ≤ TemkinApprox_loading nm K tht p := by
  rw [PgVerif.Tie.temkin_loading]; unfold temkin
  exact mul_nonneg hnm.le (temkin_cubic_nonneg tht _ h0 h4 (cov_nonneg (mul_nonneg hK.le hp)))

/-- the saturation loading is never attained: the cubic is at most the coverage, which stays below 1 -/
theorem temkin_lt_sat (nm K tht p : ℝ) (hnm : 0 < nm) (hK : 0 < K) (h0 : 0 ≤ tht) (hp : 0 ≤ p) :
    TemkinApprox_loading nm K tht p < nm := by
  rw [PgVerif.Tie.temkin_loading]; unfold temkin
  have h1 : K * p / (1 + K * p) < 1 := cov_lt_one (mul_nonneg hK.le hp)
  exact mul_lt_of_lt_one_right hnm ((temkin_cubic_le tht _ h0 h1.le).trans_lt h1)

theorem temkin_le_sat (nm K tht p : ℝ) (hnm : 0 < nm) (hK : 0 < K) (h0 : 0 ≤ tht) (hp : 0 ≤ p) :
    TemkinApprox_loading nm K tht p ≤ nm :=
  (temkin_lt_sat nm K tht p hnm hK h0 hp).le

/-- the boundary value `tht = 3` is included -/
theorem temkin_strictMonoOn (nm K tht : ℝ) (hnm : 0 < nm) (hK : 0 < K) (h0 : 0 ≤ tht) (h3 : tht ≤ 3) :
    StrictMonoOn (TemkinApprox_loading nm K tht) (Set.Ici 0) := by
  intro a ha b _ hab
  simp only [Set.mem_Ici] at ha
  rw [PgVerif.Tie.temkin_loading, PgVerif.Tie.temkin_loading]; unfold temkin
  exact mul_lt_mul_of_pos_left
    (temkin_cubic_strictMono tht _ _ h0 h3 (cov_lt_cov (mul_nonneg hK.le ha) (mul_lt_mul_of_pos_left hab hK))) hnm

theorem temkin_monotoneOn (nm K tht : ℝ) (hnm : 0 < nm) (hK : 0 < K) (h0 : 0 ≤ tht) (h3 : tht ≤ 3) :
    MonotoneOn (TemkinApprox_loading nm K tht) (Set.Ici 0) :=
  (temkin_strictMonoOn nm K tht hnm hK h0 h3).monotoneOn

theorem temkin_henry (nm K tht : ℝ) (hK : 0 < K) :
    Tendsto (fun p => TemkinApprox_loading nm K tht p / p) (𝓝[>] 0) (𝓝 (nm * K)) := by
  refine tendsto_div_nhdsGT_zero (g := fun p => nm * (K / (1 + K * p)) *
    (1 + tht * (K * p / (1 + K * p)) * (K * p / (1 + K * p) - 1))) (by fun_prop (disch := simp)) (by simp) ?_
  intro p
  rw [PgVerif.Tie.temkin_loading]; unfold temkin
  ring

end PgVerif.C10
