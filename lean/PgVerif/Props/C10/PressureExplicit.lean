/-
C10 for the pressure-explicit models Virial, FHVST and WVST.  Statements are about the *generated*
functions (`Gen.R.Virial_pressure`, `Gen.R.FHVST_pressure`, `Gen.R.WVST_pressure` = what
modelling/virial.py, modelling/fhvst.py, modelling/wvst.py say now); proofs go through the tie lemmas
to the published equations.  For these models the code computes the pressure from the loading in closed
form; `loading(p)` is a numerical root (not translated).  Its specification is the uniqueness statement
(`*_injOn`): on the strictly monotone range any root is THE loading.

Parameters strictly inside the declared bounds: `K > 0` (Virial; `A B C` free), `n_m, K > 0` (FHVST, WVST).
The Wilson parameters are declared free in the code, the properties need `L1v, Lv1 > 0` (stated).
Validity range: coverage `θ = n / n_m ∈ [0, 1)` for the two VST models.
-/
import PgVerif.Tie.Models
import PgVerif.Lemmas.Isotherm
import Mathlib.Analysis.SpecialFunctions.Log.Deriv
import Mathlib.Analysis.Calculus.Deriv.MeanValue
import Mathlib.Tactic

namespace PgVerif.C10
open PgVerif.Gen.R PgVerif.Spec.M Filter Topology

/-- `f · exp(-g)` comparison from a purely rational inequality (uses `1 + t ≤ exp t`). -/
private lemma mul_exp_neg_lt {f1 f2 g1 g2 : ℝ} (hf2 : 0 ≤ f2) (h : f1 < f2 * (1 - (g2 - g1))) :
    f1 * Real.exp (-g1) < f2 * Real.exp (-g2) := by
  have h1 := Real.add_one_le_exp (-(g2 - g1))
  rw [show -g2 = -g1 + -(g2 - g1) by ring, Real.exp_add, ← mul_assoc, mul_right_comm]
  exact mul_lt_mul_of_pos_right (h.trans_le (mul_le_mul_of_nonneg_left (by linarith) hf2)) (Real.exp_pos _)

theorem virial_zero (K A B C : ℝ) : Virial_pressure K A B C 0 = 0 := by
  rw [PgVerif.Tie.virial_pressure]; simp [virialP]

theorem virial_pos (K A B C n : ℝ) (hn : 0 < n) : 0 < Virial_pressure K A B C n := by
  rw [PgVerif.Tie.virial_pressure]; unfold virialP
  exact mul_pos hn (Real.exp_pos _)

/-- for a pressure-explicit model the Henry constant appears as `p(n)/n → 1/K`.  `0 < K` is needed (`Real.log` is totalised). -/
theorem virial_henry (K A B C : ℝ) (hK : 0 < K) :
    Tendsto (fun n => Virial_pressure K A B C n / n) (𝓝[>] 0) (𝓝 (1 / K)) := by
  refine tendsto_div_nhdsGT_zero (g := fun n => Real.exp (-Real.log K + A * n + B * n ^ 2 + C * n ^ 3)) (by fun_prop) ?_ ?_
  · simp [Real.exp_neg, Real.exp_log hK]
  · intro n
    rw [PgVerif.Tie.virial_pressure]; rfl

/-- with non-negative virial coefficients there is no turning point -/
theorem virial_strictMonoOn (K A B C : ℝ) (hA : 0 ≤ A) (hB : 0 ≤ B) (hC : 0 ≤ C) :
    StrictMonoOn (Virial_pressure K A B C) (Set.Ici 0) := by
  intro a ha b _ hab
  simp only [Set.mem_Ici] at ha
  rw [PgVerif.Tie.virial_pressure, PgVerif.Tie.virial_pressure]; unfold virialP
  exact mul_lt_mul hab (Real.exp_le_exp.mpr (add_le_add (add_le_add (add_le_add le_rfl
    (mul_le_mul_of_nonneg_left hab.le hA)) (mul_le_mul_of_nonneg_left (pow_le_pow_left₀ ha hab.le 2) hB))
    (mul_le_mul_of_nonneg_left (pow_le_pow_left₀ ha hab.le 3) hC))) (Real.exp_pos _) (ha.trans hab.le)

/-- Specification of the numerical inverse: on the monotone range a pressure has at most one loading. -/
theorem virial_injOn (K A B C : ℝ) (hA : 0 ≤ A) (hB : 0 ≤ B) (hC : 0 ≤ C) :
    Set.InjOn (Virial_pressure K A B C) (Set.Ici 0) :=
  (virial_strictMonoOn K A B C hA hB hC).injOn

theorem virial_hasDerivAt (K A B C n : ℝ) :
    HasDerivAt (Virial_pressure K A B C)
      (Real.exp (-Real.log K + A * n + B * n ^ 2 + C * n ^ 3) * (1 + n * (A + 2 * B * n + 3 * C * n ^ 2))) n := by
  have hE : HasDerivAt (fun x : ℝ => -Real.log K + A * x + B * x ^ 2 + C * x ^ 3) (A + 2 * B * n + 3 * C * n ^ 2) n :=
    (((((hasDerivAt_id' n).const_mul A).const_add (-Real.log K)).add ((hasDerivAt_pow 2 n).const_mul B)).add
      ((hasDerivAt_pow 3 n).const_mul C)).congr_deriv
      (by simp only [Nat.cast_ofNat, Nat.add_one_sub_one, pow_one, mul_one]; ring)
  exact (((hasDerivAt_id' n).mul hE.exp).congr_of_eventuallyEq
    (.of_forall (PgVerif.Tie.virial_pressure K A B C))).congr_deriv (by ring)

/-- Sharper monotonicity statement, arbitrary signs of the coefficients: the pressure is strictly
increasing on any interval `[0, m]` that stays before the turning point, i.e. on which
`1 + A n + 2 B n² + 3 C n³ > 0` (the sign of dp/dn). -/
theorem virial_strictMonoOn_of_deriv_pos (K A B C m : ℝ)
    (h : ∀ n, 0 < n → n < m → 0 < 1 + n * (A + 2 * B * n + 3 * C * n ^ 2)) :
    StrictMonoOn (Virial_pressure K A B C) (Set.Icc 0 m) := by
  apply strictMonoOn_of_deriv_pos (convex_Icc 0 m)
  · intro x _
    exact (virial_hasDerivAt K A B C x).continuousAt.continuousWithinAt
  · intro x hx
    rw [interior_Icc] at hx
    rw [(virial_hasDerivAt K A B C x).deriv]
    exact mul_pos (Real.exp_pos _) (h x hx.1 hx.2)

theorem fhvst_zero (nm K a1v : ℝ) : FHVST_pressure nm K a1v 0 = 0 := by
  rw [PgVerif.Tie.fhvst_pressure]; simp [fhvstP]

/-- Positivity for `0 < n < n_m`.  The hypothesis `0 < 1 + a1v θ` is not used by the proof (an exponential
is positive whatever its argument); it is the guard that makes the exponent a genuine quotient
(Lean's `x / 0 = 0`), so that the statement is about the real formula only. -/
theorem fhvst_pos (nm K a1v n : ℝ) (hnm : 0 < nm) (hK : 0 < K) (hn : 0 < n) (hsat : n < nm)
    (_hpole : 0 < 1 + a1v * (n / nm)) : 0 < FHVST_pressure nm K a1v n := by
  rw [PgVerif.Tie.fhvst_pressure]; unfold fhvstP
  have h1 : 0 < 1 - n / nm := by rw [sub_pos, div_lt_one hnm]; exact hsat
  positivity

theorem fhvst_henry (nm K a1v : ℝ) (hnm : 0 < nm) (hK : 0 < K) :
    Tendsto (fun n => FHVST_pressure nm K a1v n / n) (𝓝[>] 0) (𝓝 (1 / K)) := by
  refine tendsto_div_nhdsGT_zero (g := fun n => 1 / K * (1 / (1 - n / nm)) *
    Real.exp (a1v ^ 2 * (n / nm) / (1 + a1v * (n / nm)))) (by fun_prop (disch := simp)) (by simp) ?_
  intro n
  rw [PgVerif.Tie.fhvst_pressure]; unfold fhvstP
  rw [show nm / K * (n / nm / (1 - n / nm)) = nm * (n / nm) * (1 / K * (1 / (1 - n / nm))) by ring,
    mul_div_cancel₀ n hnm.ne']
  ring

/-- Strictly increasing on the whole physical range `0 ≤ n < n_m` as soon as `a1v ≥ -1` (for `a1v < -1` the
exponent has a pole at `θ = -1/a1v` inside the range).  The physically usual case `a1v ≥ 0` is included. -/
theorem fhvst_strictMonoOn (nm K a1v : ℝ) (hnm : 0 < nm) (hK : 0 < K) (ha : -1 ≤ a1v) :
    StrictMonoOn (FHVST_pressure nm K a1v) {n | 0 ≤ n ∧ n < nm} := by
  intro x hx y hy hxy
  simp only [Set.mem_ofPred_eq] at hx hy
  rw [PgVerif.Tie.fhvst_pressure, PgVerif.Tie.fhvst_pressure]; unfold fhvstP
  have hθx0 : 0 ≤ x / nm := div_nonneg hx.1 hnm.le
  have hθx1 : x / nm < 1 := by rw [div_lt_one hnm]; exact hx.2
  have hθy1 : y / nm < 1 := by rw [div_lt_one hnm]; exact hy.2
  have hθxy : x / nm < y / nm := div_lt_div_of_pos_right hxy hnm
  generalize x / nm = s at *
  generalize y / nm = t at *
  have hs1 : 0 < 1 - s := sub_pos.mpr hθx1
  have ht1 : 0 < 1 - t := sub_pos.mpr hθy1
  have hsa : 0 < 1 + a1v * s := by linarith [mul_le_mul_of_nonneg_right ha hθx0]
  have hta : 0 < 1 + a1v * t := by linarith [mul_le_mul_of_nonneg_right ha (hθx0.trans hθxy.le)]
  rw [mul_assoc, mul_assoc]
  apply mul_lt_mul_of_pos_left _ (div_pos hnm hK)
  refine mul_lt_mul ?_ ?_ (Real.exp_pos _) (div_nonneg (hθx0.trans hθxy.le) ht1.le)
  · rw [div_lt_div_iff₀ hs1 ht1]
    linarith
  · -- the cross products differ by `a1v² (t - s)`
    rw [Real.exp_le_exp, div_le_div_iff₀ hsa hta]
    linarith [mul_le_mul_of_nonneg_left hθxy.le (sq_nonneg a1v)]

theorem fhvst_injOn (nm K a1v : ℝ) (hnm : 0 < nm) (hK : 0 < K) (ha : -1 ≤ a1v) :
    Set.InjOn (FHVST_pressure nm K a1v) {n | 0 ≤ n ∧ n < nm} :=
  (fhvst_strictMonoOn nm K a1v hnm hK ha).injOn

/-- The Wilson factor of a species that fills the fraction `θ` of the surface, with Wilson parameter `L`.  W-VST treats adsorbate
and vacancies alike: the adsorbate contributes `wilson L1v θ`, the vacancies `1 / wilson Lv1 (1 - θ)` (`wvstP_factor`), so ONE
monotonicity lemma (`wilson_lt`) serves both. -/
private noncomputable def wilson (L θ : ℝ) : ℝ :=
  θ / (L + (1 - L) * θ) * Real.exp (-((1 - L) * θ / (L + (1 - L) * θ)))

private lemma wilson_den_pos {L s : ℝ} (hL : 0 < L) (hs : 0 < s) (hs1 : s ≤ 1) : 0 < L + (1 - L) * s := by
  linarith [mul_nonneg hL.le (sub_nonneg.mpr hs1)]

private lemma wilson_pos {L s : ℝ} (hL : 0 < L) (hs : 0 < s) (hs1 : s ≤ 1) : 0 < wilson L s :=
  mul_pos (div_pos hs (wilson_den_pos hL hs hs1)) (Real.exp_pos _)

/-- `p = (n_m/K) L1v e^{-(1-Lv1)} · wilson L1v θ / wilson Lv1 (1 - θ)`: the vacancy exponent `-Lv1 (1-Lv1) θ / (1-(1-Lv1) θ)` is
`-(1-Lv1) + (1-Lv1)(1-θ) / (Lv1 + (1-Lv1)(1-θ))` -/
private lemma wvstP_factor (nm K L1v Lv1 n : ℝ) (hd : 1 - (1 - Lv1) * (n / nm) ≠ 0) :
    wvstP nm K L1v Lv1 n
      = nm / K * L1v * Real.exp (-(1 - Lv1)) * (wilson L1v (n / nm) / wilson Lv1 (1 - n / nm)) := by
  unfold wvstP wilson
  generalize n / nm = θ at *
  have he : -(Lv1 * ((1 - Lv1) * θ) / (1 - (1 - Lv1) * θ))
      = -(1 - Lv1) - -((1 - Lv1) * (1 - θ) / (1 - (1 - Lv1) * θ)) := by
    field_simp; ring
  rw [show Lv1 + (1 - Lv1) * (1 - θ) = 1 - (1 - Lv1) * θ by ring, he, sub_right_comm, Real.exp_sub,
    sub_eq_add_neg (-(1 - Lv1)), Real.exp_add, div_mul_eq_mul_div (1 - θ), div_div_eq_mul_div, ← div_div]
  ring

/-- the Wilson factor increases with the fraction on `[0, 1]`: with `u = θ / (L + (1-L) θ)` it is `u e^{-(1-L) u}`, `u` increases
and `(1-L) u < 1` -/
private lemma wilson_lt {L s t : ℝ} (hL : 0 < L) (hs : 0 ≤ s) (hst : s < t) (ht : t ≤ 1) : wilson L s < wilson L t := by
  have hds : 0 < L + (1 - L) * s := by linarith [mul_pos hL (sub_pos.mpr (hst.trans_le ht))]
  have hdt := wilson_den_pos hL (hs.trans_lt hst) ht
  apply mul_exp_neg_lt (div_nonneg (hs.trans hst.le) hdt.le)
  have huv : s / (L + (1 - L) * s) < t / (L + (1 - L) * t) := by
    rw [div_lt_div_iff₀ hds hdt]; linarith [mul_lt_mul_of_pos_right hst hL]
  have hv1 : (1 - L) * (t / (L + (1 - L) * t)) < 1 := by
    rw [← mul_div_assoc, div_lt_one hdt]; linarith
  rw [mul_div_assoc, mul_div_assoc]
  generalize s / (L + (1 - L) * s) = u at *
  generalize t / (L + (1 - L) * t) = v at *
  -- `v (1 - (1 - L) (v - u)) - u = (v - u) (1 - (1 - L) v)`
  linarith [mul_pos (sub_pos.mpr huv) (sub_pos.mpr hv1)]

theorem wvst_zero (nm K L1v Lv1 : ℝ) : WVST_pressure nm K L1v Lv1 0 = 0 := by
  rw [PgVerif.Tie.wvst_pressure]; simp [wvstP]

/-- only `0 < L1v`, `0 < Lv1` is needed (no upper bound on them: the usual case `L1v, Lv1 ≤ 1` is included) -/
theorem wvst_pos (nm K L1v Lv1 n : ℝ) (hnm : 0 < nm) (hK : 0 < K) (hL1 : 0 < L1v) (hL2 : 0 < Lv1)
    (hn : 0 < n) (hsat : n < nm) : 0 < WVST_pressure nm K L1v Lv1 n := by
  rw [PgVerif.Tie.wvst_pressure]; unfold wvstP
  have hθ0 : 0 < n / nm := div_pos hn hnm
  have hθ1 : n / nm < 1 := by rw [div_lt_one hnm]; exact hsat
  generalize n / nm = s at *
  have h1 : 0 < 1 - s := sub_pos.mpr hθ1
  have h2 : 0 < 1 - (1 - Lv1) * s := by linarith [mul_pos hL2 hθ0]
  have h3 := wilson_den_pos hL1 hθ0 hθ1.le
  positivity

/-- needs `L1v ≠ 0` (at `L1v = 0` the activity coefficient is `0/0` at zero coverage) -/
theorem wvst_henry (nm K L1v Lv1 : ℝ) (hnm : 0 < nm) (hK : 0 < K) (hL1 : 0 < L1v) :
    Tendsto (fun n => WVST_pressure nm K L1v Lv1 n / n) (𝓝[>] 0) (𝓝 (1 / K)) := by
  refine tendsto_div_nhdsGT_zero (g := fun n => 1 / K / (1 - n / nm) *
      (L1v * (1 - (1 - Lv1) * (n / nm)) / (L1v + (1 - L1v) * (n / nm))) *
      Real.exp (-(Lv1 * ((1 - Lv1) * (n / nm)) / (1 - (1 - Lv1) * (n / nm)))
        - (1 - L1v) * (n / nm) / (L1v + (1 - L1v) * (n / nm))))
    (by fun_prop (disch := simp [hL1.ne'])) (by simp [hL1.ne']) ?_
  intro n
  rw [PgVerif.Tie.wvst_pressure]; unfold wvstP
  rw [show nm / K * (n / nm) = nm * (n / nm) * (1 / K) by ring, mul_div_cancel₀ n hnm.ne']
  ring

/-- for any `L1v, Lv1 > 0` (d ln p/dθ = L1v²/(θ (L1v+(1-L1v)θ)²) + Lv1²/((1-θ)(1-(1-Lv1)θ)²) > 0). -/
theorem wvst_strictMonoOn (nm K L1v Lv1 : ℝ) (hnm : 0 < nm) (hK : 0 < K) (hL1 : 0 < L1v) (hL2 : 0 < Lv1) :
    StrictMonoOn (WVST_pressure nm K L1v Lv1) {n | 0 ≤ n ∧ n < nm} := by
  intro x hx y hy hxy
  have hθx0 : 0 ≤ x / nm := div_nonneg hx.1 hnm.le
  have hθy1 : y / nm < 1 := (div_lt_one hnm).mpr hy.2
  have hθxy : x / nm < y / nm := div_lt_div_of_pos_right hxy hnm
  have hdx : 0 < 1 - (1 - Lv1) * (x / nm) := by linarith [mul_nonneg hL2.le hθx0]
  have hdy : 0 < 1 - (1 - Lv1) * (y / nm) := by linarith [mul_nonneg hL2.le (hθx0.trans hθxy.le)]
  rw [PgVerif.Tie.wvst_pressure, PgVerif.Tie.wvst_pressure, wvstP_factor _ _ _ _ _ hdx.ne', wvstP_factor _ _ _ _ _ hdy.ne']
  generalize x / nm = s at *
  generalize y / nm = t at *
  -- the adsorbate's fraction grows from `s` to `t`, the vacancies' shrinks from `1 - s` to `1 - t`
  exact mul_lt_mul_of_pos_left
    (div_lt_div₀ (wilson_lt hL1 hθx0 hθxy hθy1.le)
      (wilson_lt hL2 (sub_nonneg.mpr hθy1.le) (sub_lt_sub_left hθxy 1) (sub_le_self 1 hθx0)).le
      (wilson_pos hL1 (hθx0.trans_lt hθxy) hθy1.le).le (wilson_pos hL2 (sub_pos.mpr hθy1) (sub_le_self 1 (hθx0.trans hθxy.le))))
    (mul_pos (mul_pos (div_pos hnm hK) hL1) (Real.exp_pos _))

theorem wvst_injOn (nm K L1v Lv1 : ℝ) (hnm : 0 < nm) (hK : 0 < K) (hL1 : 0 < L1v) (hL2 : 0 < Lv1) :
    Set.InjOn (WVST_pressure nm K L1v Lv1) {n | 0 ≤ n ∧ n < nm} :=
  (wvst_strictMonoOn nm K L1v Lv1 hnm hK hL1 hL2).injOn

/-! ### the numerical inverse `loading(p)` is specified by its certificate

`FHVST.loading` / `WVST.loading` are `scipy.optimize.root` calls (not translated).  What the property asks of an ANSWER `x` to the
request `p = pressure(n)` is the certificate `pressure(x) = p` (harness: `certified_inverses`, relative residual 1e-6 at the returned
point).  On the physical range the certificate is all there is to check: -/

/-- a returned point of the physical range that passes the certificate IS the loading -/
theorem fhvst_certified_root_unique (nm K a1v n x : ℝ) (hnm : 0 < nm) (hK : 0 < K) (ha : -1 ≤ a1v)
    (hn : 0 ≤ n ∧ n < nm) (hx : 0 ≤ x ∧ x < nm)
    (hcert : FHVST_pressure nm K a1v x = FHVST_pressure nm K a1v n) : x = n :=
  fhvst_injOn nm K a1v hnm hK ha hx hn hcert

/-- defect class "success is not certified at the returned point": ANY other point of the range -- a start value, the last iterate of
a solver that stalled -- fails the certificate, so an answer that is not the loading is always visible to it -/
theorem fhvst_other_point_not_root (nm K a1v n s : ℝ) (hnm : 0 < nm) (hK : 0 < K) (ha : -1 ≤ a1v)
    (hn : 0 ≤ n ∧ n < nm) (hs : 0 ≤ s ∧ s < nm) (hne : s ≠ n) :
    FHVST_pressure nm K a1v s ≠ FHVST_pressure nm K a1v n :=
  fun h => hne (fhvst_injOn nm K a1v hnm hK ha hs hn h)

/-- ... with the sign of the residual: a start value below the loading (the middle of the coverage range handed back for a loading
near saturation) gives a pressure strictly below the one asked for -/
theorem fhvst_start_below_residual_neg (nm K a1v n s : ℝ) (hnm : 0 < nm) (hK : 0 < K) (ha : -1 ≤ a1v)
    (hs0 : 0 ≤ s) (hsn : s < n) (hn : n < nm) :
    FHVST_pressure nm K a1v s - FHVST_pressure nm K a1v n < 0 :=
  sub_neg.mpr (fhvst_strictMonoOn nm K a1v hnm hK ha ⟨hs0, hsn.trans hn⟩ ⟨hs0.trans hsn.le, hn⟩ hsn)

/-- the zero start value (known finding S24c) is no root for any positive loading -/
theorem fhvst_zero_start_not_root (nm K a1v n : ℝ) (hnm : 0 < nm) (hK : 0 < K) (hn : 0 < n) (hsat : n < nm)
    (ha : -1 ≤ a1v) : FHVST_pressure nm K a1v 0 ≠ FHVST_pressure nm K a1v n :=
  fhvst_other_point_not_root nm K a1v n 0 hnm hK ha ⟨hn.le, hsat⟩ ⟨le_rfl, hnm⟩ hn.ne

-- non-vacuity: n_m = 2, K = 1, a1v = 0, the loading 3/2 and the middle of the range 1
example : FHVST_pressure 2 1 0 1 ≠ FHVST_pressure 2 1 0 (3 / 2) :=
  fhvst_other_point_not_root 2 1 0 (3 / 2) 1 (by norm_num) (by norm_num) (by norm_num) ⟨by norm_num, by norm_num⟩
    ⟨by norm_num, by norm_num⟩ (by norm_num)

theorem wvst_certified_root_unique (nm K L1v Lv1 n x : ℝ) (hnm : 0 < nm) (hK : 0 < K) (hL1 : 0 < L1v) (hL2 : 0 < Lv1)
    (hn : 0 ≤ n ∧ n < nm) (hx : 0 ≤ x ∧ x < nm)
    (hcert : WVST_pressure nm K L1v Lv1 x = WVST_pressure nm K L1v Lv1 n) : x = n :=
  wvst_injOn nm K L1v Lv1 hnm hK hL1 hL2 hx hn hcert

theorem wvst_other_point_not_root (nm K L1v Lv1 n s : ℝ) (hnm : 0 < nm) (hK : 0 < K) (hL1 : 0 < L1v) (hL2 : 0 < Lv1)
    (hn : 0 ≤ n ∧ n < nm) (hs : 0 ≤ s ∧ s < nm) (hne : s ≠ n) :
    WVST_pressure nm K L1v Lv1 s ≠ WVST_pressure nm K L1v Lv1 n :=
  fun h => hne (wvst_injOn nm K L1v Lv1 hnm hK hL1 hL2 hs hn h)

theorem wvst_start_below_residual_neg (nm K L1v Lv1 n s : ℝ) (hnm : 0 < nm) (hK : 0 < K) (hL1 : 0 < L1v) (hL2 : 0 < Lv1)
    (hs0 : 0 ≤ s) (hsn : s < n) (hn : n < nm) :
    WVST_pressure nm K L1v Lv1 s - WVST_pressure nm K L1v Lv1 n < 0 :=
  sub_neg.mpr (wvst_strictMonoOn nm K L1v Lv1 hnm hK hL1 hL2 ⟨hs0, hsn.trans hn⟩ ⟨hs0.trans hsn.le, hn⟩ hsn)

example : WVST_pressure 2 1 (1 / 2) (1 / 2) 1 ≠ WVST_pressure 2 1 (1 / 2) (1 / 2) (3 / 2) :=
  wvst_other_point_not_root 2 1 (1 / 2) (1 / 2) (3 / 2) 1 (by norm_num) (by norm_num) (by norm_num) (by norm_num)
    ⟨by norm_num, by norm_num⟩ ⟨by norm_num, by norm_num⟩ (by norm_num)

end PgVerif.C10
