/-
C10 for Dubinin–Radushkevich (modelling/dr.py) and Dubinin–Astakhov (modelling/da.py).  Statements are about the
*generated* functions (`Gen.R.DR_*`, `Gen.R.DA_*`); proofs go through the tie lemmas to the published equations.
`mrt` is the attribute `minus_rt = -R T`, hence `mrt < 0`; `nm, e > 0`; DA exponent `m > 0` (declared bounds [1, 3]).
Validity range: relative pressure `0 < p ≤ 1`, loading `0 < n ≤ nm`.  Nothing is claimed at `p = 0` (or `n = 0`):
`Real.log 0 = 0` is a totalisation artefact, so every statement carries the guard `0 < p` (resp. `0 < n`).
-/
import PgVerif.Tie.Models
import Mathlib.Analysis.SpecialFunctions.Pow.Real
import Mathlib.Analysis.SpecialFunctions.Sqrt
import Mathlib.Tactic

namespace PgVerif.C10
open PgVerif.Gen.R PgVerif.Spec.M

/-- the reduced adsorption potential `A/e = mrt * log p / e` is `≥ 0` on `0 < p ≤ 1` -/
lemma dub_base_nonneg (e mrt p : ℝ) (he : 0 < e) (hmrt : mrt < 0) (hp : 0 < p) (hp1 : p ≤ 1) :
    0 ≤ mrt * Real.log p / e :=
  div_nonneg (mul_nonneg_of_nonpos_of_nonpos hmrt.le (Real.log_nonpos hp.le hp1)) he.le

/-! ### Dubinin–Astakhov (`m > 0`; the declared bounds are `1 ≤ m ≤ 3`) -/

theorem da_pressure_loading (nm e m mrt p : ℝ) (hnm : 0 < nm) (he : 0 < e) (hm : 0 < m) (hmrt : mrt < 0)
    (hp : 0 < p) (hp1 : p ≤ 1) :
    DA_pressure nm e m mrt (DA_loading nm e m mrt p) = p := by
  rw [PgVerif.Tie.da_loading, PgVerif.Tie.da_pressure]; unfold daInv da
  have hx := dub_base_nonneg e mrt p he hmrt hp hp1
  have he' : e ≠ 0 := he.ne'
  have hm' : mrt ≠ 0 := hmrt.ne
  rw [mul_div_cancel_left₀ _ hnm.ne', Real.log_exp, neg_neg, one_div, Real.rpow_rpow_inv hx hm.ne']
  have h : e / mrt * (mrt * Real.log p / e) = Real.log p := by field_simp
  rw [h, Real.exp_log hp]

theorem da_loading_pressure (nm e m mrt n : ℝ) (hnm : 0 < nm) (he : 0 < e) (hm : 0 < m) (hmrt : mrt < 0)
    (hn : 0 < n) (hsat : n ≤ nm) :
    DA_loading nm e m mrt (DA_pressure nm e m mrt n) = n := by
  rw [PgVerif.Tie.da_pressure, PgVerif.Tie.da_loading]; unfold daInv da
  have hr : 0 < n / nm := div_pos hn hnm
  have hl : 0 ≤ -Real.log (n / nm) := neg_nonneg.mpr (Real.log_nonpos hr.le ((div_le_one hnm).mpr hsat))
  have he' : e ≠ 0 := he.ne'
  have hm' : mrt ≠ 0 := hmrt.ne
  rw [Real.log_exp]
  have h : mrt * (e / mrt * (-Real.log (n / nm)) ^ (1 / m)) / e = (-Real.log (n / nm)) ^ (1 / m) := by
    field_simp
  rw [h, one_div, Real.rpow_inv_rpow hl hm.ne', neg_neg, Real.exp_log hr]
  field_simp

/-- the guard `0 < p ≤ 1` is not used by the proof: it is there so that nothing is claimed through `log 0 = 0` -/
theorem da_pos (nm e m mrt p : ℝ) (hnm : 0 < nm) (_he : 0 < e) (_hm : 0 < m) (_hmrt : mrt < 0)
    (_hp : 0 < p) (_hp1 : p ≤ 1) :
    0 < DA_loading nm e m mrt p := by
  rw [PgVerif.Tie.da_loading]; unfold da
  exact mul_pos hnm (Real.exp_pos _)

/-- here the range guard is essential: for `p > 1` the base is negative and `rpow` is not the real power -/
theorem da_le_sat (nm e m mrt p : ℝ) (hnm : 0 < nm) (he : 0 < e) (_hm : 0 < m) (hmrt : mrt < 0)
    (hp : 0 < p) (hp1 : p ≤ 1) :
    DA_loading nm e m mrt p ≤ nm := by
  rw [PgVerif.Tie.da_loading]; unfold da
  have hx := dub_base_nonneg e mrt p he hmrt hp hp1
  exact mul_le_of_le_one_right hnm.le (Real.exp_le_one_iff.mpr (neg_nonpos.mpr (Real.rpow_nonneg hx m)))

/-- needs `m ≠ 0`, otherwise `0 ^ 0 = 1` -/
theorem da_at_one (nm e m mrt : ℝ) (hm : 0 < m) : DA_loading nm e m mrt 1 = nm := by
  rw [PgVerif.Tie.da_loading]; unfold da
  simp [Real.zero_rpow hm.ne']

theorem da_strictMonoOn (nm e m mrt : ℝ) (hnm : 0 < nm) (he : 0 < e) (hm : 0 < m) (hmrt : mrt < 0) :
    StrictMonoOn (DA_loading nm e m mrt) (Set.Ioc 0 1) := by
  intro a ha b hb hab
  obtain ⟨ha0, _⟩ := ha
  obtain ⟨hb0, hb1⟩ := hb
  rw [PgVerif.Tie.da_loading, PgVerif.Tie.da_loading]; unfold da
  -- `A/e` decreases in `p`, stays `≥ 0`; its `m`-th power decreases with it
  have hlt : mrt * Real.log b / e < mrt * Real.log a / e :=
    div_lt_div_of_pos_right (mul_lt_mul_of_neg_left (Real.log_lt_log ha0 hab) hmrt) he
  exact mul_lt_mul_of_pos_left (Real.exp_lt_exp.mpr (neg_lt_neg
    (Real.rpow_lt_rpow (dub_base_nonneg e mrt b he hmrt hb0 hb1) hlt hm))) hnm

theorem da_monotoneOn (nm e m mrt : ℝ) (hnm : 0 < nm) (he : 0 < e) (hm : 0 < m) (hmrt : mrt < 0) :
    MonotoneOn (DA_loading nm e m mrt) (Set.Ioc 0 1) :=
  (da_strictMonoOn nm e m mrt hnm he hm hmrt).monotoneOn

/-- for every argument: `rpow` with a natural exponent is the plain power -/
theorem da_two_eq_dr (nm e mrt p : ℝ) :
    DA_loading nm e 2 mrt p = DR_loading nm e mrt p := by
  rw [PgVerif.Tie.da_loading, PgVerif.Tie.dr_loading]; unfold da dr
  rw [show ((2 : ℝ)) = ((2 : ℕ) : ℝ) by norm_num, Real.rpow_natCast]

/-! ### Dubinin–Radushkevich: the member `m = 2` of the family -/

/-- the DR inverse is the DA inverse at `m = 2`: `√x = x ^ (1/2)` -/
lemma dr_pressure_eq_da (nm e mrt n : ℝ) : DR_pressure nm e mrt n = DA_pressure nm e 2 mrt n := by
  rw [PgVerif.Tie.da_pressure, PgVerif.Tie.dr_pressure]; unfold daInv drInv
  rw [Real.sqrt_eq_rpow]

theorem dr_pressure_loading (nm e mrt p : ℝ) (hnm : 0 < nm) (he : 0 < e) (hmrt : mrt < 0)
    (hp : 0 < p) (hp1 : p ≤ 1) :
    DR_pressure nm e mrt (DR_loading nm e mrt p) = p := by
  rw [dr_pressure_eq_da, ← da_two_eq_dr]
  exact da_pressure_loading nm e 2 mrt p hnm he two_pos hmrt hp hp1

theorem dr_loading_pressure (nm e mrt n : ℝ) (hnm : 0 < nm) (he : 0 < e) (hmrt : mrt < 0)
    (hn : 0 < n) (hsat : n ≤ nm) :
    DR_loading nm e mrt (DR_pressure nm e mrt n) = n := by
  rw [dr_pressure_eq_da, ← da_two_eq_dr]
  exact da_loading_pressure nm e 2 mrt n hnm he two_pos hmrt hn hsat

/-- the guard `0 < p ≤ 1` is not used by the proof: it is there so that nothing is claimed through `log 0 = 0` -/
theorem dr_pos (nm e mrt p : ℝ) (hnm : 0 < nm) (_he : 0 < e) (_hmrt : mrt < 0) (_hp : 0 < p) (_hp1 : p ≤ 1) :
    0 < DR_loading nm e mrt p := by
  rw [PgVerif.Tie.dr_loading]; unfold dr
  exact mul_pos hnm (Real.exp_pos _)

theorem dr_le_sat (nm e mrt p : ℝ) (hnm : 0 < nm) (_he : 0 < e) (_hmrt : mrt < 0) (_hp : 0 < p) (_hp1 : p ≤ 1) :
    DR_loading nm e mrt p ≤ nm := by
  rw [PgVerif.Tie.dr_loading]; unfold dr
  exact mul_le_of_le_one_right hnm.le (Real.exp_le_one_iff.mpr (neg_nonpos.mpr (sq_nonneg _)))

theorem dr_at_one (nm e mrt : ℝ) : DR_loading nm e mrt 1 = nm := by
  rw [← da_two_eq_dr]
  exact da_at_one nm e 2 mrt two_pos

theorem dr_strictMonoOn (nm e mrt : ℝ) (hnm : 0 < nm) (he : 0 < e) (hmrt : mrt < 0) :
    StrictMonoOn (DR_loading nm e mrt) (Set.Ioc 0 1) := by
  rw [← funext (da_two_eq_dr nm e mrt)]
  exact da_strictMonoOn nm e 2 mrt hnm he two_pos hmrt

theorem dr_monotoneOn (nm e mrt : ℝ) (hnm : 0 < nm) (he : 0 < e) (hmrt : mrt < 0) :
    MonotoneOn (DR_loading nm e mrt) (Set.Ioc 0 1) :=
  (dr_strictMonoOn nm e mrt hnm he hmrt).monotoneOn

end PgVerif.C10
