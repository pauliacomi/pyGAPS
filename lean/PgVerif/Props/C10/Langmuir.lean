/-
C10 for Henry and Langmuir.  Statements are about the *generated* functions (`Gen.R.*` = what
modelling/henry.py and modelling/langmuir.py say now); proofs go through the tie lemmas to the published
equations (the Langmuir round trips: to their ordered-field form in Exact.lean).  Parameters strictly inside the
declared bounds (0, ∞).  The facts about the published one-site term (`site_*`) are also what the multi-site models sum.
-/
import PgVerif.Props.C10.Exact
import PgVerif.Lemmas.Isotherm

namespace PgVerif.C10
open PgVerif.Gen.R PgVerif.Spec.M Filter Topology

theorem henry_pressure_loading (K p : ℝ) (hK : 0 < K) : Henry_pressure K (Henry_loading K p) = p := by
  rw [PgVerif.Tie.henry_loading, PgVerif.Tie.henry_pressure]; unfold henryInv henry; field_simp

theorem henry_loading_pressure (K n : ℝ) (hK : 0 < K) : Henry_loading K (Henry_pressure K n) = n := by
  rw [PgVerif.Tie.henry_pressure, PgVerif.Tie.henry_loading]; unfold henryInv henry; field_simp

theorem henry_zero (K : ℝ) : Henry_loading K 0 = 0 := by
  rw [PgVerif.Tie.henry_loading]; simp [henry]

theorem henry_nonneg (K p : ℝ) (hK : 0 < K) (hp : 0 ≤ p) : 0 ≤ Henry_loading K p := by
  rw [PgVerif.Tie.henry_loading]; unfold henry; positivity

theorem henry_strictMono (K : ℝ) (hK : 0 < K) : StrictMono (Henry_loading K) := by
  intro a b hab
  rw [PgVerif.Tie.henry_loading, PgVerif.Tie.henry_loading]; exact mul_lt_mul_of_pos_left hab hK

theorem henry_slope (K p : ℝ) (hp : p ≠ 0) : Henry_loading K p / p = K := by
  rw [PgVerif.Tie.henry_loading]; unfold henry; field_simp

/-! ### the published one-site term `n_m · x / (1 + x)`, `x = K p` (also the summand of the multi-site models) -/

lemma langmuir_eq_cov (K nm p : ℝ) : langmuir K nm p = nm * (K * p / (1 + K * p)) := mul_div_assoc _ _ _

lemma site_zero (K nm : ℝ) : langmuir K nm 0 = 0 := by simp [langmuir]

lemma site_nonneg (K nm p : ℝ) (hK : 0 < K) (hnm : 0 < nm) (hp : 0 ≤ p) : 0 ≤ langmuir K nm p := by
  unfold langmuir; positivity

lemma site_pos (K nm p : ℝ) (hK : 0 < K) (hnm : 0 < nm) (hp : 0 < p) : 0 < langmuir K nm p := by
  unfold langmuir; positivity

lemma site_lt_sat (K nm p : ℝ) (hK : 0 < K) (hnm : 0 < nm) (hp : 0 ≤ p) : langmuir K nm p < nm := by
  rw [langmuir_eq_cov]
  exact mul_lt_of_lt_one_right hnm (cov_lt_one (by positivity))

lemma site_lt (K nm a b : ℝ) (hK : 0 < K) (hnm : 0 < nm) (ha : 0 ≤ a) (hab : a < b) :
    langmuir K nm a < langmuir K nm b := by
  rw [langmuir_eq_cov, langmuir_eq_cov]
  exact mul_lt_mul_of_pos_left (cov_lt_cov (by positivity) (mul_lt_mul_of_pos_left hab hK)) hnm

lemma site_henry (K nm : ℝ) : Tendsto (fun p => langmuir K nm p / p) (𝓝[>] 0) (𝓝 (nm * K)) := by
  refine tendsto_div_nhdsGT_zero (g := fun p => nm * K / (1 + K * p)) ?_ (by simp) ?_
  · exact continuousAt_const.div (by fun_prop) (by simp)
  · intro p
    unfold langmuir
    ring

theorem langmuir_pressure_loading (K nm p : ℝ) (hK : 0 < K) (hnm : 0 < nm) (hp : 0 ≤ p) :
    Langmuir_pressure K nm (Langmuir_loading K nm p) = p := by
  rw [exact_langmuir_eq_code, exact_langmuirInv_eq_code]
  exact exact_langmuir_roundtrip K nm p hK hnm hp

theorem langmuir_loading_pressure (K nm n : ℝ) (hK : 0 < K) (hnm : 0 < nm) (hn : 0 ≤ n) (hsat : n < nm) :
    Langmuir_loading K nm (Langmuir_pressure K nm n) = n := by
  rw [exact_langmuir_eq_code, exact_langmuirInv_eq_code]
  exact exact_langmuir_roundtrip' K nm n hK hnm hsat

theorem langmuir_zero (K nm : ℝ) : Langmuir_loading K nm 0 = 0 := by
  rw [PgVerif.Tie.langmuir_loading, site_zero]

theorem langmuir_nonneg (K nm p : ℝ) (hK : 0 < K) (hnm : 0 < nm) (hp : 0 ≤ p) : 0 ≤ Langmuir_loading K nm p := by
  rw [PgVerif.Tie.langmuir_loading]; exact site_nonneg K nm p hK hnm hp

theorem langmuir_lt_sat (K nm p : ℝ) (hK : 0 < K) (hnm : 0 < nm) (hp : 0 ≤ p) : Langmuir_loading K nm p < nm := by
  rw [PgVerif.Tie.langmuir_loading]; exact site_lt_sat K nm p hK hnm hp

theorem langmuir_strictMonoOn (K nm : ℝ) (hK : 0 < K) (hnm : 0 < nm) :
    StrictMonoOn (Langmuir_loading K nm) (Set.Ici 0) := by
  intro a ha b _ hab
  rw [PgVerif.Tie.langmuir_loading, PgVerif.Tie.langmuir_loading]
  exact site_lt K nm a b hK hnm ha hab

theorem langmuir_henry (K nm : ℝ) :
    Tendsto (fun p => Langmuir_loading K nm p / p) (𝓝[>] 0) (𝓝 (nm * K)) := by
  simp only [PgVerif.Tie.langmuir_loading]
  exact site_henry K nm

end PgVerif.C10
