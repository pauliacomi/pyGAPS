/-
C10 — the two findings S51-C10a / S51-C10b on the quadratic-formula inverses (`BET`, `GAB`, `Quadratic`, `DSLangmuir` `.pressure`), both
REPAIRED in the repository (the inverses now compute the same root in its cancellation-free form; `Lemmas/Quad.lean` `stable_minus_eq`,
`stable_plus_eq`, and the `*_pressure_loading` theorems of `BET.lean`, `GAB.lean`, `Quadratic.lean`, `MultiLangmuir.lean` are about that form).
This file holds the statements about the EARLIER, textbook form `(-y - √(y² - 4 x c)) / (2 x)`, so that what was wrong with it — and what
a future rewrite must not do — stays visible:

  * S51-C10b  `textbook_degenerate`: when the leading coefficient `x` vanishes the form is `0/0` (Lean: `x / 0 = 0`; IEEE: NaN, which
              `numpy.nan_to_num` turns into `0.0`): the pressure 0 for EVERY loading.  `x = 0` is inside the declared parameter bounds:
              BET with `N = C` (`bet_textbook_at_N_eq_C`), GAB with `C = 1`, Quadratic with `Kb = 0`.  The branch form returns the root of
              the linear equation that is left (`Quad.stable_minus_linear`).
  * S51-C10a  in exact arithmetic the two forms are equal (`Quad.stable_minus_eq`): the defect is one of rounding.  `textbook_sqrt_error`:
              a relative error `δ` of the square root moves the textbook value by `δ · √D (√D - y) / (4 x c)` RELATIVE to the root — for
              `y < 0` and `|4 x c| ≪ y²` (low loading) that factor is `≈ y² / (2 x c)`, e.g. 2.5e16 for BET(n_m = 1, C = 50, N = 0.4) at
              `n = 5e-8`: no digit is left, the library returned `-0.0` for `pressure(loading(1e-9))`.  `stable_sqrt_error`: the same error
              moves the branch form by at most `2 |δ|` relative, for every `x`, `c` (the conditioning does not depend on the loading).
  * the class of the seeded change C10-m7 (a "stable" rewrite `q = -(y + sgn(y) √D) / 2`, `p = c / q` used for BOTH signs of `y`):
              `citardauq_of_pos_is_plus_root` — for `y > 0` that quotient is the other root.  The sign of `y` selects between two forms of ONE
              root.
-/
import PgVerif.Lemmas.Quad
import Mathlib.Tactic

namespace PgVerif.C10

/-- the `-√` root as the library computed it before the repair -/
noncomputable def textbookMinus (x y c : ℝ) : ℝ := (-y - Real.sqrt (y ^ 2 - 4 * x * c)) / (2 * x)

/-- the branch form the library computes now, with the value `s` it has for the square root as an argument (so that an error of
the square root can be stated) -/
noncomputable def stableMinusOf (x y c s : ℝ) : ℝ := (if y < 0 then 2 * c else -y - s) / (if y < 0 then s - y else 2 * x)

noncomputable def textbookMinusOf (x y s : ℝ) : ℝ := (-y - s) / (2 * x)

/-- S51-C10b: vanishing leading coefficient → the textbook form is `0/0`, i.e. the pressure 0, for every `y`, `c` -/
theorem textbook_degenerate (y c : ℝ) : textbookMinus 0 y c = 0 := by simp [textbookMinus]

/-- … for BET exactly at `N = C` (inside the declared bounds): every loading is mapped to the pressure 0, so the composition
`pressure(loading(p)) = p` failed for every `p ≠ 0` -/
theorem bet_textbook_at_N_eq_C (nm C n : ℝ) :
    textbookMinus (n * C * (C - C)) (n * C - 2 * n * C - nm * C) n = 0 := by
  rw [sub_self, mul_zero]
  exact textbook_degenerate _ _

/-- … whereas the form computed now returns the root `n / ((n + n_m) C)` of the linear equation -/
theorem bet_stable_at_N_eq_C (nm C n : ℝ) (hnm : 0 < nm) (hC : 0 < C) (hn : 0 ≤ n) :
    stableMinusOf (n * C * (C - C)) (n * C - 2 * n * C - nm * C) n
        (Real.sqrt ((n * C - 2 * n * C - nm * C) ^ 2 - 4 * (n * C * (C - C)) * n)) = n / ((n + nm) * C) := by
  have hx0 : n * C * (C - C) = 0 := by ring
  have hy : n * C - 2 * n * C - nm * C < 0 := by linarith [mul_pos hnm hC, mul_nonneg hn hC.le]
  unfold stableMinusOf
  rw [PgVerif.Quad.stable_minus_linear _ _ _ hx0 hy]
  have h1 : (n + nm) * C ≠ 0 := by positivity
  rw [div_eq_div_iff (ne_of_lt hy) h1]
  ring

/-- the two forms agree in exact arithmetic (both signs of `y`): the repair changes no value of the real-number model -/
theorem stable_eq_textbook (x y c : ℝ) (hx : x ≠ 0) (hD : 0 ≤ y ^ 2 - 4 * x * c) :
    stableMinusOf x y c (Real.sqrt (y ^ 2 - 4 * x * c)) = textbookMinus x y c :=
  PgVerif.Quad.stable_minus_eq x y c hx hD

/-- S51-C10a, the textbook form: an error `δ` (relative) of the square root `s` moves the value by `δ · s (s - y) / (4 x c)` relative to
the root `r = 2c / (s - y)` (the root when `s² = y² - 4 x c`; the identity does not need it) — unbounded as `x c → 0` with `y < 0` -/
theorem textbook_sqrt_error (x y c s δ : ℝ) (hx : x ≠ 0) (hc : c ≠ 0) (hsy : s - y ≠ 0) :
    textbookMinusOf x y (s * (1 + δ)) - textbookMinusOf x y s = -(δ * (s * (s - y) / (4 * x * c))) * (2 * c / (s - y)) := by
  unfold textbookMinusOf
  field_simp
  ring

/-- the witness of S51-C10a in numbers: BET(n_m = 1, C = 50, N = 2/5) at the loading `n = 5e-8` (`= loading(1e-9)`), where
`x = n N (N - C)`, `y = n C - 2 n N - n_m C = -(50 - 2.46e-6)`: the amplification factor `s (s - y) / (4 x n)` exceeds `1e16` in absolute
value for every value `s ≥ 49` the square root can have, so ONE rounding of the square root (`δ ≈ 1e-16`) is an error of the order of the
root itself -/
theorem textbook_sqrt_error_witness (s : ℝ) (hs : 49 ≤ s) :
    (10 : ℝ) ^ 16 ≤ |s * (s - (5 / 100000000 * 50 - 2 * (5 / 100000000) * (2 / 5) - 1 * 50))
        / (4 * (5 / 100000000 * (2 / 5) * (2 / 5 - 50)) * (5 / 100000000))| := by
  have hb : (4 : ℝ) * (5 / 100000000 * (2 / 5) * (2 / 5 - 50)) * (5 / 100000000) = -(1984 / 10 ^ 16) := by norm_num
  have hy : (5 : ℝ) / 100000000 * 50 - 2 * (5 / 100000000) * (2 / 5) - 1 * 50 = -(50 - 123 / 50000000) := by norm_num
  rw [hb, hy, abs_div, abs_neg, abs_of_pos (by positivity : (0 : ℝ) < 1984 / 10 ^ 16), le_div_iff₀ (by positivity)]
  have hnum : 0 < s * (s - -(50 - 123 / 50000000)) := by nlinarith
  rw [abs_of_pos hnum]
  nlinarith

lemma div_sub_div_same {a A B : ℝ} (hA : A ≠ 0) (hB : B ≠ 0) : a / A - a / B = -((A - B) / A) * (a / B) := by
  field_simp
  ring

/-- S51-C10a, the form computed now: the same error of the square root moves the value by at most `2 |δ|` relative to the root, whatever
`x` and `c` (`y < 0`, the branch in which the textbook form cancels) -/
theorem stable_sqrt_error (x y c s δ : ℝ) (hy : y < 0) (hs : 0 ≤ s) (hδ : |δ| ≤ 1 / 2) :
    |stableMinusOf x y c (s * (1 + δ)) - stableMinusOf x y c s| ≤ 2 * |δ| * |stableMinusOf x y c s| := by
  unfold stableMinusOf
  simp only [if_pos hy]
  have hδ' := abs_le.mp hδ
  have h1 : 0 < s - y := sub_pos.mpr (hy.trans_le hs)
  have h2 : 0 < s * (1 + δ) - y := sub_pos.mpr (hy.trans_le (mul_nonneg hs (by linarith)))
  rw [div_sub_div_same h2.ne' h1.ne', show s * (1 + δ) - y - (s - y) = δ * s by ring, mul_div_assoc, abs_mul, abs_neg,
    abs_mul]
  apply mul_le_mul_of_nonneg_right _ (abs_nonneg _)
  have h3 : |s / (s * (1 + δ) - y)| ≤ 2 := by
    rw [abs_div, abs_of_nonneg hs, abs_of_pos h2, div_le_iff₀ h2]
    linarith [mul_nonneg hs (by linarith : 0 ≤ 1 + 2 * δ)]
  exact (mul_le_mul_of_nonneg_left h3 (abs_nonneg _)).trans_eq (mul_comm _ _)

/-- the class of the seeded change C10-m7 ("q = -(y + sgn(y) √D) / 2, p = c / q" for both signs): for `y > 0` that quotient is the OTHER
root — the sign of `y` must select between two forms of one root, not between `c / q` and nothing -/
theorem citardauq_of_pos_is_plus_root (x y c : ℝ) (hx : x ≠ 0) (hy : 0 < y) (hD : 0 ≤ y ^ 2 - 4 * x * c) :
    c / (-(y + Real.sqrt (y ^ 2 - 4 * x * c)) / 2) = (-y + Real.sqrt (y ^ 2 - 4 * x * c)) / (2 * x) := by
  have hs := Real.sqrt_nonneg (y ^ 2 - 4 * x * c)
  have hden : -(y + Real.sqrt (y ^ 2 - 4 * x * c)) / 2 ≠ 0 := by linarith
  rw [div_eq_div_iff hden (mul_ne_zero two_ne_zero hx)]
  linear_combination (1 / 2) * Real.mul_self_sqrt hD

/-- … and the two roots differ as soon as the discriminant is positive, so that rewrite is wrong (not just different) for `y > 0` -/
theorem plus_root_ne_minus_root (x y c : ℝ) (hx : x ≠ 0) (hD : 0 < y ^ 2 - 4 * x * c) :
    (-y + Real.sqrt (y ^ 2 - 4 * x * c)) / (2 * x) ≠ (-y - Real.sqrt (y ^ 2 - 4 * x * c)) / (2 * x) := by
  have hs := Real.sqrt_pos.mpr hD
  intro h
  have h2 : (2 * x) ≠ 0 := mul_ne_zero two_ne_zero hx
  rw [div_left_inj' h2] at h
  linarith

end PgVerif.C10
