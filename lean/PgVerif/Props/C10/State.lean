/-
C10, last sentence ("evaluating through a model isotherm gives the bare model's values after unit conversion") for a model
isotherm in an arbitrary stored STATE: temperature number stored in K or in °C, any stored pressure mode / unit, any loading |
material representation (Model/ModelEval.lean `MState`, `loadingAtS`, `pressureAtS`, `spreadingAtS`, `wholePressureS`,
`wholeLoadingS`; run at ℚ by Drv/ModelEval.lean `kel`, `cvp`, `lat`, `pat` and compared with the implementation by
harness/pgv/c10state.py).

In order: the temperature of a state and `c_pressure` (its nine branches are one formula in the SI scales); what the accessors
compute — the bare model on the argument re-expressed with the SI scales AT THE KELVIN TEMPERATURE, the same for a °C state and
its K twin; the round trips through the isotherm in any foreign representation; the defect class "one conversion is handed another
temperature than the kelvin one (the raw stored number, say)": invisible on K states, invisible to requests that do not change the
pressure mode, visible on every mode-changing request as soon as the saturation pressures at the two temperatures differ; for the
loading conversion invisible for representations whose scale does not depend on the temperature, visible otherwise.  These are the
regions the generator of states must reach (°C states × mode changes × volume bases), and why nothing else does.
-/
import PgVerif.Model.ModelEval
import Mathlib.Algebra.Order.Field.Basic
import Mathlib.Algebra.Order.Field.Rat
import Mathlib.Tactic

namespace PgVerif.C10
open PgVerif.Model.MEval

set_option linter.unusedSectionVars false
variable {α : Type} [Field α]

theorem kelvinOf_kelvin (t : α) : kelvinOf false t = t := by simp [kelvinOf]

theorem kelvinOf_celsius (t : α) : kelvinOf true t = t + 27315 / 100 := by simp [kelvinOf]

theorem kelvinOf_twin (t : α) : kelvinOf true t = kelvinOf false (t + 27315 / 100) := by simp [kelvinOf]

theorem kelvinOf_celsius_ne_raw [CharZero α] (t : α) : kelvinOf true t ≠ t := by
  simp [kelvinOf]

lemma scale_ne_zero [CharZero α] (p0 : α) (r : PRep α) (hp : p0 ≠ 0) (hu : r.unit ≠ 0) : r.scale p0 ≠ 0 := by
  rcases r with ⟨m, u⟩
  cases m <;> simp_all [PRep.scale]

/-- the nine branches are one formula: SI scale of the source over SI scale of the target, `p0` entering through the
relative modes only (guards: the totalised division) -/
theorem convP_eq_scale [CharZero α] (p0 : α) (src dst : PRep α) (x : α) (hp : p0 ≠ 0) (hs : src.unit ≠ 0)
    (hd : dst.unit ≠ 0) : convP p0 src dst x = x * src.scale p0 / dst.scale p0 := by
  rcases src with ⟨sm, su⟩
  rcases dst with ⟨dm, du⟩
  simp only at hs hd
  cases sm <;> cases dm <;> simp only [convP, PRep.scale] <;> field_simp

theorem convP_self (p0 : α) (r : PRep α) (x : α) (hu : r.unit ≠ 0) : convP p0 r r x = x := by
  rcases r with ⟨m, u⟩
  simp only at hu
  cases m <;> simp [convP, hu]

theorem convP_roundtrip [CharZero α] (p0 : α) (a b : PRep α) (x : α) (hp : p0 ≠ 0) (ha : a.unit ≠ 0) (hb : b.unit ≠ 0) :
    convP p0 b a (convP p0 a b x) = x := by
  rw [convP_eq_scale p0 b a _ hp hb ha, convP_eq_scale p0 a b _ hp ha hb]
  have h1 := scale_ne_zero p0 a hp ha
  have h2 := scale_ne_zero p0 b hp hb
  field_simp

/-- the saturation pressure enters only when the MODE changes between absolute and relative -/
theorem convP_same_kind (p0 p0' : α) (src dst : PRep α) (x : α) (h : src.mode.isAbs = dst.mode.isAbs) :
    convP p0 src dst x = convP p0' src dst x := by
  rcases src with ⟨sm, su⟩
  rcases dst with ⟨dm, du⟩
  cases sm <;> cases dm <;> simp_all [convP, PMode.isAbs]

/-- … and then it does matter: two different saturation pressures give two different answers for every non-zero argument -/
theorem convP_mode_change_ne [CharZero α] (p0 p0' : α) (src dst : PRep α) (x : α) (h : src.mode.isAbs ≠ dst.mode.isAbs)
    (hx : x ≠ 0) (hp : p0 ≠ 0) (hp' : p0' ≠ 0) (hne : p0 ≠ p0') (hs : src.unit ≠ 0) (hd : dst.unit ≠ 0) :
    convP p0 src dst x ≠ convP p0' src dst x := by
  rw [convP_eq_scale p0 src dst x hp hs hd, convP_eq_scale p0' src dst x hp' hs hd]
  rcases src with ⟨sm, su⟩
  rcases dst with ⟨dm, du⟩
  simp only at hs hd
  intro e
  apply hne
  cases sm <;> cases dm <;> simp only [PRep.scale, PMode.isAbs, ne_eq, not_true_eq_false, reduceCtorEq] at h e ⊢ <;>
    (field_simp at e; first | exact e | exact e.symm)

/-! ### the accessors: the bare model after unit conversion, with the constants at the kelvin temperature -/

/-- `loading_at`: the bare model at the argument re-expressed in the stored representation (SI scales with the saturation
pressure AT THE KELVIN TEMPERATURE), times the loading factor at the kelvin temperature -/
theorem loadingAtS_eq_bare [CharZero α] (psat : α → α) (s : MState α) (model : α → α) (rqP : PRep α) (rqL : α → α) (x : α)
    (hp : psat s.kelvin ≠ 0) (hs : s.prep.unit ≠ 0) (hr : rqP.unit ≠ 0) :
    loadingAtS psat s model rqP rqL x
      = model (x * rqP.scale (psat s.kelvin) / s.prep.scale (psat s.kelvin)) * (s.lscale s.kelvin / rqL s.kelvin) := by
  unfold loadingAtS loadingAtT
  rw [convP_eq_scale _ rqP s.prep x hp hr hs]

theorem pressureAtS_eq_bare [CharZero α] (psat : α → α) (s : MState α) (inv : α → α) (rqL : α → α) (rqP : PRep α) (l : α)
    (hp : psat s.kelvin ≠ 0) (hs : s.prep.unit ≠ 0) (hr : rqP.unit ≠ 0) :
    pressureAtS psat s inv rqL rqP l
      = inv (l * (rqL s.kelvin / s.lscale s.kelvin)) * s.prep.scale (psat s.kelvin) / rqP.scale (psat s.kelvin) := by
  unfold pressureAtS pressureAtT
  rw [convP_eq_scale _ s.prep rqP _ hp hs hr]

theorem spreadingAtS_eq_bare [CharZero α] (psat : α → α) (s : MState α) (spr : α → α) (rqP : PRep α) (x : α)
    (hp : psat s.kelvin ≠ 0) (hs : s.prep.unit ≠ 0) (hr : rqP.unit ≠ 0) :
    spreadingAtS psat s spr rqP x = spr (x * rqP.scale (psat s.kelvin) / s.prep.scale (psat s.kelvin)) := by
  unfold spreadingAtS spreadingAtT
  rw [convP_eq_scale _ rqP s.prep x hp hr hs]

theorem loadingAtS_native (psat : α → α) (s : MState α) (model : α → α) (x : α) (hs : s.prep.unit ≠ 0)
    (hl : s.lscale s.kelvin ≠ 0) : loadingAtS psat s model s.prep s.lscale x = model x := by
  unfold loadingAtS loadingAtT
  rw [convP_self _ _ _ hs, div_self hl, mul_one]

/-- the same isotherm stored in °C and in K (any two states with the same kelvin temperature, representation and model)
answers every question alike -/
theorem loadingAtS_twin (psat : α → α) (s s' : MState α) (model : α → α) (rqP : PRep α) (rqL : α → α) (x : α)
    (hk : s.kelvin = s'.kelvin) (hp : s.prep = s'.prep) (hl : s.lscale = s'.lscale) :
    loadingAtS psat s model rqP rqL x = loadingAtS psat s' model rqP rqL x := by
  unfold loadingAtS loadingAtT
  rw [hk, hp, hl]

theorem pressureAtS_twin (psat : α → α) (s s' : MState α) (inv : α → α) (rqL : α → α) (rqP : PRep α) (l : α)
    (hk : s.kelvin = s'.kelvin) (hp : s.prep = s'.prep) (hl : s.lscale = s'.lscale) :
    pressureAtS psat s inv rqL rqP l = pressureAtS psat s' inv rqL rqP l := by
  unfold pressureAtS pressureAtT
  rw [hk, hp, hl]

theorem spreadingAtS_twin (psat : α → α) (s s' : MState α) (spr : α → α) (rqP : PRep α) (x : α)
    (hk : s.kelvin = s'.kelvin) (hp : s.prep = s'.prep) :
    spreadingAtS psat s spr rqP x = spreadingAtS psat s' spr rqP x := by
  unfold spreadingAtS spreadingAtT
  rw [hk, hp]

/-- the twin of a °C state: the same number shifted by 273.15, stored in K -/
def kelvinTwin (s : MState α) : MState α := { s with celsius := false, temp := s.kelvin }

theorem kelvinTwin_kelvin (s : MState α) : (kelvinTwin s).kelvin = s.kelvin := by
  simp [kelvinTwin, MState.kelvin, kelvinOf]

theorem loadingAtS_kelvinTwin (psat : α → α) (s : MState α) (model : α → α) (rqP : PRep α) (rqL : α → α) (x : α) :
    loadingAtS psat (kelvinTwin s) model rqP rqL x = loadingAtS psat s model rqP rqL x :=
  loadingAtS_twin psat _ _ model rqP rqL x (kelvinTwin_kelvin s) rfl rfl

theorem pressureAtS_loadingAtS [CharZero α] (psat : α → α) (s : MState α) (model inv : α → α) (rqP : PRep α)
    (rqL : α → α) (x : α) (hinv : ∀ p, inv (model p) = p) (hp : psat s.kelvin ≠ 0) (hs : s.prep.unit ≠ 0)
    (hr : rqP.unit ≠ 0) (hl : s.lscale s.kelvin ≠ 0) (hq : rqL s.kelvin ≠ 0) :
    pressureAtS psat s inv rqL rqP (loadingAtS psat s model rqP rqL x) = x := by
  unfold pressureAtS pressureAtT loadingAtS loadingAtT
  have e : model (convP (psat s.kelvin) rqP s.prep x) * (s.lscale s.kelvin / rqL s.kelvin)
      * (rqL s.kelvin / s.lscale s.kelvin) = model (convP (psat s.kelvin) rqP s.prep x) := by
    field_simp
  rw [e, hinv, convP_roundtrip _ rqP s.prep x hp hr hs]

theorem loadingAtS_pressureAtS [CharZero α] (psat : α → α) (s : MState α) (model inv : α → α) (rqP : PRep α)
    (rqL : α → α) (l : α) (hinv : ∀ n, model (inv n) = n) (hp : psat s.kelvin ≠ 0) (hs : s.prep.unit ≠ 0)
    (hr : rqP.unit ≠ 0) (hl : s.lscale s.kelvin ≠ 0) (hq : rqL s.kelvin ≠ 0) :
    loadingAtS psat s model rqP rqL (pressureAtS psat s inv rqL rqP l) = l := by
  unfold pressureAtS pressureAtT loadingAtS loadingAtT
  rw [convP_roundtrip _ s.prep rqP _ hp hs hr, hinv]
  field_simp

/-! ### the defect class: a conversion that is handed another temperature than the kelvin one -/

/-- on a state stored in K the raw number IS the kelvin temperature: the slip cannot be seen there -/
theorem loadingAtT_kelvin_state (psat : α → α) (s : MState α) (model : α → α) (rqP : PRep α) (rqL : α → α) (x : α)
    (hK : s.celsius = false) : loadingAtT psat s.temp s.temp s model rqP rqL x = loadingAtS psat s model rqP rqL x := by
  unfold loadingAtS
  simp [MState.kelvin, kelvinOf, hK]

/-- a request that does not change the pressure MODE (pure unit conversions, relative ↔ relative%) cannot see the
temperature of the pressure conversion either -/
theorem loadingAtT_same_kind (psat : α → α) (Tp : α) (s : MState α) (model : α → α) (rqP : PRep α) (rqL : α → α) (x : α)
    (h : rqP.mode.isAbs = s.prep.mode.isAbs) :
    loadingAtT psat Tp s.kelvin s model rqP rqL x = loadingAtS psat s model rqP rqL x := by
  unfold loadingAtS loadingAtT
  rw [convP_same_kind (psat Tp) (psat s.kelvin) rqP s.prep x h]

/-- every mode-changing request sees it, for every injective model and every non-zero pressure, as soon as the saturation
pressures at the two temperatures differ -/
theorem loadingAtT_mode_change_ne [CharZero α] (psat : α → α) (Tp : α) (s : MState α) (model : α → α) (rqP : PRep α)
    (rqL : α → α) (x : α) (h : rqP.mode.isAbs ≠ s.prep.mode.isAbs) (hinj : Function.Injective model) (hx : x ≠ 0)
    (hp : psat Tp ≠ 0) (hp' : psat s.kelvin ≠ 0) (hne : psat Tp ≠ psat s.kelvin) (hs : s.prep.unit ≠ 0)
    (hr : rqP.unit ≠ 0) (hf : s.lscale s.kelvin / rqL s.kelvin ≠ 0) :
    loadingAtT psat Tp s.kelvin s model rqP rqL x ≠ loadingAtS psat s model rqP rqL x := by
  unfold loadingAtS loadingAtT
  intro e
  have e' := hinj (mul_right_cancel₀ hf e)
  exact convP_mode_change_ne _ _ rqP s.prep x h hx hp hp' hne hr hs e'

theorem pressureAtT_same_kind (psat : α → α) (Tp : α) (s : MState α) (inv : α → α) (rqL : α → α) (rqP : PRep α) (l : α)
    (h : s.prep.mode.isAbs = rqP.mode.isAbs) :
    pressureAtT psat Tp s.kelvin s inv rqL rqP l = pressureAtS psat s inv rqL rqP l := by
  unfold pressureAtS pressureAtT
  rw [convP_same_kind (psat Tp) (psat s.kelvin) s.prep rqP _ h]

theorem pressureAtT_mode_change_ne [CharZero α] (psat : α → α) (Tp : α) (s : MState α) (inv : α → α) (rqL : α → α)
    (rqP : PRep α) (l : α) (h : s.prep.mode.isAbs ≠ rqP.mode.isAbs)
    (hx : inv (l * (rqL s.kelvin / s.lscale s.kelvin)) ≠ 0)
    (hp : psat Tp ≠ 0) (hp' : psat s.kelvin ≠ 0) (hne : psat Tp ≠ psat s.kelvin) (hs : s.prep.unit ≠ 0)
    (hr : rqP.unit ≠ 0) :
    pressureAtT psat Tp s.kelvin s inv rqL rqP l ≠ pressureAtS psat s inv rqL rqP l := by
  unfold pressureAtS pressureAtT
  exact convP_mode_change_ne _ _ s.prep rqP _ h hx hp hp' hne hs hr

theorem spreadingAtT_same_kind (psat : α → α) (Tp : α) (s : MState α) (spr : α → α) (rqP : PRep α) (x : α)
    (h : rqP.mode.isAbs = s.prep.mode.isAbs) : spreadingAtT psat Tp s spr rqP x = spreadingAtS psat s spr rqP x := by
  unfold spreadingAtS spreadingAtT
  rw [convP_same_kind (psat Tp) (psat s.kelvin) rqP s.prep x h]

theorem spreadingAtT_mode_change_ne [CharZero α] (psat : α → α) (Tp : α) (s : MState α) (spr : α → α) (rqP : PRep α)
    (x : α) (h : rqP.mode.isAbs ≠ s.prep.mode.isAbs) (hinj : Function.Injective spr) (hx : x ≠ 0)
    (hp : psat Tp ≠ 0) (hp' : psat s.kelvin ≠ 0) (hne : psat Tp ≠ psat s.kelvin) (hs : s.prep.unit ≠ 0)
    (hr : rqP.unit ≠ 0) : spreadingAtT psat Tp s spr rqP x ≠ spreadingAtS psat s spr rqP x := by
  unfold spreadingAtS spreadingAtT
  intro e
  exact convP_mode_change_ne _ _ rqP s.prep x h hx hp hp' hne hr hs (hinj e)

/-- the loading conversion: representations whose SI content does not depend on the temperature (molar and mass bases) cannot
see the temperature it is handed … -/
theorem loadingAtT_lscale_const (psat : α → α) (Tl : α) (s : MState α) (model : α → α) (rqP : PRep α) (rqL : α → α) (x : α)
    (hc : s.lscale Tl / rqL Tl = s.lscale s.kelvin / rqL s.kelvin) :
    loadingAtT psat s.kelvin Tl s model rqP rqL x = loadingAtS psat s model rqP rqL x := by
  unfold loadingAtS loadingAtT
  rw [hc]

/-- … a volume basis (density at the temperature) does, wherever the model's value is not zero -/
theorem loadingAtT_lscale_ne (psat : α → α) (Tl : α) (s : MState α) (model : α → α) (rqP : PRep α) (rqL : α → α) (x : α)
    (hc : s.lscale Tl / rqL Tl ≠ s.lscale s.kelvin / rqL s.kelvin)
    (hm : model (convP (psat s.kelvin) rqP s.prep x) ≠ 0) :
    loadingAtT psat s.kelvin Tl s model rqP rqL x ≠ loadingAtS psat s model rqP rqL x := by
  unfold loadingAtS loadingAtT
  intro e
  exact hc (mul_left_cancel₀ hm e)

section Ordered
variable [LinearOrder α]

theorem wholePressureS_get (psat : α → α) (s : MState α) (a b : α) (n : Nat) (rqP : PRep α) (i : Nat) :
    (wholePressureS psat s a b n rqP none)[i]? = ((linspace a b n)[i]?).map (convP (psat s.kelvin) s.prep rqP) := by
  simp [wholePressureS, limitsStrict]

theorem wholeLoadingS_eq_wholeLoadingL (s : MState α) (model : α → α) (a b : α) (n : Nat) (rqL : α → α)
    (l : Option (Option α × Option α)) :
    wholeLoadingS s model a b n rqL l = wholeLoadingL model a b n (s.lscale s.kelvin / rqL s.kelvin) l := rfl

/-- `loading(points, …)` is `loading_at` (native pressures) on the grid of `pressure(points)` -/
theorem wholeLoadingS_eq_map_loadingAt (psat : α → α) (s : MState α) (model : α → α) (a b : α) (n : Nat) (rqL : α → α)
    (hs : s.prep.unit ≠ 0) :
    wholeLoadingS s model a b n rqL none = (linspace a b n).map (loadingAtS psat s model s.prep rqL) := by
  simp only [wholeLoadingS, limitsStrict, List.map_map]
  apply List.map_congr_left
  intro p _
  simp [loadingAtS, loadingAtT, convP_self _ _ _ hs]

theorem wholePressureS_kelvinTwin (psat : α → α) (s : MState α) (a b : α) (n : Nat) (rqP : PRep α)
    (l : Option (Option α × Option α)) :
    wholePressureS psat (kelvinTwin s) a b n rqP l = wholePressureS psat s a b n rqP l := by
  show limitsStrict ((linspace a b n).map (convP (psat (kelvinTwin s).kelvin) s.prep rqP)) l = _
  rw [kelvinTwin_kelvin]
  rfl

end Ordered

/-! non-vacuity: butane-like numbers (saturation pressure 3 MPa at 413.15 K, 1 kPa at 140 K), Langmuir K = 1/5 per bar, n_m = 5 -/

example : kelvinOf true (140 : ℚ) = 8263 / 20 := by decide +kernel

example : convP (3000000 : ℚ) ⟨.relative, 1⟩ ⟨.absolute, 100000⟩ (1 / 20) = 3 / 2 := by decide +kernel

/-- the slip of handing the raw 140 to the pressure conversion on the °C state: 15/13 becomes 5/10001 -/
example :
    let psat : ℚ → ℚ := fun T => if T = 8263 / 20 then 3000000 else 1000
    let s : MState ℚ := ⟨true, 140, ⟨.absolute, 100000⟩, fun _ => 1⟩
    loadingAtS psat s (langmuir (1 / 5) 5) ⟨.relative, 1⟩ (fun _ => 1) (1 / 20) = 15 / 13
      ∧ loadingAtT psat s.temp s.kelvin s (langmuir (1 / 5) 5) ⟨.relative, 1⟩ (fun _ => 1) (1 / 20) = 5 / 10001 := by
  decide +kernel

example : (⟨.relative, 1⟩ : PRep ℚ).mode.isAbs ≠ (⟨.absolute, 100000⟩ : PRep ℚ).mode.isAbs := by decide

end PgVerif.C10
