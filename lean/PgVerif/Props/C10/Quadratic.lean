/-
C10 for Quadratic.  Statements about the generated functions (`Gen.R.Quadratic_*` = modelling/quadratic.py now).
The declared bounds allow any real `Ka`, `Kb`; the property (monotone, invertible, bounded by the saturation
`2 n_m`) only makes sense for positive constants, so every theorem takes `n_m, Ka, Kb > 0` explicitly.
Validity range: `p ≥ 0` (no pole for positive constants).  Since the repair of finding S51-C10a/b the inverse is computed in the
cancellation-free form of the same root (`Lemmas/Quad.lean` `stable_minus_eq`), which also covers `Kb = 0` (the model is Langmuir's
then, the quadratic degenerates; the earlier form divided by zero and returned the pressure 0 for every loading):
`quadratic_pressure_loading_kb_zero`.
-/
import PgVerif.Tie.Models
import PgVerif.Lemmas.Quad
import PgVerif.Lemmas.Isotherm
import Mathlib.Tactic

namespace PgVerif.C10
open PgVerif.Gen.R PgVerif.Spec.M Filter Topology

theorem quadratic_pos (nm Ka Kb p : ℝ) (hnm : 0 < nm) (hKa : 0 < Ka) (hKb : 0 < Kb) (hp : 0 < p) :
    0 < Quadratic_loading nm Ka Kb p := by
  rw [PgVerif.Tie.quadratic_loading]; unfold quadratic
  positivity

theorem quadratic_nonneg (nm Ka Kb p : ℝ) (hnm : 0 < nm) (hKa : 0 < Ka) (hKb : 0 < Kb) (hp : 0 ≤ p) :
    0 ≤ Quadratic_loading nm Ka Kb p := by
  rw [PgVerif.Tie.quadratic_loading]; unfold quadratic
  positivity

theorem quadratic_lt_sat (nm Ka Kb p : ℝ) (hnm : 0 < nm) (hKa : 0 < Ka) (hKb : 0 < Kb) (hp : 0 ≤ p) :
    Quadratic_loading nm Ka Kb p < 2 * nm := by
  rw [PgVerif.Tie.quadratic_loading]; unfold quadratic
  have h1 : 0 < 1 + Ka * p + Kb * p ^ 2 := by positivity
  rw [div_lt_iff₀ h1]
  have : 0 ≤ nm * Ka * p := by positivity
  linarith

/-- the inverse returns `p` whenever the denominator and the loading are positive and `(n - 2 n_m) Kb ≤ 0`: this covers `Kb > 0`
(loading below the saturation `2 n_m`) and the Langmuir member `Kb = 0` alike -/
private lemma quadratic_pressure_loading_aux (nm Ka Kb p : ℝ) (hp : 0 < p) (hd : 0 < 1 + Ka * p + Kb * p ^ 2)
    (hn : 0 < quadratic nm Ka Kb p) (hsat : (quadratic nm Ka Kb p - 2 * nm) * Kb ≤ 0) :
    Quadratic_pressure nm Ka Kb (quadratic nm Ka Kb p) = p := by
  -- the defining relation n (1 + Ka p + Kb p²) = nm (Ka + 2 Kb p) p, multiplied out, is the quadratic the code solves
  have hrel : quadratic nm Ka Kb p * (1 + Ka * p + Kb * p ^ 2) = nm * (Ka + 2 * Kb * p) * p :=
    div_mul_cancel₀ _ hd.ne'
  generalize quadratic nm Ka Kb p = n at hn hsat hrel ⊢
  unfold Quadratic_pressure nanToZero
  simp only []
  apply PgVerif.Quad.stable_minus_of_root_pos hp hn
  · linear_combination hrel
  · exact (mul_nonpos_of_nonpos_of_nonneg hsat (sq_nonneg p)).trans hn.le

theorem quadratic_pressure_loading (nm Ka Kb p : ℝ) (hnm : 0 < nm) (hKa : 0 < Ka) (hKb : 0 < Kb) (hp : 0 < p) :
    Quadratic_pressure nm Ka Kb (Quadratic_loading nm Ka Kb p) = p := by
  have hn := quadratic_pos nm Ka Kb p hnm hKa hKb hp
  have hsat := quadratic_lt_sat nm Ka Kb p hnm hKa hKb hp.le
  rw [PgVerif.Tie.quadratic_loading] at hn hsat ⊢
  exact quadratic_pressure_loading_aux nm Ka Kb p hp (by positivity) hn
    (mul_nonpos_of_nonpos_of_nonneg (by linarith) hKb.le)

theorem quadratic_zero (nm Ka Kb : ℝ) : Quadratic_loading nm Ka Kb 0 = 0 := by
  rw [PgVerif.Tie.quadratic_loading]; simp [quadratic]

/-- the degenerate member of the family: with `Kb = 0` the model is Langmuir's (`n = n_m Ka p / (1 + Ka p)`), the leading coefficient
of the quadratic vanishes and the branch form returns the root of the linear equation that is left (finding S51-C10b before the repair:
the pressure 0 for every loading) -/
theorem quadratic_pressure_loading_kb_zero (nm Ka p : ℝ) (hnm : 0 < nm) (hKa : 0 < Ka) (hp : 0 < p) :
    Quadratic_pressure nm Ka 0 (Quadratic_loading nm Ka 0 p) = p := by
  rw [PgVerif.Tie.quadratic_loading]
  refine quadratic_pressure_loading_aux nm Ka 0 p hp (by positivity) ?_ (by rw [mul_zero])
  unfold quadratic
  positivity

/-- the zero point of the inverse: at loading 0 the branch `y = -n_m Ka < 0` is taken and the quotient is a genuine
`(2 · 0) / (2 n_m Ka)` with a non-zero denominator (no NaN, no reliance on `x / 0 = 0`).
`x`, `y` are the subterms `v_x`, `v_y` of the generated `Quadratic_pressure` at loading 0, copied literally. -/
theorem quadratic_pressure_zero_point (nm Ka Kb : ℝ) (hnm : 0 < nm) (hKa : 0 < Ka) :
    let x := ((0 : ℝ) - 2 * nm) * Kb
    let y := ((0 : ℝ) - nm) * Ka
    y < 0 ∧ Real.sqrt (y ^ 2 - 4 * x * 0) - y ≠ 0 ∧ Quadratic_pressure nm Ka Kb 0 = 0 := by
  simp only []
  have hy : ((0 : ℝ) - nm) * Ka < 0 := mul_neg_of_neg_of_pos (by linarith) hKa
  refine ⟨hy, (sub_pos.mpr (hy.trans_le (Real.sqrt_nonneg _))).ne', ?_⟩
  unfold Quadratic_pressure nanToZero
  simp only []
  rw [if_pos hy, mul_zero, zero_div]

theorem quadratic_pressure_loading_nonneg (nm Ka Kb p : ℝ) (hnm : 0 < nm) (hKa : 0 < Ka) (hKb : 0 < Kb)
    (hp : 0 ≤ p) :
    Quadratic_pressure nm Ka Kb (Quadratic_loading nm Ka Kb p) = p := by
  rcases hp.eq_or_lt with h0 | hpos
  · rw [← h0, quadratic_zero]
    exact (quadratic_pressure_zero_point nm Ka Kb hnm hKa).2.2
  · exact quadratic_pressure_loading nm Ka Kb p hnm hKa hKb hpos

theorem quadratic_strictMonoOn (nm Ka Kb : ℝ) (hnm : 0 < nm) (hKa : 0 < Ka) (hKb : 0 < Kb) :
    StrictMonoOn (Quadratic_loading nm Ka Kb) (Set.Ici 0) := by
  intro a ha b hb hab
  simp only [Set.mem_Ici] at ha hb
  rw [PgVerif.Tie.quadratic_loading, PgVerif.Tie.quadratic_loading]; unfold quadratic
  have h1 : 0 < 1 + Ka * a + Kb * a ^ 2 := by positivity
  have h2 : 0 < 1 + Ka * b + Kb * b ^ 2 := by positivity
  rw [div_lt_div_iff₀ h1 h2]
  have hba : 0 < b - a := sub_pos.mpr hab
  have : 0 < nm * (b - a) * (Ka + 2 * Kb * (a + b) + Ka * Kb * (a * b)) := by positivity
  linarith

theorem quadratic_henry (nm Ka Kb : ℝ) :
    Tendsto (fun p => Quadratic_loading nm Ka Kb p / p) (𝓝[>] 0) (𝓝 (nm * Ka)) := by
  refine tendsto_div_nhdsGT_zero (g := fun p => nm * (Ka + 2 * Kb * p) / (1 + Ka * p + Kb * p ^ 2)) ?_ (by simp) ?_
  · exact ContinuousAt.div (by fun_prop) (by fun_prop) (by simp)
  · intro p
    rw [PgVerif.Tie.quadratic_loading]; unfold quadratic
    ring

end PgVerif.C10
