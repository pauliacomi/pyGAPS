/-
C10, last sentence ("evaluating through a model isotherm gives the bare model's values after unit conversion") for the
whole-range accessors `ModelIsotherm.pressure(points, …)` / `.loading(points, …)`, and the clause "for scalars and arrays
alike" as a statement about calls: the result on an array is the map of the scalar function, the caller's array is
unchanged, a second call gives the same answer.  Model: Model/ModelEval.lean (run at ℚ by Drv/ModelEval.lean and compared
with the implementation by harness/props/c10.py).
-/
import PgVerif.Model.ModelEval
import Mathlib.Algebra.Order.Field.Basic
import Mathlib.Algebra.Order.Field.Rat
import Mathlib.Tactic

namespace PgVerif.C10
open PgVerif.Model.MEval

set_option linter.unusedSectionVars false
variable {α : Type} [Field α]

/-! ### calls: scalars and arrays alike -/

theorem call_elementwise (f : α → α) (xs : List α) (i : Nat) (h : i < xs.length) :
    ((call f xs).1)[i]'(by simp [call, h]) = f xs[i] := by
  simp [call]

theorem call_length (f : α → α) (xs : List α) : (call f xs).1.length = xs.length := by simp [call]

theorem call_argument_unchanged (f : α → α) (xs : List α) : (call f xs).2 = xs := rfl

theorem call_twice (f : α → α) (xs : List α) : call f (call f xs).2 = call f xs := rfl

theorem call_singleton (f : α → α) (x : α) : (call f [x]).1 = [f x] := rfl

/-- The defect class "works in place on the caller's array": the value returned by the first call is right, but the
caller's data have changed, and the second call with the same array gives another answer as soon as `f ∘ g` differs
from `f` on some element. -/
theorem callInPlace_first_result (g f : α → α) (xs : List α) : (callInPlace g f xs).1 = (call f xs).1 := rfl

theorem callInPlace_second_differs (g f : α → α) (xs : List α) (i : Nat) (h : i < xs.length)
    (hne : f (g xs[i]) ≠ f xs[i]) :
    (callInPlace g f (callInPlace g f xs).2).1 ≠ (callInPlace g f xs).1 := by
  intro e
  have := congrArg (fun l => l[i]?) e
  simp [callInPlace, h] at this
  exact hne this

/-- the only in-place behaviour the oracle cannot see is the harmless one -/
theorem callInPlace_unchanged_iff (g f : α → α) (xs : List α) :
    (callInPlace g f xs).2 = xs ↔ ∀ x ∈ xs, g x = x := by
  have h : (callInPlace g f xs).2 = xs ↔ xs.map g = xs.map id := by simp [callInPlace]
  exact h.trans List.map_inj_left

lemma linspace_one (a b : α) : linspace a b 1 = [a] := if_pos rfl

lemma linspace_of_ne_one (a b : α) {n : Nat} (h : n ≠ 1) :
    linspace a b n = (List.range n).map fun (i : Nat) => a + (b - a) * (i : α) / ((n - 1 : Nat) : α) := if_neg h

theorem linspace_length (a b : α) (n : Nat) : (linspace a b n).length = n := by
  by_cases h : n = 1
  · rw [h, linspace_one]; rfl
  · rw [linspace_of_ne_one a b h, List.length_map, List.length_range]

theorem linspace_get [CharZero α] (a b : α) (n i : Nat) (hn : 2 ≤ n) (hi : i < n) :
    (linspace a b n)[i]? = some (a + (b - a) * (i : α) / ((n - 1 : Nat) : α)) := by
  rw [linspace_of_ne_one a b (by omega), List.getElem?_map, List.getElem?_range hi]
  rfl

theorem linspace_first [CharZero α] (a b : α) (n : Nat) (hn : 2 ≤ n) : (linspace a b n)[0]? = some a := by
  rw [linspace_get a b n 0 hn (by omega)]; simp

theorem linspace_last [CharZero α] (a b : α) (n : Nat) (hn : 2 ≤ n) : (linspace a b n)[n - 1]? = some b := by
  rw [linspace_get a b n (n - 1) hn (by omega)]
  have h : ((n - 1 : Nat) : α) ≠ 0 := by
    have : n - 1 ≠ 0 := by omega
    exact_mod_cast this
  congr 1; field_simp; ring

section Ordered
variable [LinearOrder α] [IsStrictOrderedRing α]

/-- the model is never evaluated outside the range it was built on -/
theorem linspace_mem_range (a b : α) (n : Nat) (hab : a ≤ b) (x : α) (hx : x ∈ linspace a b n) : a ≤ x ∧ x ≤ b := by
  by_cases h1 : n = 1
  · rw [h1, linspace_one, List.mem_singleton] at hx
    rw [hx]; exact ⟨le_rfl, hab⟩
  · rw [linspace_of_ne_one a b h1, List.mem_map] at hx
    obtain ⟨i, hi, rfl⟩ := hx
    rw [List.mem_range] at hi
    have hn1 : (0 : α) < ((n - 1 : Nat) : α) := Nat.cast_pos.mpr (by omega)
    have hi' : (i : α) ≤ ((n - 1 : Nat) : α) := Nat.cast_le.mpr (by omega)
    have hba : 0 ≤ b - a := sub_nonneg.mpr hab
    have hq0 : 0 ≤ (b - a) * (i : α) / ((n - 1 : Nat) : α) :=
      div_nonneg (mul_nonneg hba (Nat.cast_nonneg i)) hn1.le
    have hq1 : (b - a) * (i : α) / ((n - 1 : Nat) : α) ≤ b - a := by
      rw [div_le_iff₀ hn1]
      exact mul_le_mul_of_nonneg_left hi' hba
    exact ⟨le_add_of_nonneg_right hq0, le_sub_iff_add_le'.mp hq1⟩

theorem linspace_mono (a b : α) (n i j : Nat) (hab : a ≤ b) (hij : i ≤ j) (hn : 2 ≤ n) :
    a + (b - a) * (i : α) / ((n - 1 : Nat) : α) ≤ a + (b - a) * (j : α) / ((n - 1 : Nat) : α) := by
  have hn1 : (0 : α) < ((n - 1 : Nat) : α) := Nat.cast_pos.mpr (by omega)
  exact add_le_add le_rfl
    (div_le_div_of_nonneg_right (mul_le_mul_of_nonneg_left (Nat.cast_le.mpr hij) (sub_nonneg.mpr hab)) hn1.le)

theorem limitsStrict_none (vs : List α) : limitsStrict vs none = vs := rfl

theorem mem_limitsStrict (vs : List α) (lo hi v : α) (h : lo ≠ 0 ∨ hi ≠ 0) :
    v ∈ limitsStrict vs (some (some lo, some hi)) ↔ v ∈ vs ∧ lo < v ∧ v < hi := by
  unfold limitsStrict
  have hn : ¬(lo = 0 ∧ hi = 0) := by
    rintro ⟨h1, h2⟩; rcases h with h | h <;> contradiction
  simp [hn]

theorem limitsStrict_sublist (vs : List α) (l : Option (Option α × Option α)) : (limitsStrict vs l).Sublist vs := by
  unfold limitsStrict
  rcases l with _ | ⟨lo, hi⟩
  · exact List.Sublist.refl _
  · simp only
    split_ifs
    · exact List.Sublist.refl _
    · exact List.filter_sublist

/-- "Evaluating through a model isotherm gives the bare model's values after unit conversion": without limits, element `i`
of `ModelIsotherm.loading(points)` is the converted bare model value at element `i` of the pressure grid in stored units -/
theorem wholeLoadingL_get (model : α → α) (a b : α) (n : Nat) (fL : α) (i : Nat) :
    (wholeLoadingL model a b n fL none)[i]? = ((linspace a b n)[i]?).map fun p => model p * fL := by
  simp [wholeLoadingL, limitsStrict, Function.comp_def]

theorem wholePressureL_get (a b : α) (n : Nat) (fP : α) (i : Nat) :
    (wholePressureL a b n fP none)[i]? = ((linspace a b n)[i]?).map (· * fP) := by
  simp [wholePressureL, limitsStrict]

theorem wholePressureP_get (model : α → α) (a b : α) (n : Nat) (fP : α) (i : Nat) :
    (wholePressureP model a b n fP none)[i]? = ((linspace a b n)[i]?).map fun l => model l * fP := by
  simp [wholePressureP, limitsStrict, Function.comp_def]

/-- the two accessors describe the same points: `loading(points)` is the bare model on `pressure(points)` (stored units) -/
theorem wholeLoadingL_eq_map_pressure (model : α → α) (a b : α) (n : Nat) :
    wholeLoadingL model a b n 1 none = (wholePressureL a b n 1 none).map model := by
  simp [wholeLoadingL, wholePressureL, limitsStrict]

/-- what the driver executes (`sel`) is the accessor, given the implementation's model values on the grid -/
theorem wholeLoadingL_eq_convertSelect (model : α → α) (a b : α) (n : Nat) (fL : α) (l : Option (Option α × Option α)) :
    wholeLoadingL model a b n fL l = convertSelect ((linspace a b n).map model) fL l := rfl

theorem wholePressureL_eq_convertSelect (a b : α) (n : Nat) (fP : α) (l : Option (Option α × Option α)) :
    wholePressureL a b n fP l = convertSelect (linspace a b n) fP l := rfl

end Ordered

example : linspace (1 : ℚ) 2 5 = [1, 5 / 4, 3 / 2, 7 / 4, 2] := by
  decide +kernel
example : limitsStrict [(0 : ℚ), 2, 3] (some (some 0, none)) = [0, 2, 3] := by decide
example : limitsStrict [(1 : ℚ), 2, 3] (some (some 1, some 3)) = [2] := by decide
example : (callInPlace (· / 2) (fun x : ℚ => x + 1) (callInPlace (· / 2) (fun x : ℚ => x + 1) [2, 4]).2).1
    ≠ (callInPlace (· / 2) (fun x : ℚ => x + 1) [2, 4]).1 := by
  decide +kernel

end PgVerif.C10
