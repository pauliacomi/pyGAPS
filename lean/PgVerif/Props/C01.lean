/-
C01 — unit, pressure-mode and basis conversions are physically correct and consistent.

Property theorems only (helpers: `Lemmas/Units.lean`).  Model: `Model/Units.lean` (hand-written,
tied to the code by the exhaustive correspondence run) over the *generated* tables `Gen/Units.lean`
(regenerated from `converter_unit.py` / `converter_mode.py` on every run).  Spec: `Spec/Units.lean`.

All statements hold for every field `α` of characteristic zero — in particular ℝ — and every value `v`.
-/
import PgVerif.Lemmas.Units
import Mathlib.Algebra.Order.Field.Rat

set_option linter.unusedSectionVars false
set_option linter.unusedSimpArgs false
set_option linter.unusedVariables false

namespace PgVerif.C01
open PgVerif.Model PgVerif.Units
open PgVerif.Spec (LB MB Ads Mat gL gM PRep LRep MRep TRep physScale fac)

variable {α : Type} [Field α] [CharZero α]

/-! ## Tie: what the code says now = the SI tables -/

theorem tables_eq_spec :
    Gen.pressureUnits = Spec.pressureUnits ∧ Gen.molarUnits = Spec.molarUnits ∧
    Gen.massUnits = Spec.massUnits ∧ Gen.volumeUnits = Spec.volumeUnits ∧
    Gen.temperatureUnits = Spec.temperatureUnits := by decide +kernel

theorem modes_eq_spec :
    Gen.pressureMode = Spec.pressureMode ∧ Gen.loadingMode = Spec.loadingMode ∧
    Gen.materialMode = Spec.materialMode := by decide +kernel

theorem unitTable_eq_spec : Gen.unitTable = Spec.unitTable := by
  funext s
  obtain ⟨h1, h2, h3, h4, _⟩ := tables_eq_spec
  unfold Gen.unitTable Spec.unitTable
  split <;> simp [*]

/-- every leaf of the `c_loading` if-chain carries the constant and sign of the specification table,
and off the chain (equal bases) there is no entry -/
theorem loading_const_table (b1 b2 : LB) :
    Gen.loadingConst.lookup (b1.name, b2.name) = if b1 = b2 then none else some (specLeaf b1 b2) :=
  loadingConst_lookup b1 b2

theorem material_const_table (b1 b2 : MB) :
    Gen.materialConst.lookup (b1.name, b2.name) = if b1 = b2 then none else some (specLeafM b1 b2) :=
  materialConst_lookup b1 b2

/-- under thermodynamic consistency the selected constant raised to the selected
sign is the ratio of the SI contents (mol per unit) of the two bases -/
theorem const_table_sound (a : Ads α) (mat : Mat α) (hc : a.Consistent) (hp : a.Pos) (b1 b2 : LB) :
    ∃ c : α, ∃ sg : Int, leaf Gen.loadingConst (envOf a mat) (some b1.name) (some b2.name) = .ok (c, sg)
      ∧ c ^ sg = gL a b1 / gL a b2 :=
  leaf_phys a mat hc hp b1 b2

theorem const_table_sound_material (a : Ads α) (mat : Mat α) (hp : Mat.Pos mat) (b1 b2 : MB) :
    ∃ c : α, ∃ sg : Int, leaf Gen.materialConst (envOf a mat) (some b1.name) (some b2.name) = .ok (c, sg)
      ∧ c ^ sg = gM mat b1 / gM mat b2 :=
  leaf_mat_env (envOf a mat) mat hp rfl rfl b1 b2

/-! ## The factor is the SI factor -/

/-- for any two supported representations the result is `v · scale(a) / scale(b)` where
`scale` is the number of Pa represented by the value 1 (SI table; `ps` for relative, `ps/100` for relative %) -/
theorem cPressure_SI (ps v : α) (hps : ps ≠ 0) (a b : PRep) (sa sb : α)
    (ha : a.scale Spec.pressureUnits ps = some sa) (hb : b.scale Spec.pressureUnits ps = some sb) :
    cPressure (some ps) true v (some a.mode) (some b.mode) a.unit b.unit = .ok (v * sa / sb) := by
  rw [← tables_eq_spec.1] at ha hb
  exact cPressure_spec ps v hps a b sa sb ha hb

/-- `v · scale(r1) / scale(r2)`, `scale` = mol of adsorbate represented by the value 1
(fraction / percent: in the material's own basis and unit) -/
theorem cLoading_SI (a : Ads α) (mat : Mat α) (hc : a.Consistent) (hp : a.Pos) (v : α) (m : MRep)
    (r1 r2 : LRep) (s1 s2 : α)
    (h1 : r1.scale Spec.unitTable a m = some s1) (h2 : r2.scale Spec.unitTable a m = some s2) :
    cLoading (envOf a mat) v (some r1.basis) (some r2.basis) r1.unit r2.unit (some m.b.name) (some m.u)
      = .ok (v * s1 / s2) := by
  rw [← unitTable_eq_spec] at h1 h2
  exact cLoading_spec a mat hc hp v m r1 r2 s1 s2 h1 h2

/-- a quantity per unit of material is multiplied by grams(to)/grams(from) -/
theorem cMaterial_SI (a : Ads α) (mat : Mat α) (hp : Mat.Pos mat) (v : α) (r1 r2 : MRep) (g1 g2 : α)
    (h1 : r1.grams Spec.unitTable mat = some g1) (h2 : r2.grams Spec.unitTable mat = some g2) :
    cMaterial (envOf a mat) v (some r1.b.name) (some r2.b.name) (some r1.u) (some r2.u) = .ok (v * g2 / g1) := by
  rw [← unitTable_eq_spec] at h1 h2
  exact cMaterial_spec a mat hp v r1 r2 g1 g2 h1 h2

/-- through Kelvin, with 0 °C = 273.15 K, for every accepted Celsius spelling -/
theorem cTemperature_SI (v : α) (a b : TRep) (ha : TRep.Valid a) (hb : TRep.Valid b) :
    cTemperature v (some a.label) (some b.label) = .ok (b.ofK (a.toK v)) :=
  cTemperature_spec v a b ha hb

/-! ## Scales are non-zero (so the laws below are not vacuous divisions by zero) -/

theorem PRep.scale_ne_zero (ps : α) (hps : ps ≠ 0) (a : PRep) (sa : α)
    (ha : a.scale Spec.pressureUnits ps = some sa) : sa ≠ 0 := by
  rw [← tables_eq_spec.1] at ha
  cases a with
  | abs u => exact facOf_ne_zero _ pressure_ok _ _ (scale_abs ha).2
  | rel u => simp [Spec.PRep.scale] at ha; subst ha; exact hps
  | relp u => simp [Spec.PRep.scale] at ha; subst ha; exact div_ne_zero hps (by norm_num)

theorem LRep.scale_ne_zero (a : Ads α) (hp : a.Pos) (m : MRep) (r : LRep) (s : α)
    (h : r.scale Spec.unitTable a m = some s) : s ≠ 0 :=
  Units.scale_ne_zero hp (unitTable_eq_spec ▸ h)

theorem MRep.grams_ne_zero (mat : Mat α) (hp : Mat.Pos mat) (r : MRep) (g : α)
    (h : r.grams Spec.unitTable mat = some g) : g ≠ 0 := by
  rw [← unitTable_eq_spec] at h
  obtain ⟨_, f, _, rfl, hn, hg⟩ := grams_inv hp h
  exact mul_ne_zero hn hg

/-! ## Identity, there-and-back, path independence -/

theorem cPressure_id (ps v : α) (hps : ps ≠ 0) (a : PRep) (sa : α)
    (ha : a.scale Spec.pressureUnits ps = some sa) :
    cPressure (some ps) true v (some a.mode) (some a.mode) a.unit a.unit = .ok v := by
  rw [cPressure_SI ps v hps a a sa sa ha ha, mul_div_cancel_right₀ v (PRep.scale_ne_zero ps hps a sa ha)]

theorem cPressure_compose (ps v : α) (hps : ps ≠ 0) (a b c : PRep) (sa sb sc : α)
    (ha : a.scale Spec.pressureUnits ps = some sa) (hb : b.scale Spec.pressureUnits ps = some sb)
    (hc : c.scale Spec.pressureUnits ps = some sc) :
    (cPressure (some ps) true v (some a.mode) (some b.mode) a.unit b.unit >>= fun w =>
      cPressure (some ps) true w (some b.mode) (some c.mode) b.unit c.unit)
      = cPressure (some ps) true v (some a.mode) (some c.mode) a.unit c.unit := by
  rw [cPressure_SI ps v hps a b sa sb ha hb, cPressure_SI ps v hps a c sa sc ha hc]
  refine (cPressure_SI ps _ hps b c sb sc hb hc).trans ?_
  rw [div_mul_cancel₀ _ (PRep.scale_ne_zero ps hps b sb hb)]

theorem cPressure_roundtrip (ps v : α) (hps : ps ≠ 0) (a b : PRep) (sa sb : α)
    (ha : a.scale Spec.pressureUnits ps = some sa) (hb : b.scale Spec.pressureUnits ps = some sb) :
    (cPressure (some ps) true v (some a.mode) (some b.mode) a.unit b.unit >>= fun w =>
      cPressure (some ps) true w (some b.mode) (some a.mode) b.unit a.unit) = .ok v := by
  rw [cPressure_compose ps v hps a b a sa sb sa ha hb ha, cPressure_id ps v hps a sa ha]

theorem cLoading_id (a : Ads α) (mat : Mat α) (hc : a.Consistent) (hp : a.Pos) (v : α) (m : MRep)
    (r : LRep) (s : α) (h : r.scale Spec.unitTable a m = some s) :
    cLoading (envOf a mat) v (some r.basis) (some r.basis) r.unit r.unit (some m.b.name) (some m.u) = .ok v := by
  rw [cLoading_SI a mat hc hp v m r r s s h h, mul_div_cancel_right₀ v (LRep.scale_ne_zero a hp m r s h)]

/-- path independence, also across fraction/percent -/
theorem cLoading_compose (a : Ads α) (mat : Mat α) (hc : a.Consistent) (hp : a.Pos) (v : α) (m : MRep)
    (r1 r2 r3 : LRep) (s1 s2 s3 : α) (h1 : r1.scale Spec.unitTable a m = some s1)
    (h2 : r2.scale Spec.unitTable a m = some s2) (h3 : r3.scale Spec.unitTable a m = some s3) :
    (cLoading (envOf a mat) v (some r1.basis) (some r2.basis) r1.unit r2.unit (some m.b.name) (some m.u) >>= fun w =>
      cLoading (envOf a mat) w (some r2.basis) (some r3.basis) r2.unit r3.unit (some m.b.name) (some m.u))
      = cLoading (envOf a mat) v (some r1.basis) (some r3.basis) r1.unit r3.unit (some m.b.name) (some m.u) := by
  rw [cLoading_SI a mat hc hp v m r1 r2 s1 s2 h1 h2, cLoading_SI a mat hc hp v m r1 r3 s1 s3 h1 h3]
  refine (cLoading_SI a mat hc hp _ m r2 r3 s2 s3 h2 h3).trans ?_
  rw [div_mul_cancel₀ _ (LRep.scale_ne_zero a hp m r2 s2 h2)]

theorem cLoading_roundtrip (a : Ads α) (mat : Mat α) (hc : a.Consistent) (hp : a.Pos) (v : α) (m : MRep)
    (r1 r2 : LRep) (s1 s2 : α) (h1 : r1.scale Spec.unitTable a m = some s1)
    (h2 : r2.scale Spec.unitTable a m = some s2) :
    (cLoading (envOf a mat) v (some r1.basis) (some r2.basis) r1.unit r2.unit (some m.b.name) (some m.u) >>= fun w =>
      cLoading (envOf a mat) w (some r2.basis) (some r1.basis) r2.unit r1.unit (some m.b.name) (some m.u)) = .ok v := by
  rw [cLoading_compose a mat hc hp v m r1 r2 r1 s1 s2 s1 h1 h2 h1, cLoading_id a mat hc hp v m r1 s1 h1]

theorem cMaterial_id (a : Ads α) (mat : Mat α) (hp : Mat.Pos mat) (v : α) (r : MRep) (g : α)
    (h : r.grams Spec.unitTable mat = some g) :
    cMaterial (envOf a mat) v (some r.b.name) (some r.b.name) (some r.u) (some r.u) = .ok v := by
  rw [cMaterial_SI a mat hp v r r g g h h, mul_div_cancel_right₀ v (MRep.grams_ne_zero mat hp r g h)]

theorem cMaterial_compose (a : Ads α) (mat : Mat α) (hp : Mat.Pos mat) (v : α) (r1 r2 r3 : MRep) (g1 g2 g3 : α)
    (h1 : r1.grams Spec.unitTable mat = some g1) (h2 : r2.grams Spec.unitTable mat = some g2)
    (h3 : r3.grams Spec.unitTable mat = some g3) :
    (cMaterial (envOf a mat) v (some r1.b.name) (some r2.b.name) (some r1.u) (some r2.u) >>= fun w =>
      cMaterial (envOf a mat) w (some r2.b.name) (some r3.b.name) (some r2.u) (some r3.u))
      = cMaterial (envOf a mat) v (some r1.b.name) (some r3.b.name) (some r1.u) (some r3.u) := by
  rw [cMaterial_SI a mat hp v r1 r2 g1 g2 h1 h2, cMaterial_SI a mat hp v r1 r3 g1 g3 h1 h3]
  refine (cMaterial_SI a mat hp _ r2 r3 g2 g3 h2 h3).trans ?_
  rw [div_mul_eq_mul_div, div_div, mul_right_comm v, mul_div_mul_right _ _ (MRep.grams_ne_zero mat hp r2 g2 h2)]

theorem cMaterial_roundtrip (a : Ads α) (mat : Mat α) (hp : Mat.Pos mat) (v : α) (r1 r2 : MRep) (g1 g2 : α)
    (h1 : r1.grams Spec.unitTable mat = some g1) (h2 : r2.grams Spec.unitTable mat = some g2) :
    (cMaterial (envOf a mat) v (some r1.b.name) (some r2.b.name) (some r1.u) (some r2.u) >>= fun w =>
      cMaterial (envOf a mat) w (some r2.b.name) (some r1.b.name) (some r2.u) (some r1.u)) = .ok v := by
  rw [cMaterial_compose a mat hp v r1 r2 r1 g1 g2 g1 h1 h2 h1, cMaterial_id a mat hp v r1 g1 h1]

theorem cTemperature_roundtrip (v : α) (a b : TRep) (ha : TRep.Valid a) (hb : TRep.Valid b) :
    (cTemperature v (some a.label) (some b.label) >>= fun w => cTemperature w (some b.label) (some a.label))
      = .ok v := by
  rw [cTemperature_SI v a b ha hb]
  simp only [bind, Except.bind]
  rw [cTemperature_SI _ b a hb ha]
  cases a <;> cases b <;> simp [Spec.TRep.ofK, Spec.TRep.toK]

/-- arrays: a conversion maps pointwise (the code multiplies a numpy/pandas array by one factor) -/
theorem map_pointwise {ε β γ : Type} (f : β → Except ε γ) (g : β → γ) (h : ∀ v, f v = .ok (g v)) (vs : List β) :
    vs.mapM f = .ok (vs.map g) := by
  induction vs with
  | nil => rfl
  | cons v vs ih => simp [List.mapM_cons, h, ih, bind, Except.bind, pure, Except.pure]

/-- why the model (and the property) take the VALUE into the field before anything else: the same product formed in the value's own
    narrow integer type is another number (8-bit: 50 · 100 wraps to -120; numpy keeps `int8_array * 100` in int8), so a conversion that
    multiplies the caller's array by an integer table entry first — `value * from / to` instead of `value * (from / to)` — is not
    multiplication by the SI factor.  The harness's argument oracle (every dtype, magnitudes to the ends of its range) searches for this. -/
example : ((50 : BitVec 8) * 100).toInt = -120 ∧ ((50 : BitVec 8) * 100).toInt ≠ 50 * 100 := by decide

/-! ## Refusals: a missing or unknown unit / mode / basis never yields a number -/

theorem checkUnit_refuses (t : List (String × Nat × Nat)) (u : Option String)
    (h : u = none ∨ u = some "" ∨ ∃ s, u = some s ∧ t.lookup s = none) :
    (checkUnit t u : Except Err α) = .error .param := by
  rcases h with rfl | rfl | ⟨s, rfl, hs⟩
  · rfl
  · rfl
  · simp only [checkUnit, facOf, hs]; split <;> rfl

theorem checkBasis_refuses (modes : List (String × Option String)) (b : Option String)
    (h : b = none ∨ b = some "" ∨ ∃ s, b = some s ∧ modes.lookup s = none) :
    checkBasis modes b = .error .param := by
  rcases h with rfl | rfl | ⟨s, rfl, hs⟩
  · rfl
  · rfl
  · simp only [checkBasis, hs]; split <;> rfl

theorem checkUnit_error_param (t : List (String × Nat × Nat)) (u : Option String) (e : Err)
    (h : (checkUnit t u : Except Err α) = .error e) : e = .param :=
  checkUnit_err t u e h

theorem cPressure_refuses_mode (psat : Option α) (t : Bool) (v : α) (mf mt uf ut : Option String)
    (h : checkBasis Gen.pressureMode mf = .error .param ∨ checkBasis Gen.pressureMode mt = .error .param) :
    cPressure psat t v mf mt uf ut = .error .param := by
  unfold cPressure
  rcases h with h | h
  · rw [h]; rfl
  · exact bind_refuses (checkBasis_err _ _) fun ⟨_, _⟩ => by rw [h]; rfl

/-- converting between absolute and a relative mode without a valid unit on the absolute side is refused;
so is a missing temperature -/
theorem cPressure_refuses_unit (psat : Option α) (t : Bool) (v : α) (a : PRep) (u : Option String)
    (ha : a.mode ≠ "absolute") (hu : (checkUnit Gen.pressureUnits u : Except Err α) = .error .param)
    (o : Option String) :
    cPressure psat t v (some a.mode) (some "absolute") o u = .error .param ∧
    cPressure psat t v (some "absolute") (some a.mode) u o = .error .param := by
  obtain ⟨_, hm⟩ := checkBasis_pressure a
  rw [cPressure_abs _ _ _ _ _ hm abs_basis ha (.inr rfl), cPressure_abs _ _ _ _ _ abs_basis hm ha.symm (.inl rfl), if_neg ha, if_pos rfl, hu]
  exact ⟨rfl, rfl⟩

theorem cPressure_refuses_no_temperature (psat : Option α) (v : α) (a : PRep) (u o : Option String)
    (ha : a.mode ≠ "absolute") :
    cPressure psat false v (some a.mode) (some "absolute") o u = .error .param ∧
    cPressure psat false v (some "absolute") (some a.mode) u o = .error .param := by
  obtain ⟨_, hm⟩ := checkBasis_pressure a
  rw [cPressure_abs _ _ _ _ _ hm abs_basis ha (.inr rfl), cPressure_abs _ _ _ _ _ abs_basis hm ha.symm (.inl rfl), if_neg ha, if_pos rfl]
  exact ⟨bind_refuses (checkUnit_err _ _) fun _ => rfl, bind_refuses (checkUnit_err _ _) fun _ => rfl⟩

theorem cLoading_refuses_basis (env : Env α) (v : α) (bf bt uf ut bm um : Option String)
    (h : checkBasis Gen.loadingMode bf = .error .param) :
    cLoading env v bf bt uf ut bm um = .error .param := by
  rw [cLoading, h]; rfl

theorem cMaterial_refuses_basis (env : Env α) (v : α) (bf bt uf ut : Option String)
    (h : checkBasis Gen.materialMode bf = .error .param) :
    cMaterial env v bf bt uf ut = .error .param := by
  rw [cMaterial, h]; rfl

theorem cLoading_refuses_unit (env : Env α) (v : α) (b1 b2 : LB) (hb : b1 ≠ b2) (uf ut bm um : Option String)
    (h : (checkUnit (Gen.unitTable b1.table) uf : Except Err α) = .error .param ∨
         (checkUnit (Gen.unitTable b2.table) ut : Except Err α) = .error .param) :
    cLoading env v (some b1.name) (some b2.name) uf ut bm um = .error .param := by
  -- the target unit is checked first, then the source unit
  obtain ⟨k, e⟩ : ∃ k : Except Err α, cLoading env v (some b1.name) (some b2.name) uf ut bm um =
      (checkUnit (Gen.unitTable b2.table) ut : Except Err α) >>= fun _ =>
        (checkUnit (Gen.unitTable b1.table) uf : Except Err α) >>= fun _ => k :=
    ⟨_, by simp only [cLoading, checkBasis_loading, mt LB.name_inj.mp hb, bind, Except.bind, ne_eq, not_false_eq_true,
      ↓reduceIte]; rfl⟩
  rw [e]
  rcases h with h | h
  · exact bind_refuses (checkUnit_err _ _) fun _ => by rw [h]; rfl
  · rw [h]; rfl

theorem cMaterial_refuses_unit (env : Env α) (v : α) (b1 b2 : MB) (hb : b1 ≠ b2) (uf ut : Option String)
    (h : (checkUnit (Gen.unitTable b1.table) uf : Except Err α) = .error .param ∨
         (checkUnit (Gen.unitTable b2.table) ut : Except Err α) = .error .param) :
    cMaterial env v (some b1.name) (some b2.name) uf ut = .error .param := by
  rw [cMaterial_change env v uf ut (checkBasis_material b1) (checkBasis_material b2) (mt MB.name_inj.mp hb)]
  rcases h with h | h
  · exact bind_refuses (checkUnit_err _ _) fun _ => by rw [Option.getD_some, h]; rfl
  · rw [Option.getD_some, h]; rfl

theorem cTemperature_refuses (v : α) (uf ut : Option String)
    (h : (checkTemp (normTemp ut) : Except Err α) = .error .param) :
    cTemperature v uf ut = .error .param := by
  rw [cTemperature, h]; rfl

/-! ## Finding S16: three refusals are not *parameter* errors.
The full clause "refused with a parameter error" is therefore false of model and code at these points;
the theorems above are the part that holds (`…_partial` in the sense of DESIGN §6). -/

-- the three witnesses, and the examples after them, are equations between `Except` values decided by evaluation
deriving instance DecidableEq for Except

/-- fraction → molar without a material basis: `KeyError` -/
theorem S16_witness_key :
    cLoading (fun _ => some (2 : ℚ)) 1 (some "fraction") (some "molar") none (some "mmol") none none
      = .error .key := by decide +kernel

/-- fraction → fraction with a unit: `TypeError` -/
theorem S16_witness_type :
    cLoading (fun _ => some (2 : ℚ)) 1 (some "fraction") (some "fraction") none (some "mmol") none none
      = .error .type := by decide +kernel

/-- mass → volume of material without a density: `TypeError` -/
theorem S16_witness_material :
    cMaterial (fun q => if q = .matDensity then none else some (2 : ℚ)) 1 (some "mass") (some "volume")
      (some "g") (some "cm3") = .error .type := by decide +kernel

/-! ## Non-vacuity: the hypotheses are met by concrete N2-like rationals, and the numbers are the expected ones -/

/-- 1 bar of a vapour with p_sat = 101325 Pa is p/p0 = 100000/101325 -/
example : cPressure (some (101325 : ℚ)) true 1 (some "absolute") (some "relative") (some "bar") none
    = .ok (100000 / 101325) := by decide +kernel

example : (PRep.abs "bar").scale Spec.pressureUnits (101325 : ℚ) = some 100000 := by decide +kernel

/-- 1 mmol/g of a gas with M = 28 g/mol is 2.8 wt% -/
example : cLoading (fun q => if q = .molarMass then some (28 : ℚ) else some 1) 1 (some "molar") (some "percent")
    (some "mmol") none (some "mass") (some "g") = .ok (28 / 10) := by decide +kernel

example : (⟨28, 4 / 5, 1 / 35, 7 / 1000, 1 / 4000⟩ : Ads ℚ).Consistent ∧
    (⟨28, 4 / 5, 1 / 35, 7 / 1000, 1 / 4000⟩ : Ads ℚ).Pos := by
  refine ⟨⟨?_, ?_⟩, ?_, ?_, ?_, ?_, ?_⟩ <;> norm_num

example : (LRep.phys .volGas "cm3").scale Spec.unitTable (⟨28, 4 / 5, 1 / 35, 7 / 1000, 1 / 4000⟩ : Ads ℚ) ⟨.mass, "g"⟩
    = some (1 / 4000) := by decide +kernel

example : cTemperature (25 : ℚ) (some "celsius") (some "K") = .ok (5963 / 20) := by decide +kernel

end PgVerif.C01
