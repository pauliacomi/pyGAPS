/-
C19 — control logic of the Whittaker loop and of the initial-enthalpy point method (model: Model/Enthalpy.lean, tied to
enth_sorp_whittaker.py / initial_enth.py by the correspondence of harness/props/c19.py through Drv/Enthalpy.lean).

"The Whittaker method returns … the closed-form value at each loading and omits ONLY loadings whose pressure lies outside the
range where the vaporisation enthalpy exists; the initial-enthalpy point method returns the first measured enthalpy of the
chosen branch."
-/
import PgVerif.Model.Enthalpy
import Mathlib.Algebra.Order.Field.Rat
import Mathlib.Tactic

namespace PgVerif.C19
open PgVerif.Model.Enthalpy

variable {α : Type} [Field α] [LinearOrder α]

theorem kept_iff (pc psat n : α) (p : Option α) :
    kept pc psat n p = true ↔ n ≠ 0 ∧ ∃ q, p = some q ∧ 0 ≤ q ∧ q ≤ pc ∧ q ≤ psat := by
  unfold kept
  by_cases hn : n = 0
  · simp [hn]
  · cases p with
    | none => simp [hn]
    | some q => simp [hn, not_lt, and_assoc]

/-- **omits only out-of-range loadings**: a pair is reported iff its loading was requested with an in-range pressure, and the
pressure handed to the vaporisation-enthalpy lookup is that pressure capped from below by the triple-point pressure -/
theorem whittaker_reports_iff (pc pt psat : α) (rows : List (α × Option α)) (n q : α) :
    (n, q) ∈ whitLoop pc pt psat rows ↔
      ∃ p, (n, some p) ∈ rows ∧ n ≠ 0 ∧ 0 ≤ p ∧ p ≤ pc ∧ p ≤ psat ∧ q = max p pt := by
  induction rows with
  | nil => simp [whitLoop]
  | cons r rest ih =>
    obtain ⟨n', p'⟩ := r
    unfold whitLoop
    by_cases hk : kept pc psat n' p' = true
    · obtain ⟨hn', q', rfl, h0, h1, h2⟩ := (kept_iff pc psat n' p').1 hk
      simp only [hk, if_true, List.mem_cons, Prod.mk.injEq, ih, hvapPressure]
      constructor
      · rintro (⟨rfl, rfl⟩ | ⟨p, hp, rest'⟩)
        · exact ⟨q', Or.inl ⟨rfl, rfl⟩, hn', h0, h1, h2, rfl⟩
        · exact ⟨p, Or.inr hp, rest'⟩
      · rintro ⟨p, (⟨rfl, hp⟩ | hp), hn, h0', h1', h2', rfl⟩
        · cases hp; exact Or.inl ⟨rfl, rfl⟩
        · exact Or.inr ⟨p, hp, hn, h0', h1', h2', rfl⟩
    · have hk' : kept pc psat n' p' = false := by simpa using hk
      simp only [hk', Bool.false_eq_true, if_false, ih, List.mem_cons, Prod.mk.injEq]
      constructor
      · rintro ⟨p, hp, rest'⟩; exact ⟨p, Or.inr hp, rest'⟩
      · rintro ⟨p, (⟨rfl, hp⟩ | hp), hn, h0', h1', h2', rfl⟩
        · exfalso
          have : kept pc psat n p' = true := (kept_iff pc psat n p').2 ⟨hn, p, hp.symm, h0', h1', h2'⟩
          rw [hk'] at this; cases this
        · exact ⟨p, hp, hn, h0', h1', h2', rfl⟩

/-- the reported loadings are the requested ones that are kept, in the requested order (nothing is reordered or duplicated) -/
theorem whittaker_loadings_eq_filter (pc pt psat : α) (rows : List (α × Option α)) :
    (whitLoop pc pt psat rows).map (·.1) = (rows.filter fun r => kept pc psat r.1 r.2).map (·.1) := by
  induction rows with
  | nil => rfl
  | cons r rest ih =>
    obtain ⟨n, p⟩ := r
    unfold whitLoop
    by_cases hk : kept pc psat n p = true
    · obtain ⟨_, q, rfl, _⟩ := (kept_iff pc psat n (p)).1 hk
      simp [hk, ih]
    · have hk' : kept pc psat n p = false := by simpa using hk
      simp [hk', ih]

theorem whittaker_in_range_all_reported (pc pt psat : α) (rows : List (α × Option α))
    (h : ∀ r ∈ rows, kept pc psat r.1 r.2 = true) :
    (whitLoop pc pt psat rows).map (·.1) = rows.map (·.1) := by
  rw [whittaker_loadings_eq_filter, List.filter_eq_self.2 h]

/-- the vaporisation enthalpy is never looked up below the triple-point pressure -/
theorem whittaker_hvap_pressure_ge_triple (pc pt psat : α) (rows : List (α × Option α)) (n q : α)
    (h : (n, q) ∈ whitLoop pc pt psat rows) : pt ≤ q := by
  obtain ⟨p, _, _, _, _, _, rfl⟩ := (whittaker_reports_iff pc pt psat rows n q).1 h
  exact le_max_right _ _

/-- … and above the triple point it is looked up at the loading's own pressure -/
theorem whittaker_hvap_pressure_own (pc pt psat : α) (rows : List (α × Option α)) (n p : α)
    (hr : (n, some p) ∈ rows) (hn : n ≠ 0) (h0 : 0 ≤ p) (h1 : p ≤ pc) (h2 : p ≤ psat) (ht : pt ≤ p) :
    (n, p) ∈ whitLoop pc pt psat rows :=
  (whittaker_reports_iff pc pt psat rows n p).2 ⟨p, hr, hn, h0, h1, h2, (max_eq_left ht).symm⟩

omit [Field α] [LinearOrder α] in
lemma filter_branch_eq_nil {rows : List (Bool × α)} {b : Bool} (h : ∀ r ∈ rows, r.1 ≠ b) :
    rows.filter (·.1 == b) = [] := by
  rw [List.filter_eq_nil_iff]
  intro r hr
  simpa using h r hr

/-- **initial enthalpy = first measured enthalpy of the chosen branch**: the result is the enthalpy of the first row (in
measurement order) carrying the requested branch mark; rows of the other branch before it are skipped, later rows are irrelevant -/
theorem initial_point_is_first (pre post : List (Bool × α)) (b : Bool) (h : α)
    (hpre : ∀ r ∈ pre, r.1 ≠ b) :
    initialPoint (pre ++ (b, h) :: post) (some b) = some h := by
  unfold initialPoint
  simp [List.filter_append, filter_branch_eq_nil hpre]

/-- no row of the branch ⇒ no value (the library raises / returns nothing; never another branch's datum) -/
theorem initial_point_none (rows : List (Bool × α)) (b : Bool) (h : ∀ r ∈ rows, r.1 ≠ b) :
    initialPoint rows (some b) = none := by
  unfold initialPoint
  simp [filter_branch_eq_nil h]

theorem initial_point_all (r : Bool × α) (rest : List (Bool × α)) : initialPoint (r :: rest) none = some r.2 := rfl

/-- a zero loading, a NaN pressure, a pressure above `p_sat` and a negative pressure are omitted; a pressure below the
triple point is kept and capped -/
example : whitLoop (α := ℚ) 100 10 50 [(0, some 5), (1, some 5), (2, none), (3, some 60), (4, some (-1)), (5, some 20)]
    = [(1, 10), (5, 20)] := by decide +kernel

example : initialPoint (α := ℚ) [(false, 1), (false, 2), (true, 3), (true, 4)] (some true) = some 3 := by decide +kernel

end PgVerif.C19
