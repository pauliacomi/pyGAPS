/-
C17 — Horvath-Kawazoe pore widths solve the method's potential equation.

Statements are about
  * the GENERATED functions `PgVerif.Gen.CharR.hk_*`, `km_*` (characterisation/psd_micro.py now), and
  * the hand-written, harness-tested model `PgVerif.Model.Micro` of the bookkeeping after the solver.

In the order of the file: A. the slit potential is the published Horvath-Kawazoe equation, its constants, its sign and its strict
monotonicity in the wall distance (hence a unique solution); C. bookkeeping after the solver (`tail`, `reportedWidth`,
`hk_volume_adsorbed`, `microWindow`); B. the Cheng-Yang correction term; D. tests; the model dispatch of the entry point.
The other potentials (HK cylinder / sphere, Rege-Yang) are in Props/C17/Potentials.lean, the loops of the two solvers in
Props/C17/Solver.lean.
-/
import PgVerif.Gen.CharR
import PgVerif.Model.Micro
import Mathlib.Tactic
import Mathlib.Analysis.SpecialFunctions.Log.Deriv
import Mathlib.Analysis.Calculus.Deriv.MeanValue
import Mathlib.Analysis.Convex.Deriv
import Mathlib.Analysis.Convex.Slope

namespace PgVerif.Props.C17
open PgVerif.Gen.CharR PgVerif.Model.Micro PgVerif.Model.Linear

/-! ## A. the slit potential -/

/-- the published Horvath-Kawazoe slit equation (right-hand side, `ln(p/p0)`), `σ = c·d`, `c = 0.8583742` -/
noncomputable def hkPublished (d NRT n_ads a_ads n_mat a_mat l : ℝ) : ℝ :=
  let σ := (4291871 / 5000000 : ℝ) * d
  NRT * (n_ads * a_ads + n_mat * a_mat) / ((σ * (1 / 1000000000)) ^ 4 * (l - 2 * d))
    * (σ ^ 4 / (3 * (l - d) ^ 3) - σ ^ 10 / (9 * (l - d) ^ 9) - σ ^ 4 / (3 * d ^ 3) + σ ^ 10 / (9 * d ^ 9))

/-- A1. the generated closure `potential(l_pore)` of the slit branch is the published equation; same division structure,
so no guards are needed. -/
theorem hk_slit_is_published (d NRT n_ads a_ads n_mat a_mat l : ℝ) :
    hk_slit_potential d NRT n_ads a_ads n_mat a_mat l
      = NRT * (n_ads * a_ads + n_mat * a_mat)
          / ((((4291871 / 5000000 : ℝ) * d) * (1 / 1000000000)) ^ 4 * (l - 2 * d))
        * (((4291871 / 5000000 : ℝ) * d) ^ 4 / (3 * (l - d) ^ 3) - ((4291871 / 5000000 : ℝ) * d) ^ 10 / (9 * (l - d) ^ 9)
            - ((4291871 / 5000000 : ℝ) * d) ^ 4 / (3 * d ^ 3) + ((4291871 / 5000000 : ℝ) * d) ^ 10 / (9 * d ^ 9)) := by
  unfold hk_slit_potential
  simp only [div_div]
  ring

theorem hk_slit_is_published' (d NRT n_ads a_ads n_mat a_mat l : ℝ) :
    hk_slit_potential d NRT n_ads a_ads n_mat a_mat l = hkPublished d NRT n_ads a_ads n_mat a_mat l := by
  rw [hk_slit_is_published]; rfl

/-- A2. `N_A / (R T)` -/
theorem hk_N_over_RT_eq (T : ℝ) (_hT : T ≠ 0) :
    hk_N_over_RT T = 602214076000000000000000 / ((207861565453831 / 25000000000000 : ℝ) * T) := by
  unfold hk_N_over_RT
  rw [div_div]

/-- A2. Kirkwood-Mueller, adsorbate: `A_a = (3/2) m c² α_a χ_a` -/
theorem km_ads_eq (α_a χ_a : ℝ) :
    km_dispersion_ads α_a χ_a
      = (3 / 2) * ((91093837139 / 10 ^ 41 : ℝ) * (299792458 : ℝ) ^ 2) * α_a * χ_a := by
  unfold km_dispersion_ads
  norm_num

/-- A2. Kirkwood-Mueller, material: `A_s = 6 m c² α_a α_s / (α_a/χ_a + α_s/χ_s)` -/
theorem km_mat_eq (α_s χ_s α_a χ_a : ℝ) :
    km_dispersion_mat α_s χ_s α_a χ_a
      = 6 * ((91093837139 / 10 ^ 41 : ℝ) * (299792458 : ℝ) ^ 2) * α_a * α_s / (α_a / χ_a + α_s / χ_s) := by
  unfold km_dispersion_mat
  norm_num

theorem hk_d_eff_eq (d_a d_s : ℝ) : hk_d_eff d_a d_s = (d_a + d_s) / 2 := rfl


/-! ### sign of the slit potential -/

/-- the wall-distance function of the published equation -/
noncomputable def hkF (σ x : ℝ) : ℝ := σ ^ 4 / (3 * x ^ 3) - σ ^ 10 / (9 * x ^ 9)

/-- the slit potential is a positive constant times the secant slope of `hkF σ` between `d` and `l - d` -/
lemma hk_slit_eq_secant (d NRT n_ads a_ads n_mat a_mat l : ℝ) :
    hk_slit_potential d NRT n_ads a_ads n_mat a_mat l
      = NRT * (n_ads * a_ads + n_mat * a_mat) / ((((4291871 / 5000000 : ℝ) * d) * (1 / 1000000000)) ^ 4)
        * ((hkF ((4291871 / 5000000 : ℝ) * d) (l - d) - hkF ((4291871 / 5000000 : ℝ) * d) d) / ((l - d) - d)) := by
  rw [hk_slit_is_published]
  unfold hkF
  have e : l - d - d = l - 2 * d := by ring
  rw [e]
  generalize (4291871 / 5000000 : ℝ) * d = σ
  generalize l - 2 * d = w
  generalize l - d = x
  simp only [div_eq_mul_inv, mul_inv]
  ring

lemma hk_c6_lt : ((4291871 / 5000000 : ℝ)) ^ 6 < 2 / 5 := by norm_num

lemma hasDerivAt_const_div_pow (a : ℝ) (n : ℕ) {x : ℝ} (hx : x ≠ 0) :
    HasDerivAt (fun x : ℝ => a / x ^ n) (-(n * a) / x ^ (n + 1)) x := by
  have h := (hasDerivAt_const x a).div (hasDerivAt_pow n x) (pow_ne_zero n hx)
  have e : -(n * a) / x ^ (n + 1) = (0 * x ^ n - a * (n * x ^ (n - 1))) / (x ^ n) ^ 2 := by
    cases n with
    | zero => simp
    | succ n => rw [Nat.add_sub_cancel]; field_simp; ring
  rw [e]
  exact h

lemma hkF_hasDerivAt (σ x : ℝ) (hx : x ≠ 0) : HasDerivAt (hkF σ) (σ ^ 10 / x ^ 10 - σ ^ 4 / x ^ 4) x := by
  have h := (hasDerivAt_const_div_pow (σ ^ 4 / 3) 3 hx).sub (hasDerivAt_const_div_pow (σ ^ 10 / 9) 9 hx)
  have e : σ ^ 10 / x ^ 10 - σ ^ 4 / x ^ 4
      = -((3 : ℕ) * (σ ^ 4 / 3)) / x ^ (3 + 1) - -((9 : ℕ) * (σ ^ 10 / 9)) / x ^ (9 + 1) := by push_cast; ring
  have ef : hkF σ = fun x => σ ^ 4 / 3 / x ^ 3 - σ ^ 10 / 9 / x ^ 9 := by
    funext y; simp only [hkF, div_mul_eq_div_div]
  rw [e, ef]
  exact h

lemma hkF'_hasDerivAt (σ x : ℝ) (hx : x ≠ 0) :
    HasDerivAt (fun x : ℝ => σ ^ 10 / x ^ 10 - σ ^ 4 / x ^ 4) ((4 * (σ ^ 4 / x ^ 4) - 10 * (σ ^ 10 / x ^ 10)) / x) x := by
  have h := (hasDerivAt_const_div_pow (σ ^ 10) 10 hx).sub (hasDerivAt_const_div_pow (σ ^ 4) 4 hx)
  have key : ∀ a b : ℝ, (4 * (a / x ^ 4) - 10 * (b / x ^ 10)) / x
      = -((10 : ℕ) * b) / x ^ (10 + 1) - -((4 : ℕ) * a) / x ^ (4 + 1) := fun a b => by push_cast; ring
  have e := key (σ ^ 4) (σ ^ 10)
  rw [e]
  exact h

/-- the sign of `f'` and of `f''` comes from one inequality: beyond `x = d` the repulsive term `σ¹⁰/x¹⁰` (`σ = c d`) is less than
`2/5` of the attractive term `σ⁴/x⁴`, because `(σ/x)⁶ ≤ c⁶ < 2/5`.  Stated for any such `c`, so that the numeral of the code
enters only through `hk_c6_lt`. -/
lemma hk_repulsive_lt {c d x : ℝ} (hc : 0 < c) (hc6 : c ^ 6 < 2 / 5) (hd : 0 < d) (hx : d ≤ x) :
    0 < (c * d) ^ 4 / x ^ 4 ∧ (c * d) ^ 10 / x ^ 10 < 2 / 5 * ((c * d) ^ 4 / x ^ 4) := by
  have hx0 : 0 < x := hd.trans_le hx
  have hA : 0 < (c * d) ^ 4 / x ^ 4 := div_pos (pow_pos (mul_pos hc hd) 4) (pow_pos hx0 4)
  have h6 : (c * d) ^ 6 / x ^ 6 < 2 / 5 := by
    rw [← div_pow, mul_div_assoc, mul_pow]
    calc c ^ 6 * (d / x) ^ 6 ≤ c ^ 6 * 1 :=
          mul_le_mul_of_nonneg_left (pow_le_one₀ (div_nonneg hd.le hx0.le) ((div_le_one hx0).2 hx)) (pow_nonneg hc.le 6)
      _ < 2 / 5 := by rwa [mul_one]
  have e : (c * d) ^ 10 / x ^ 10 = (c * d) ^ 6 / x ^ 6 * ((c * d) ^ 4 / x ^ 4) := by
    rw [div_mul_div_comm, ← pow_add, ← pow_add]
  exact ⟨hA, e ▸ mul_lt_mul_of_pos_right h6 hA⟩

lemma hkF_strictAntiOn {c : ℝ} (hc : 0 < c) (hc6 : c ^ 6 < 2 / 5) (d : ℝ) (hd : 0 < d) :
    StrictAntiOn (hkF (c * d)) (Set.Ici d) := by
  apply strictAntiOn_of_deriv_neg (convex_Ici d)
  · exact fun x hx => (hkF_hasDerivAt _ x (hd.trans_le hx).ne').continuousAt.continuousWithinAt
  · intro x hx
    rw [interior_Ici] at hx
    rw [(hkF_hasDerivAt _ x (hd.trans hx).ne').deriv]
    obtain ⟨hA, h⟩ := hk_repulsive_lt hc hc6 hd hx.le
    exact sub_neg.2 (h.trans_le (mul_le_of_le_one_left hA.le (by norm_num)))

/-- A3. the slit potential is negative for every admissible wall distance `l > 2 d_eff` (so the pressure `exp φ` is below saturation).
Guards: `0 < d`, `2 d < l` exclude the poles `l = d`, `l = 2d` and `d = 0`. -/
theorem hk_slit_negative (d NRT n_ads a_ads n_mat a_mat l : ℝ) (hd : 0 < d) (hl : 2 * d < l) (hN : 0 < NRT)
    (hS : 0 < n_ads * a_ads + n_mat * a_mat) :
    hk_slit_potential d NRT n_ads a_ads n_mat a_mat l < 0 := by
  rw [hk_slit_eq_secant]
  have hf := hkF_strictAntiOn (by norm_num) hk_c6_lt d hd (Set.mem_Ici.2 le_rfl) (Set.mem_Ici.2 (by linarith : d ≤ l - d)) (by linarith)
  apply mul_neg_of_pos_of_neg
  · positivity
  · apply div_neg_of_neg_of_pos <;> linarith


/-! ### monotonicity of the slit potential in the wall distance -/

/-- `f'' > 0` because `(5/2) c⁶ < 1` -/
lemma hkF_strictConvexOn {c : ℝ} (hc : 0 < c) (hc6 : c ^ 6 < 2 / 5) (d : ℝ) (hd : 0 < d) :
    StrictConvexOn ℝ (Set.Ici d) (hkF (c * d)) := by
  have hne : ∀ x ∈ Set.Ici d, x ≠ 0 := fun x hx => (hd.trans_le hx).ne'
  have hne' : ∀ x ∈ Set.Ioi d, x ≠ 0 := fun x hx => (hd.trans hx).ne'
  apply StrictMonoOn.strictConvexOn_of_deriv (convex_Ici d)
  · exact fun x hx => (hkF_hasDerivAt _ x (hne x hx)).continuousAt.continuousWithinAt
  · rw [interior_Ici]
    refine StrictMonoOn.congr ?_ (fun x hx => ((hkF_hasDerivAt _ x (hne' x hx)).deriv).symm)
    apply strictMonoOn_of_deriv_pos (convex_Ioi d)
    · exact fun x hx => (hkF'_hasDerivAt _ x (hne' x hx)).continuousAt.continuousWithinAt
    · intro x hx
      rw [interior_Ioi] at hx
      rw [(hkF'_hasDerivAt _ x (hd.trans hx).ne').deriv]
      obtain ⟨-, h⟩ := hk_repulsive_lt hc hc6 hd hx.le
      -- `10 R < 10 (2/5 A) = 4 A`
      have h10 := mul_lt_mul_of_pos_left h (by norm_num : (0 : ℝ) < 10)
      rw [← mul_assoc, show (10 : ℝ) * (2 / 5) = 4 by norm_num] at h10
      exact div_pos (sub_pos.2 h10) (hd.trans hx)

/-- A4. the slit potential is strictly increasing in the wall distance on `l > 2 d_eff` -/
theorem hk_slit_strictMonoOn (d NRT n_ads a_ads n_mat a_mat : ℝ) (hd : 0 < d) (hN : 0 < NRT)
    (hS : 0 < n_ads * a_ads + n_mat * a_mat) :
    StrictMonoOn (fun l => hk_slit_potential d NRT n_ads a_ads n_mat a_mat l) (Set.Ioi (2 * d)) := by
  intro l₁ h₁ l₂ h₂ hlt
  simp only [Set.mem_Ioi] at h₁ h₂
  simp only [hk_slit_eq_secant]
  apply mul_lt_mul_of_pos_left _ (by positivity)
  exact (hkF_strictConvexOn (by norm_num) hk_c6_lt d hd).secant_strict_mono (Set.mem_Ici.mpr le_rfl)
    (Set.mem_Ici.mpr (by linarith)) (Set.mem_Ici.mpr (by linarith)) (by intro h; linarith) (by intro h; linarith)
    (by linarith)

/-- A4. the potential equation has at most one solution on `l > 2 d_eff` -/
theorem hk_slit_unique_solution (d NRT n_ads a_ads n_mat a_mat l₁ l₂ : ℝ) (hd : 0 < d) (hN : 0 < NRT)
    (hS : 0 < n_ads * a_ads + n_mat * a_mat) (h₁ : 2 * d < l₁) (h₂ : 2 * d < l₂)
    (h : hk_slit_potential d NRT n_ads a_ads n_mat a_mat l₁ = hk_slit_potential d NRT n_ads a_ads n_mat a_mat l₂) :
    l₁ = l₂ :=
  (hk_slit_strictMonoOn d NRT n_ads a_ads n_mat a_mat hd hN hS).injOn h₁ h₂ h

/-- A4. round trip: a relative pressure computed from the published slit equation for a wall distance `l₀ > 2 d_eff` is mapped back
to `l₀` by any exact solver of `exp (potential l) = p` on `l > 2 d_eff` -/
theorem hk_slit_round_trip (d NRT n_ads a_ads n_mat a_mat l₀ l : ℝ) (hd : 0 < d) (hN : 0 < NRT)
    (hS : 0 < n_ads * a_ads + n_mat * a_mat) (h₀ : 2 * d < l₀) (hl : 2 * d < l)
    (h : Real.exp (hk_slit_potential d NRT n_ads a_ads n_mat a_mat l)
          = Real.exp (hkPublished d NRT n_ads a_ads n_mat a_mat l₀)) :
    l = l₀ := by
  rw [← hk_slit_is_published'] at h
  exact hk_slit_unique_solution d NRT n_ads a_ads n_mat a_mat l l₀ hd hN hS hl h₀ (Real.exp_injective h)

/-- the pressure `exp φ` is strictly increasing in the wall distance and stays in (0,1): widths are increasing in pressure for plain HK -/
theorem hk_slit_pressure_strictMonoOn (d NRT n_ads a_ads n_mat a_mat : ℝ) (hd : 0 < d) (hN : 0 < NRT)
    (hS : 0 < n_ads * a_ads + n_mat * a_mat) :
    StrictMonoOn (fun l => Real.exp (hk_slit_potential d NRT n_ads a_ads n_mat a_mat l)) (Set.Ioi (2 * d))
    ∧ ∀ l, 2 * d < l → 0 < Real.exp (hk_slit_potential d NRT n_ads a_ads n_mat a_mat l)
        ∧ Real.exp (hk_slit_potential d NRT n_ads a_ads n_mat a_mat l) < 1 := by
  refine ⟨fun l₁ h₁ l₂ h₂ hlt => Real.exp_lt_exp.mpr (hk_slit_strictMonoOn d NRT n_ads a_ads n_mat a_mat hd hN hS h₁ h₂ hlt),
    fun l hl => ⟨Real.exp_pos _, ?_⟩⟩
  rw [Real.exp_lt_one_iff]
  exact hk_slit_negative d NRT n_ads a_ads n_mat a_mat l hd hl hN hS

/-! ## C. bookkeeping after the solver -/
section Book
variable {α : Type} [Field α]

@[simp] lemma diff_nil : diff ([] : List α) = [] := rfl
@[simp] lemma diff_single (a : α) : diff [a] = [] := rfl
@[simp] lemma diff_cons_cons (a b : α) (r : List α) : diff (a :: b :: r) = (b - a) :: diff (b :: r) := rfl
@[simp] lemma avgPairs_nil : avgPairs ([] : List α) = [] := rfl
@[simp] lemma avgPairs_single (a : α) : avgPairs [a] = [] := rfl
@[simp] lemma avgPairs_cons_cons (a b : α) (r : List α) :
    avgPairs (a :: b :: r) = ((a + b) / 2) :: avgPairs (b :: r) := rfl

/-- `numpy.diff` pairs every entry with its successor -/
lemma diff_eq_zipWith : ∀ l : List α, diff l = List.zipWith (fun a b => b - a) l l.tail
  | [] => rfl
  | [_] => rfl
  | a :: b :: r => by rw [diff_cons_cons, diff_eq_zipWith (b :: r)]; rfl

lemma avgPairs_eq_zipWith : ∀ l : List α, avgPairs l = List.zipWith (fun a b => (a + b) / 2) l l.tail
  | [] => rfl
  | [_] => rfl
  | a :: b :: r => by rw [avgPairs_cons_cons, avgPairs_eq_zipWith (b :: r)]; rfl

lemma diff_length (l : List α) : (diff l).length = l.length - 1 := by
  rw [diff_eq_zipWith, List.length_zipWith, List.length_tail, Nat.min_eq_right (Nat.sub_le _ _)]

lemma avgPairs_length (l : List α) : (avgPairs l).length = l.length - 1 := by
  rw [avgPairs_eq_zipWith, List.length_zipWith, List.length_tail, Nat.min_eq_right (Nat.sub_le _ _)]

lemma diff_getElem (l : List α) (i : Nat) {h : i < (diff l).length} (h' : i + 1 < l.length) :
    (diff l)[i] = l[i + 1] - l[i] := by
  simp only [diff_eq_zipWith, List.getElem_zipWith, List.getElem_tail]

lemma avgPairs_getElem (l : List α) (i : Nat) {h : i < (avgPairs l).length} (h' : i + 1 < l.length) :
    (avgPairs l)[i] = (l[i] + l[i + 1]) / 2 := by
  simp only [avgPairs_eq_zipWith, List.getElem_zipWith, List.getElem_tail]

/-- C7. the cumulative curve is the adsorbed volume of the solved points, without the first -/
theorem tail_cumulative (widths vol : List α) :
    (tail widths vol).cumulative = (vol.take widths.length).drop 1 := rfl

/-- C9 (first half). the reported abscissae are the means of successive solved widths -/
theorem tail_widths (widths vol : List α) : (tail widths vol).widths = avgPairs widths := rfl

theorem tail_distribution (widths vol : List α) :
    (tail widths vol).distribution = List.zipWith (· / ·) (diff (vol.take widths.length)) (diff widths) := rfl

/-- C10. all three output arrays have length `len(widths) - 1` -/
theorem tail_lengths (widths vol : List α) (h : widths.length ≤ vol.length) :
    (tail widths vol).widths.length = widths.length - 1
    ∧ (tail widths vol).distribution.length = widths.length - 1
    ∧ (tail widths vol).cumulative.length = widths.length - 1 := by
  refine ⟨?_, ?_, ?_⟩
  · rw [tail_widths, avgPairs_length]
  · rw [tail_distribution, List.length_zipWith, diff_length, diff_length, List.length_take, min_eq_left h, min_self]
  · rw [tail_cumulative, List.length_drop, List.length_take, min_eq_left h]

end Book

/-- C7. with `vol = hk_volume_adsorbed(loading)`: every entry of the cumulative curve is the loading expressed as liquid volume
`n·M/ρ/1000` -/
theorem tail_cumulative_is_liquid_volume (widths loading : List ℝ) (M ρ : ℝ) :
    (tail widths (loading.map (fun n => hk_volume_adsorbed n M ρ))).cumulative
      = ((loading.take widths.length).drop 1).map (fun n => n * M / ρ / 1000) := by
  rw [tail_cumulative, ← List.map_take, ← List.map_drop]
  rfl

theorem tail_cumulative_getElem (widths loading : List ℝ) (M ρ : ℝ) (i : Nat)
    (hw : i + 1 < widths.length) (hl : widths.length ≤ loading.length) :
    (tail widths (loading.map (fun n => hk_volume_adsorbed n M ρ))).cumulative[i]'(by
        rw [tail_cumulative]; simp; omega)
      = loading[i + 1] * M / ρ / 1000 := by
  simp only [tail_cumulative, List.getElem_drop, List.getElem_take, List.getElem_map]
  unfold hk_volume_adsorbed
  congr 4
  omega

section Book2
variable {α : Type} [Field α]

lemma zipWith_div_mul_cancel : ∀ (a b : List α), a.length ≤ b.length → (∀ x ∈ b, x ≠ 0) →
    List.zipWith (· * ·) (List.zipWith (· / ·) a b) b = a
  | [], _, _, _ => by simp
  | x :: a, [], h, _ => by simp at h
  | x :: a, y :: b, h, hb => by
    simp only [List.zipWith_cons_cons, List.cons.injEq]
    refine ⟨div_mul_cancel₀ x (hb y (by simp)), ?_⟩
    exact zipWith_div_mul_cancel a b (by simpa using h) (fun z hz => hb z (by simp [hz]))

/-- C8. the distribution is the finite-difference derivative of the cumulative volume with respect to width:
`dist_i · (w_{i+1} − w_i) = V_{i+1} − V_i` (guard: no two successive solved widths coincide — otherwise the code divides by zero) -/
theorem tail_distribution_is_finite_difference (widths vol : List α) (h : widths.length ≤ vol.length)
    (hne : ∀ x ∈ diff widths, x ≠ 0) :
    List.zipWith (· * ·) (tail widths vol).distribution (diff widths) = diff (vol.take widths.length) := by
  rw [tail_distribution]
  apply zipWith_div_mul_cancel _ _ _ hne
  rw [diff_length, diff_length, List.length_take, min_eq_left h]

/-- C8, pointwise: `dist_i = (V_{i+1} − V_i)/(w_{i+1} − w_i)` -/
theorem tail_distribution_getElem (widths vol : List α) (h : widths.length ≤ vol.length) (i : Nat)
    (hi : i + 1 < widths.length) :
    (tail widths vol).distribution[i]'(by rw [(tail_lengths widths vol h).2.1]; omega)
      = (vol[i + 1] - vol[i]) / (widths[i + 1] - widths[i]) := by
  simp only [tail_distribution, List.getElem_zipWith]
  rw [diff_getElem _ i (by rw [List.length_take, min_eq_left h]; exact hi), diff_getElem _ i hi]
  simp only [List.getElem_take]

variable [LinearOrder α] [IsStrictOrderedRing α]

lemma mean_mem_Icc {a b : α} (h : a ≤ b) : a ≤ (a + b) / 2 ∧ (a + b) / 2 ≤ b := by
  rcases h.eq_or_lt with rfl | hlt
  · exact ⟨(add_self_div_two a).ge, (add_self_div_two a).le⟩
  · exact ⟨(left_lt_add_div_two.2 hlt).le, (add_div_two_lt_right.2 hlt).le⟩

/-- C9. `avg_pore_widths` are the means of successive solved widths; for sorted widths each lies between its two neighbours -/
theorem tail_widths_are_means (widths vol : List α) :
    (tail widths vol).widths = avgPairs widths
    ∧ (widths.Pairwise (· ≤ ·) → ∀ (i : Nat) (hi : i + 1 < widths.length),
        widths[i] ≤ (avgPairs widths)[i]'(by rw [avgPairs_length]; omega)
        ∧ (avgPairs widths)[i]'(by rw [avgPairs_length]; omega) ≤ widths[i + 1]) := by
  refine ⟨rfl, fun hs i hi => ?_⟩
  rw [avgPairs_getElem widths i hi]
  exact mean_mem_Icc (List.pairwise_iff_getElem.mp hs i (i + 1) (by omega) hi (by omega))

theorem avgPairs_strict_between (widths : List α) (i : Nat) (hi : i + 1 < widths.length)
    (hlt : widths[i] < widths[i + 1]) :
    widths[i] < (avgPairs widths)[i]'(by rw [avgPairs_length]; omega)
      ∧ (avgPairs widths)[i]'(by rw [avgPairs_length]; omega) < widths[i + 1] := by
  rw [avgPairs_getElem widths i hi]
  exact ⟨left_lt_add_div_two.2 hlt, add_div_two_lt_right.2 hlt⟩

omit [LinearOrder α] [IsStrictOrderedRing α] in
/-- C11. any other geometry name gives no width (the code raises `ParameterError`) -/
theorem reportedWidth_none (g : String) (hg : g ≠ "slit" ∧ g ≠ "cylinder" ∧ g ≠ "sphere") (dMat l : α) :
    reportedWidth g dMat l = none := by
  rw [reportedWidth, if_neg hg.1, if_neg (not_or.2 hg.2)]

omit [LinearOrder α] [IsStrictOrderedRing α] in
lemma reportedWidth_slit (dMat l : α) : reportedWidth "slit" dMat l = some (l - dMat) := if_pos rfl

omit [LinearOrder α] [IsStrictOrderedRing α] in
lemma reportedWidth_round (g : String) (hg : g = "cylinder" ∨ g = "sphere") (dMat l : α) :
    reportedWidth g dMat l = some (2 * l - dMat) := by
  rw [reportedWidth, if_neg (by rcases hg with rfl | rfl <;> decide), if_pos hg]

/-- C11. the reported width is a strictly increasing function of the solved internuclear distance / radius, for each geometry -/
theorem reportedWidth_mono (g : String) (hg : g = "slit" ∨ g = "cylinder" ∨ g = "sphere") (dMat : α) :
    ∃ f : α → α, StrictMono f ∧ (∀ l, reportedWidth g dMat l = some (f l))
      ∧ (g = "slit" → ∀ l, f l = l - dMat) ∧ (g ≠ "slit" → ∀ l, f l = 2 * l - dMat) := by
  rcases hg with rfl | hg
  · exact ⟨fun l => l - dMat, fun a b hab => sub_lt_sub_right hab dMat, reportedWidth_slit dMat,
      fun _ _ => rfl, fun h => absurd rfl h⟩
  · refine ⟨fun l => 2 * l - dMat, fun a b hab => sub_lt_sub_right (mul_lt_mul_of_pos_left hab two_pos) dMat,
      reportedWidth_round g hg dMat, fun h => ?_, fun _ _ => rfl⟩
    rcases hg with rfl | rfl <;> exact absurd h (by decide)

theorem reportedWidth_le_iff (g : String) (dMat l₁ l₂ w₁ w₂ : α)
    (h₁ : reportedWidth g dMat l₁ = some w₁) (h₂ : reportedWidth g dMat l₂ = some w₂) :
    w₁ ≤ w₂ ↔ l₁ ≤ l₂ := by
  by_cases hg : g = "slit" ∨ g = "cylinder" ∨ g = "sphere"
  · obtain ⟨f, hf, hfl, -, -⟩ := reportedWidth_mono g hg dMat
    rw [hfl, Option.some.injEq] at h₁ h₂
    rw [← h₁, ← h₂]
    exact hf.le_iff_le
  · rw [reportedWidth_none g ⟨fun h => hg (.inl h), fun h => hg (.inr (.inl h)), fun h => hg (.inr (.inr h))⟩] at h₁
    cases h₁

omit [IsStrictOrderedRing α] in
/-- C13. default limits of `psd_microporous` are `(None, 0.2)` -/
theorem microWindow_default (ps : List α) (c20 : α) (lo hi : Option α) :
    microWindow ps c20 none = decide3 (limitWindow ps none (some c20))
    ∧ microWindow ps c20 (some (lo, hi)) = decide3 (limitWindow ps lo hi) := ⟨rfl, rfl⟩

end Book2

theorem volume_adsorbed_mono (M ρ : ℝ) (hM : 0 < M) (hρ : 0 < ρ) :
    StrictMono (fun n => hk_volume_adsorbed n M ρ) := by
  intro a b hab
  simp only [hk_volume_adsorbed]
  have : a * M / ρ < b * M / ρ := by
    apply div_lt_div_of_pos_right _ hρ
    exact mul_lt_mul_of_pos_right hab hM
  linarith

theorem volume_adsorbed_linear (n M ρ k : ℝ) : hk_volume_adsorbed (k * n) M ρ = k * hk_volume_adsorbed n M ρ := by
  unfold hk_volume_adsorbed
  ring

theorem volume_adsorbed_eq (n M ρ : ℝ) : hk_volume_adsorbed n M ρ = n * M / ρ / 1000 := rfl

/-- C12. representation of the loading: the liquid volume of a whole-number loading `n > 0` (data recorded in whole mmol/g) with
`n M < 1000 ρ` lies strictly between 0 and 1, so it is not a whole number: the model (over a field) says the cumulative volume cannot be
kept in a buffer of the loading's integer type.  The harness hands integer lists / arrays / isotherm columns to the code for this reason. -/
theorem volume_of_whole_loading_fractional (n : ℕ) (M ρ : ℝ) (hn : 0 < n) (hM : 0 < M) (hρ : 0 < ρ)
    (h : (n : ℝ) * M < 1000 * ρ) :
    0 < hk_volume_adsorbed (n : ℝ) M ρ ∧ hk_volume_adsorbed (n : ℝ) M ρ < 1 := by
  have hn' : (0 : ℝ) < n := by exact_mod_cast hn
  unfold hk_volume_adsorbed
  refine ⟨by positivity, ?_⟩
  rw [div_div, div_lt_one (by positivity)]
  linarith

/-- 26 mmol/g of a nitrogen-like adsorbate (M = 28, ρ = 4/5) -/
example : 0 < hk_volume_adsorbed ((26 : ℕ) : ℝ) 28 (4 / 5) ∧ hk_volume_adsorbed ((26 : ℕ) : ℝ) 28 (4 / 5) < 1 :=
  volume_of_whole_loading_fractional 26 28 (4 / 5) (by norm_num) (by norm_num) (by norm_num) (by norm_num)

theorem tail_cumulative_sorted (widths loading : List ℝ) (M ρ : ℝ) (hM : 0 < M) (hρ : 0 < ρ)
    (hs : loading.Pairwise (· ≤ ·)) :
    (tail widths (loading.map (fun n => hk_volume_adsorbed n M ρ))).cumulative.Pairwise (· ≤ ·) := by
  rw [tail_cumulative]
  refine List.Pairwise.sublist ((List.drop_sublist _ _).trans (List.take_sublist _ _)) ?_
  rw [List.pairwise_map]
  exact hs.imp (fun hab => (volume_adsorbed_mono M ρ hM hρ).monotone hab)

/-! ## B. the Cheng-Yang correction term -/

/-- B5. the correction term is negative for coverages in (0,1) (guard `θ < 1` excludes `log` of a non-positive number,
`0 < θ` the division by zero) -/
theorem sf_corr_neg (θ : ℝ) (h0 : 0 < θ) (h1 : θ < 1) : hk_sf_corr θ < 0 := by
  unfold hk_sf_corr
  have hlog : Real.log (1 - θ) < -θ := by
    have := Real.log_lt_sub_one_of_pos (by linarith : 0 < 1 - θ) (by linarith : 1 - θ ≠ 1)
    linarith
  have : 1 / θ * Real.log (1 - θ) < 1 / θ * (-θ) := mul_lt_mul_of_pos_left hlog (by positivity)
  have e : 1 / θ * (-θ) = -1 := by field_simp
  linarith

/-- B6. the correction is unbounded below as the coverage approaches 1 (finding S23: corrected widths can decrease with pressure) -/
theorem sf_corr_unbounded (M : ℝ) : ∃ θ : ℝ, 0 < θ ∧ θ < 1 ∧ hk_sf_corr θ < M := by
  set K : ℝ := |M| + 2 with hK
  have hKpos : 0 < K := by positivity
  -- at `θ = 1 − e^{−K}` the logarithm is `−K` and `1/θ > 1`
  have hθ0 : 0 < 1 - Real.exp (-K) := sub_pos.2 (Real.exp_lt_one_iff.2 (neg_neg_of_pos hKpos))
  have hθ1 : 1 - Real.exp (-K) < 1 := sub_lt_self _ (Real.exp_pos _)
  refine ⟨1 - Real.exp (-K), hθ0, hθ1, ?_⟩
  unfold hk_sf_corr
  rw [sub_sub_cancel, Real.log_exp]
  have h := mul_lt_mul_of_neg_right ((one_lt_div hθ0).2 hθ1) (neg_neg_of_pos hKpos)
  linarith [neg_abs_le M]

lemma sf_corr_hasDerivAt (θ : ℝ) (h0 : θ ≠ 0) (h1 : 1 - θ ≠ 0) :
    HasDerivAt hk_sf_corr ((-θ / (1 - θ) - Real.log (1 - θ)) / θ ^ 2) θ := by
  have ha : HasDerivAt (fun θ : ℝ => 1 - θ) (-1) θ := by simpa using (hasDerivAt_id θ).const_sub 1
  have hb := ha.log h1
  have hc := (hasDerivAt_const θ (1 : ℝ)).div (hasDerivAt_id θ) h0
  have h := (hc.mul hb).const_add 1
  simp only [id] at h
  have e : (-θ / (1 - θ) - Real.log (1 - θ)) / θ ^ 2
      = (0 * θ - 1 * 1) / θ ^ 2 * Real.log (1 - θ) + 1 / θ * (-1 / (1 - θ)) := by
    field_simp
    ring
  rw [e]
  exact h

theorem sf_corr_strictAntiOn : StrictAntiOn hk_sf_corr (Set.Ioo 0 1) := by
  have hd : ∀ θ ∈ Set.Ioo (0 : ℝ) 1, HasDerivAt hk_sf_corr ((-θ / (1 - θ) - Real.log (1 - θ)) / θ ^ 2) θ :=
    fun θ hθ => sf_corr_hasDerivAt θ hθ.1.ne' (by have := hθ.2; linarith)
  apply strictAntiOn_of_deriv_neg (convex_Ioo 0 1)
  · exact fun θ hθ => (hd θ hθ).continuousAt.continuousWithinAt
  · intro θ hθ
    rw [interior_Ioo] at hθ
    rw [(hd θ hθ).deriv]
    obtain ⟨h0, h1⟩ := hθ
    have h1' : 0 < 1 - θ := by linarith
    apply div_neg_of_neg_of_pos _ (by positivity)
    -- log (1-θ) > 1 - 1/(1-θ) = -θ/(1-θ)
    have hlog : Real.log (1 - θ)⁻¹ < (1 - θ)⁻¹ - 1 :=
      Real.log_lt_sub_one_of_pos (by positivity) (by
        intro h
        have : (1 - θ) = 1 := by rw [← inv_inv (1 - θ), h, inv_one]
        linarith)
    rw [Real.log_inv] at hlog
    have e : -θ / (1 - θ) = 1 - (1 - θ)⁻¹ := by field_simp; ring
    rw [e]
    linarith

/-! ## D. non-vacuity -/

example : (tail ([1, 2, 4] : List ℚ) [0, 3, 5, 9]).widths = [3 / 2, 3] := by decide +kernel
example : (tail ([1, 2, 4] : List ℚ) [0, 3, 5, 9]).distribution = [3, 1] := by decide +kernel
example : (tail ([1, 2, 4] : List ℚ) [0, 3, 5, 9]).cumulative = [3, 5] := by decide +kernel
example : List.zipWith (· * ·) (tail ([1, 2, 4] : List ℚ) [0, 3, 5, 9]).distribution (diff [1, 2, 4])
    = diff (([0, 3, 5, 9] : List ℚ).take 3) := by decide +kernel
/-- the guard of C8 is needed: with a repeated width the distribution entry is the totalised `x/0 = 0` and the identity fails -/
example : List.zipWith (· * ·) (tail ([1, 1] : List ℚ) [0, 3]).distribution (diff [1, 1])
    ≠ diff (([0, 3] : List ℚ).take 2) := by decide +kernel
example : reportedWidth "slit" (1 / 4 : ℚ) 1 = some (3 / 4) := by decide +kernel
example : reportedWidth "sphere" (1 / 4 : ℚ) 1 = some (7 / 4) := by decide +kernel
example : reportedWidth "cone" (1 / 4 : ℚ) 1 = none := by decide +kernel
example : microWindow ([1 / 10, 3 / 20, 9 / 50, 1 / 2] : List ℚ) (1 / 5) none = some (0, 2) := by decide +kernel

/-- the guards of A3/A4 are satisfiable: d = 0.32, l = 1 -/
example : hk_slit_potential (8 / 25) 1 1 1 1 1 1 < 0 :=
  hk_slit_negative _ _ _ _ _ _ _ (by norm_num) (by norm_num) (by norm_num) (by norm_num)
example : hk_slit_potential (8 / 25) 1 1 1 1 1 1 < hk_slit_potential (8 / 25) 1 1 1 1 1 2 :=
  hk_slit_strictMonoOn (8 / 25) 1 1 1 1 1 (by norm_num) (by norm_num) (by norm_num)
    (by norm_num [Set.mem_Ioi]) (by norm_num [Set.mem_Ioi]) (by norm_num)
example : hk_sf_corr (1 / 2) < 0 := sf_corr_neg _ (by norm_num) (by norm_num)
example : hk_sf_corr (3 / 4) < hk_sf_corr (1 / 2) :=
  sf_corr_strictAntiOn (by norm_num [Set.mem_Ioo]) (by norm_num [Set.mem_Ioo]) (by norm_num)
example : hk_volume_adsorbed 2 28 (4 / 5) = 7 / 100 := by unfold hk_volume_adsorbed; norm_num


/-! ### model dispatch of the entry point (decision logic, stated outright) -/

/-- the Cheng-Yang correction is applied exactly for the two `-CY` model names, the Rege-Yang potentials exactly for the two `RY` names -/
theorem dispatch_spec (m : String) (ry cy : Bool) (h : PgVerif.Model.Micro.dispatch m = some (ry, cy)) :
    (cy = true ↔ (m = "HK-CY" ∨ m = "RY-CY")) ∧ (ry = true ↔ (m = "RY" ∨ m = "RY-CY")) := by
  unfold PgVerif.Model.Micro.dispatch at h
  split_ifs at h with h1 h2 h3 h4 <;> simp_all

theorem dispatch_none_iff (m : String) :
    PgVerif.Model.Micro.dispatch m = none ↔ (m ≠ "HK" ∧ m ≠ "HK-CY" ∧ m ≠ "RY" ∧ m ≠ "RY-CY") := by
  unfold PgVerif.Model.Micro.dispatch
  split_ifs with h1 h2 h3 h4 <;> simp_all

end PgVerif.Props.C17
