/-
C15 — where the two recorded findings S45-C15a / S46-C15b sit relative to the theorems of `Props/C15.lean`.

The covariance theorems about fitted quantities carry the hypothesis that the routine returns the MINIMISER of its least-squares
objective (`henry_constant_units_lsq`: hypothesis `hmin`).  The code hands the objective to an iterative optimiser that stops on an
ABSOLUTE tolerance (scipy `least_squares`: ‖Jᵀ r‖∞ < gtol = 1e-8;  SLSQP in `psd_dft_kernel_fit`: |f − f_prev| < ftol = 1e-4, start vector 0).
Objective and gradient carry the units of the data, so whether the test fires depends on the unit.  This file states

* what IS covariant: the gradient of the Henry objective changes by the unit factors (`henryGrad_units`); a stopping test that compares it
  with a quantity of the same dimension is unit-free (`henry_relative_stop_units`); the sum of squares of a kernel fit is homogeneous of
  degree two (`fitSSE_scale`), hence a fit that returns the minimiser over a cone (non-negative combinations of kernel isotherms) is
  homogeneous in the loading (`kernel_fit_homogeneous_lsq`: the full statement the property wants, under the explicit hypothesis `hmin`);
* that the hypothesis "returns the minimiser" cannot be replaced by "returns a point accepted by the absolute test":
  `henry_abs_stop_small_units` (for ANY data and ANY starting guess there is a loading unit from which on the covariant starting guess
  itself is accepted), `henry_abs_stop_witness` (concrete data: accepted guess = 2 × the covariant constant, the shape of S45-C15a:
  Takeda 5A in kmol/g returns 18.5 × the converted constant), `kernel_abs_ftol_small_scale` / `kernel_abs_ftol_witness` (for any isotherm
  there is a scale below which the whole objective at the start vector 0 is under the tolerance: no step can change it by `ftol`, the fit
  returns whatever its first step gives — S46-C15b, S38 of C18).
-/
import PgVerif.Props.C15
import Mathlib.Tactic

namespace PgVerif.Props.C15
open PgVerif.Gen.R PgVerif.Model.Linear
open PgVerif.Props.C14 (sum_nil sum_cons)

/-! ## S45-C15a: the Henry fit and an absolute gradient tolerance -/
section HenryStop

/-- the gradient `Jᵀ r = Σ pᵢ (K pᵢ − nᵢ)` of the cost `½ Σ (K pᵢ − nᵢ)²` that `least_squares` compares with `gtol` -/
noncomputable def henryGrad (K : ℝ) (ps ns : List ℝ) : ℝ :=
  sum (List.zipWith (fun p n => p * (Henry_loading K p - n)) ps ns)

/-- `Σ pᵢ nᵢ`: a quantity of the same dimension as the gradient -/
noncomputable def henryCross (ps ns : List ℝ) : ℝ :=
  sum (List.zipWith (fun p n => p * n) ps ns)

/-- the stopping test of the optimiser: the current point is returned when the gradient is below an absolute tolerance -/
def AbsStop (gtol K : ℝ) (ps ns : List ℝ) : Prop := |henryGrad K ps ns| < gtol

theorem henryGrad_units (K a b : ℝ) (ha : a ≠ 0) (ps ns : List ℝ) :
    henryGrad (b * K / a) (ps.map fun p => a * p) (ns.map fun n => b * n) = a * b * henryGrad K ps ns := by
  unfold henryGrad
  rw [List.zipWith_map]
  exact sum_zipWith_of_mul (fun p n => by rw [henry_constant_units K a b p ha, ← mul_sub]; ring) ps ns

lemma henryCross_units (a b : ℝ) (ps ns : List ℝ) :
    henryCross (ps.map fun p => a * p) (ns.map fun n => b * n) = a * b * henryCross ps ns := by
  unfold henryCross
  rw [List.zipWith_map]
  exact sum_zipWith_of_mul (fun p n => by ring) ps ns

/-- **S45b.** a stopping test that compares the gradient with a quantity of its own dimension (here `tol · |Σ p n|`) accepts the
covariant point in the new units exactly when it accepts the point in the old units (`a ≠ 0`, `b ≠ 0`): with such a test the unit
could not decide where the fit stops. -/
theorem henry_relative_stop_units (tol K a b : ℝ) (ha : a ≠ 0) (hb : b ≠ 0) (ps ns : List ℝ) :
    |henryGrad (b * K / a) (ps.map fun p => a * p) (ns.map fun n => b * n)|
        < tol * |henryCross (ps.map fun p => a * p) (ns.map fun n => b * n)|
      ↔ |henryGrad K ps ns| < tol * |henryCross ps ns| := by
  rw [henryGrad_units K a b ha, henryCross_units, abs_mul, abs_mul (a * b)]
  have hab : 0 < |a * b| := abs_pos.mpr (mul_ne_zero ha hb)
  rw [show tol * (|a * b| * |henryCross ps ns|) = |a * b| * (tol * |henryCross ps ns|) by ring]
  exact mul_lt_mul_iff_right₀ hab

lemma mul_lt_of_le_div_succ {b g x : ℝ} (hg : 0 < g) (hx : 0 ≤ x) (hb : b ≤ g / (x + 1)) : b * x < g :=
  have hx1 : 0 < x + 1 := add_pos_of_nonneg_of_pos hx one_pos
  calc b * x ≤ g / (x + 1) * x := mul_le_mul_of_nonneg_right hb hx
    _ < g / (x + 1) * (x + 1) := mul_lt_mul_of_pos_left (lt_add_one x) (div_pos hg hx1)
    _ = g := div_mul_cancel₀ g hx1.ne'

/-- **S45c.** the absolute test is NOT unit-free: for any data, any tolerance and ANY point `K₀` (in the code: the starting guess, which is
itself covariant) there is a loading unit `b₀` such that in every smaller unit (`n ↦ b n`, `0 < b ≤ b₀`: larger unit of amount, smaller
numbers) the covariant image `b K₀` of that point is accepted at once — minimiser or not. -/
theorem henry_abs_stop_small_units (gtol K₀ : ℝ) (hg : 0 < gtol) (ps ns : List ℝ) :
    ∃ b₀, 0 < b₀ ∧ ∀ b, 0 < b → b ≤ b₀ → AbsStop gtol (b * K₀) ps (ns.map fun n => b * n) := by
  refine ⟨gtol / (|henryGrad K₀ ps ns| + 1), by positivity, fun b hb hle => ?_⟩
  have h := henryGrad_units K₀ 1 b one_ne_zero ps ns
  simp only [one_mul, div_one, List.map_id'] at h
  unfold AbsStop
  rw [h, abs_mul, abs_of_pos hb]
  exact mul_lt_of_le_div_succ hg (abs_nonneg _) hle

/-- **S45d (witness: the hypothesis `hmin` of `henry_constant_units_lsq` is needed).**  One point `(p, n) = (1, 1)`, guess `K₀ = 2`,
`gtol = 1e-8`: in the original unit the guess is not accepted and the minimiser is `K = 1`; with the loading in a unit `1e9` times larger
the covariant guess `2e-9` is accepted although the minimiser of the converted problem is the covariant `1e-9`: the constant returned
there is twice the converted constant. -/
theorem henry_abs_stop_witness :
    ∃ (ps ns : List ℝ) (K₀ Kmin b gtol : ℝ), 0 < b ∧ 0 < gtol
      ∧ (∀ K', henrySSE Kmin ps ns ≤ henrySSE K' ps ns)
      ∧ (∀ K', henrySSE (b * Kmin) ps (ns.map fun n => b * n) ≤ henrySSE K' ps (ns.map fun n => b * n))
      ∧ ¬ AbsStop gtol K₀ ps ns
      ∧ AbsStop gtol (b * K₀) ps (ns.map fun n => b * n)
      ∧ b * K₀ = 2 * (b * Kmin) := by
  -- one point `(1, c)`: the constant `c` fits exactly (no literal is evaluated)
  have hz : ∀ c : ℝ, henrySSE c [1] [c] = 0 := fun c => by
    simp only [henrySSE, Henry_loading, List.zipWith_cons_cons, List.zipWith_nil_right, sum_cons, sum_nil, mul_one, sub_self,
      zero_pow two_ne_zero, add_zero]
  refine ⟨[1], [1], 2, 1, 1e-9, 1e-8, by norm_num, by norm_num, henrySSE_min_of_eq_zero (hz 1),
    henrySSE_min_of_eq_zero (hz (1e-9 * 1)), ?_, ?_, by norm_num⟩
  · simp only [AbsStop, henryGrad, Henry_loading, List.zipWith_cons_cons, List.zipWith_nil_right, sum_cons, sum_nil]
    norm_num
  · simp only [AbsStop, henryGrad, Henry_loading, List.map_cons, List.map_nil, List.zipWith_cons_cons, List.zipWith_nil_right, sum_cons, sum_nil]
    norm_num [abs_lt]

end HenryStop

/-! ## S46-C15b: the kernel fit and an absolute tolerance on the objective -/
section KernelFit

/-- `Σ (fitᵢ − nᵢ)²`: the objective of `psd_dft_kernel_fit`, as a function of the fitted isotherm -/
noncomputable def fitSSE (fit ns : List ℝ) : ℝ :=
  sum (List.zipWith (fun f n => (f - n) ^ 2) fit ns)

lemma fitSSE_nonneg (fit ns : List ℝ) : 0 ≤ fitSSE fit ns :=
  sum_zipWith_nonneg (fun _ _ => sq_nonneg _) fit ns

theorem fitSSE_scale (k : ℝ) (fit ns : List ℝ) :
    fitSSE (fit.map fun f => k * f) (ns.map fun n => k * n) = k ^ 2 * fitSSE fit ns := by
  unfold fitSSE
  rw [List.zipWith_map]
  exact sum_zipWith_of_mul (fun f n => by ring) fit ns

/-- **S46b (the statement the property asks for, under the explicit hypothesis that the fit returns the minimiser).**  `S` is the set of
isotherms the fit can produce (non-negative combinations of the kernel isotherms: closed under multiplication by `k` and `k⁻¹`).  If `fit`
is a best approximation of the loadings `ns` in `S`, then `k · fit` is a best approximation of `k · ns`: multiplying all loadings by `k`
multiplies the fitted isotherm (and with it the distribution, which is linear in it) by `k`. -/
theorem kernel_fit_homogeneous_lsq (S : Set (List ℝ)) (k : ℝ) (hk : k ≠ 0)
    (hS : ∀ c : ℝ, ∀ g ∈ S, (g.map fun f => c * f) ∈ S) (fit ns : List ℝ) (hfit : fit ∈ S)
    (hmin : ∀ g ∈ S, fitSSE fit ns ≤ fitSSE g ns) :
    (fit.map fun f => k * f) ∈ S ∧ ∀ g ∈ S, fitSSE (fit.map fun f => k * f) (ns.map fun n => k * n) ≤ fitSSE g (ns.map fun n => k * n) := by
  refine ⟨hS k fit hfit, fun g hg => ?_⟩
  have hg' := hS k⁻¹ g hg
  have e : fitSSE g (ns.map fun n => k * n) = k ^ 2 * fitSSE (g.map fun f => k⁻¹ * f) ns := by
    rw [← fitSSE_scale]
    simp only [List.map_map, Function.comp_def, mul_inv_cancel_left₀ hk, List.map_id']
  rw [e, fitSSE_scale]
  exact mul_le_mul_of_nonneg_left (hmin _ hg') (sq_nonneg k)

/-- **S46c.** an ABSOLUTE tolerance on the decrease of the objective is not scale-free: for any isotherm and any `ftol > 0` there is a
scale `k₀` such that for all loadings `k · ns`, `0 < k ≤ k₀`, the whole objective at the start vector is below `ftol` — whatever the
first step `g` of the optimiser is, the objective changes by less than `ftol` and the stopping test `|f − f_prev| < ftol` holds. -/
theorem kernel_abs_ftol_small_scale (ftol : ℝ) (hf : 0 < ftol) (ns : List ℝ) :
    ∃ k₀, 0 < k₀ ∧ ∀ k, 0 < k → k ≤ k₀ → ∀ g : List ℝ,
      |fitSSE (ns.map fun _ => (0 : ℝ)) (ns.map fun n => k * n) - fitSSE g (ns.map fun n => k * n)| < ftol
        ∨ fitSSE (ns.map fun _ => (0 : ℝ)) (ns.map fun n => k * n) < fitSSE g (ns.map fun n => k * n) := by
  set F := fitSSE (ns.map fun _ => (0 : ℝ)) ns with hF
  have hF0 : 0 ≤ F := fitSSE_nonneg _ _
  refine ⟨min 1 (ftol / (F + 1)), lt_min one_pos (div_pos hf (add_pos_of_nonneg_of_pos hF0 one_pos)),
    fun k hk hle g => ?_⟩
  have hk1 : k ≤ 1 := hle.trans (min_le_left _ _)
  have hk2 : k ≤ ftol / (F + 1) := hle.trans (min_le_right _ _)
  have hsmall : k ^ 2 * F < ftol :=
    (mul_le_mul_of_nonneg_right ((sq k).trans_le (mul_le_of_le_one_left hk.le hk1)) hF0).trans_lt
      (mul_lt_of_le_div_succ hf hF0 hk2)
  -- the objective at the start vector 0 is `k² F`
  have h0 := fitSSE_scale k (ns.map fun _ => (0 : ℝ)) ns
  simp only [List.map_map, Function.comp_def, mul_zero] at h0
  rw [h0, ← hF]
  rcases lt_or_ge (k ^ 2 * F) (fitSSE g (ns.map fun n => k * n)) with hlt | hge
  · exact Or.inr hlt
  · left
    rw [abs_of_nonneg (sub_nonneg.2 hge)]
    exact (sub_le_self _ (fitSSE_nonneg g _)).trans_lt hsmall

/-- **S46d (witness).**  loadings `[1, 2]`, `ftol = 1e-4` (the literal of `psd_dft_kernel_fit`): at scale 1 the objective at the start
vector is 5 — the optimiser has to work; at scale `1e-3` it is `5e-6 < ftol`: the start vector already passes the test although it is
not a best approximation as soon as the kernel contains the isotherm `[1, 2]` itself (exact fit, objective 0). -/
theorem kernel_abs_ftol_witness :
    ∃ (ns : List ℝ) (k ftol : ℝ), 0 < k ∧ 0 < ftol
      ∧ ftol ≤ fitSSE (ns.map fun _ => (0 : ℝ)) ns
      ∧ fitSSE (ns.map fun _ => (0 : ℝ)) (ns.map fun n => k * n) < ftol
      ∧ fitSSE (ns.map fun n => k * n) (ns.map fun n => k * n) = 0
      ∧ 0 < fitSSE (ns.map fun _ => (0 : ℝ)) (ns.map fun n => k * n) := by
  refine ⟨[1, 2], 1e-3, 1e-4, by norm_num, by norm_num, ?_, ?_, ?_, ?_⟩ <;>
    simp only [fitSSE, List.map_cons, List.map_nil, List.zipWith_cons_cons, List.zipWith_nil_right, sum_cons, sum_nil] <;> norm_num

end KernelFit

/-! ## non-vacuity -/
section NonVacuityOptimiser

/-- `henry_relative_stop_units` at concrete numbers: the gradient at `K = 2` on `(1, 1)` is 1, the cross term 1; kmol → mmol and bar → kPa -/
example : |henryGrad (1e6 * 2 / 100) ([1].map fun p => 100 * p) ([1].map fun n => 1e6 * n)|
      < 2 * |henryCross ([1].map fun p => (100 : ℝ) * p) ([1].map fun n => (1e6 : ℝ) * n)| :=
  (henry_relative_stop_units 2 2 100 1e6 (by norm_num) (by norm_num) [1] [1]).mpr (by
    simp only [henryGrad, henryCross, Henry_loading, List.zipWith_cons_cons, List.zipWith_nil_right, sum_cons, sum_nil]
    norm_num)

/-- `kernel_fit_homogeneous_lsq`: a cone with a best approximation — all multiples of the isotherm `[1, 2]`, data `[1, 2]` -/
example : ∃ (S : Set (List ℝ)) (fit ns : List ℝ), (∀ c : ℝ, ∀ g ∈ S, (g.map fun f => c * f) ∈ S) ∧ fit ∈ S
    ∧ ∀ g ∈ S, fitSSE fit ns ≤ fitSSE g ns := by
  refine ⟨{g | ∃ c : ℝ, g = [c * 1, c * 2]}, [1, 2], [1, 2], ?_, ⟨1, by norm_num⟩, ?_⟩
  · rintro c g ⟨d, rfl⟩
    exact ⟨c * d, by simp [mul_assoc]⟩
  · rintro g ⟨d, rfl⟩
    exact (show fitSSE [1, 2] [1, 2] = 0 by norm_num [fitSSE, sum]).trans_le (fitSSE_nonneg _ _)

end NonVacuityOptimiser

end PgVerif.Props.C15
