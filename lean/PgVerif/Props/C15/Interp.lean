/-
C15 (continued) — the INTERPOLATING accessors `loading_at` / `pressure_at` of a point isotherm do not depend on the
representation the isotherm is stored in, whatever history of conversions (from whatever original representation) led
to it.  They are what `alpha_s` reads from its reference isotherm and what `isosteric_enthalpy` reads from every member
of its set; `Props/C15.lean` part A covers the column accessors only.

Models: `Model/Access.lean` (`inputPressure`, `inputLoading`, `outputPressurePoint`, `accessLoadingStored`),
`Model/SpreadPoint.lean` (`interpLin` = scipy `interp1d(kind='linear')` without fill), `Model/IsoState.lean` (`run`).
The correspondence of these with the code on the complete (stored representation × requested representation) pressure table
is checked on every run by `harness/props/c15.py` (driver `Access`: aP / iP / oPP) and by C03's own check.

How the parts hang together, in the order of the file.  Linear interpolation commutes with a change of unit of the abscissa by
a POSITIVE factor and of the ordinate by any factor (a negative factor reverses the knots: witness at the end); the
Pa-per-unit and mol-per-unit factors are positive for a positive saturation pressure and positive adsorbate constants.
`loadingAt` / `pressureAt` are three-stage compositions (input conversion, interpolation of the stored knots, output
conversion); on a valid typed state each is a function of the canonical columns, which is what `reads_after_history` of
`Props/C15.lean` asks for.  Hence the two history theorems (any history, any valid original representation: same refusal,
same "outside the range", same number) and the reads of `isosteric_enthalpy` (a set of isotherms in mixed representations)
and `alpha_s`.  Restrictions, explicit as in part A: fully specified arguments (an omitted mode or unit defaults to the STORED
one and then means something else after a conversion — finding S15a of `alpha_s`), material labels unchanged by the history
(results are per stored unit of material), no material argument.
NOT modelled: the cached interpolator objects (C04), non-linear interpolation kinds, export / re-import.
-/
import PgVerif.Props.C15
import PgVerif.Lemmas.InterpLin

namespace PgVerif.Props.C15
open PgVerif.Model

section InterpScale
variable {α : Type} [Field α] [LinearOrder α] [IsStrictOrderedRing α]

theorem interpLin_scale (k c : α) (hk : 0 < k) (xs ys : List α) (x : α) :
    interpLin (xs.map fun v => k * v) (ys.map fun v => c * v) (k * x) = (interpLin xs ys x).map fun v => c * v :=
  Model.interpLin_scale k c hk xs ys x

/-- the same law in the shape the conversions produce (`v * factor`) -/
theorem interpLin_scale_right (k c : α) (hk : 0 < k) (xs ys : List α) (x : α) :
    interpLin (xs.map (· * k)) (ys.map (· * c)) (x * k) = (interpLin xs ys x).map (· * c) := by
  simpa only [mul_comm k, mul_comm c] using interpLin_scale k c hk xs ys x

/-- … with the query given in the new unit of the abscissa -/
lemma interpLin_canon (k c : α) (hk : 0 < k) (xs ys : List α) (q : α) :
    interpLin (xs.map (· * k)) (ys.map (· * c)) q = (interpLin xs ys (q / k)).map (· * c) := by
  rw [← interpLin_scale_right k c hk, div_mul_cancel₀ _ hk.ne']

end InterpScale

section Positivity
open PgVerif.Units PgVerif.Gen
open PgVerif.Spec (LB MB Ads Mat PRep LRep MRep gL gM physScale)
open PgVerif.C02 (Rep spOf slOf gmOf)
variable {α : Type} [Field α] [LinearOrder α] [IsStrictOrderedRing α]

/-- a table entry is a quotient of two naturals -/
lemma facOf_nonneg {t : List (String × Nat × Nat)} {s : String} {f : α} (h : (facOf t s : Option α) = some f) :
    0 ≤ f := by
  obtain ⟨e, _, rfl⟩ := Option.map_eq_some_iff.1 h
  exact div_nonneg (Nat.cast_nonneg _) (Nat.cast_nonneg _)

lemma PRep.scale_pos (ps : α) (hps : 0 < ps) (a : PRep) (sa : α)
    (ha : a.scale Gen.pressureUnits ps = some sa) : 0 < sa := by
  cases a with
  | abs u => exact (facOf_nonneg (scale_abs ha).2).lt_of_ne' (facOf_ne_zero _ pressure_ok _ _ (scale_abs ha).2)
  | rel u => exact Option.some.inj ha ▸ hps
  | relp u => exact Option.some.inj ha ▸ div_pos hps (by norm_num)

/-- strictly positive adsorbate constants (molar mass, molar densities of the liquid and the gas) -/
def AdsStrictPos (a : Ads α) : Prop := 0 < a.M ∧ 0 < a.rhoLbar ∧ 0 < a.rhoGbar

lemma physScale_pos {a : Ads α} (hp : AdsStrictPos a) {b : LB} {u : String} {s : α}
    (h : physScale Gen.unitTable a b u = some s) : 0 < s := by
  obtain ⟨_, f, hf, rfl, hf0⟩ := physScale_inv h
  have hg : 0 < gL a b := by
    cases b
    exacts [one_div_pos.mpr hp.1, hp.2.2, hp.2.1, one_pos]
  exact mul_pos ((facOf_nonneg hf).lt_of_ne' hf0) hg

lemma LRep.scale_pos {a : Ads α} (hp : AdsStrictPos a) (m : MRep) (r : LRep) (s : α)
    (h : r.scale Gen.unitTable a m = some s) : 0 < s := by
  cases r with
  | phys b u => exact physScale_pos hp h
  | frac => exact physScale_pos hp h
  | pct =>
    simp only [Spec.LRep.scale, Option.map_eq_some_iff] at h
    obtain ⟨s', h, rfl⟩ := h
    exact div_pos (physScale_pos hp h) (by norm_num)

end Positivity

/-! ## the interpolating accessors `loading_at` / `pressure_at` of a point isotherm -/
section At
open PgVerif.Model PgVerif.Units
open PgVerif.Spec (LB MB Ads Mat PRep LRep MRep TRep physScale)
open PgVerif.C02 (Rep labelsOf pLabel canonP canonL spOf slOf gmOf Conserved)
variable {α : Type} [Field α] [LinearOrder α] [IsStrictOrderedRing α]

/-- `PointIsotherm.loading_at(p, pressure_mode, pressure_unit, loading_basis, loading_unit, material_basis, material_unit)`:
the given pressure is converted to the stored representation, the stored (pressure, loading) knots are interpolated
linearly (`none` = outside the measured range, where scipy raises), the result is converted to the requested loading
representation (with the STORED material passed on, `accessLoadingStored`).  A refused conversion propagates. -/
def loadingAt (c : Ctx α) (s : Iso α) (p : α) (pm pu lb lu mb mu : Option String) : Except Err (Option α) :=
  match inputPressure c s.lab p pm pu with
  | .error e => .error e
  | .ok x =>
    match interpLin s.ps s.ls x with
    | none => .ok none
    | some y => (accessLoadingStored c s.lab y lb lu mb mu).map some

/-- `PointIsotherm.pressure_at(n, pressure_mode, pressure_unit, loading_basis, loading_unit, material_basis, material_unit)`:
the given loading is converted to the stored representation, the stored (loading, pressure) knots are interpolated, the
result is converted to the requested pressure representation. -/
def pressureAt (c : Ctx α) (s : Iso α) (n : α) (pm pu lb lu mb mu : Option String) : Except Err (Option α) :=
  match inputLoading false c s.lab n lb lu mb mu with
  | .error e => .error e
  | .ok x =>
    match interpLin s.ls s.ps x with
    | none => .ok none
    | some y => (outputPressurePoint c s.lab y pm pu).map some

section Typed
/- a state `s` whose labels name a valid representation `r`; a fully specified pressure representation `pt` and a physical
loading representation `(b, u)` for the arguments and results -/
variable (ps : α) (hps : ps ≠ 0) (a : Ads α) (mat : Mat α) (hc : a.Consistent) (hp : a.Pos)
    (hmp : Mat.Pos mat) (s : Iso α) (r : Rep) (hs : s.lab = labelsOf r) (hr : C02.Rep.Valid ps a mat r)
    (pt : PRep) (sb : α) (hb : pt.scale Gen.pressureUnits ps = some sb)
    (b : LB) (u : String) (s2 : α) (h2 : physScale Gen.unitTable a b u = some s2)
include hps hc hp hmp hs hr hb h2

/-- `loading_at` on a valid typed state: the stored knots interpolated at `p` expressed in the stored pressure unit,
times mol-per-stored-unit over mol-per-target-unit -/
lemma loadingAt_typed (p : α) :
    loadingAt (ctxOf ps a mat) s p (some pt.mode) pt.unit (some b.name) (some u) none none
      = .ok ((interpLin s.ps s.ls (p * sb / spOf ps r.p)).map (· * slOf a r.l r.m / s2)) := by
  obtain ⟨⟨hsp, _⟩, ⟨hsl, _⟩, _⟩ := hr.scales hps hp hmp
  have tn : truthy (none : Option String) = false := rfl
  unfold loadingAt
  rw [hs, inputPressure_typed ps hps _ r _ hsp pt sb hb p]
  simp only []
  cases interpLin s.ps s.ls (p * sb / spOf ps r.p) with
  | none => rfl
  | some y =>
    simp only [Option.map_some]
    rw [C03.accessLoadingStored_eq_target _ _ _ _ _ _ _ tn tn,
      accessLoading_routine_typed a mat hc hp _ _ r _ hsl b u s2 h2 y]
    rfl

lemma pressureAt_typed (n : α) :
    pressureAt (ctxOf ps a mat) s n (some pt.mode) pt.unit (some b.name) (some u) none none
      = .ok ((interpLin s.ls s.ps (n * s2 / slOf a r.l r.m)).map (· * spOf ps r.p / sb)) := by
  obtain ⟨⟨hsp, _⟩, ⟨hsl, _⟩, _⟩ := hr.scales hps hp hmp
  unfold pressureAt
  rw [hs, inputLoading_routine_typed a mat hc hp _ _ r _ hsl b u s2 h2 n]
  simp only []
  cases interpLin s.ls s.ps (n * s2 / slOf a r.l r.m) with
  | none => rfl
  | some y =>
    simp only [Option.map_some]
    rw [outputPressurePoint_typed ps hps _ r _ hsp pt sb hb y]
    rfl

/-- `loading_at` as a function of the canonical columns: knots and query `p · sb` in Pa, values in mol / g, times the
grams per stored material unit.  The Pa-per-unit factor must be positive: it rescales the knots. -/
lemma loadingAt_canon (hpos : 0 < spOf ps r.p) (p : α) :
    loadingAt (ctxOf ps a mat) s p (some pt.mode) pt.unit (some b.name) (some u) none none
      = .ok ((interpLin (s.ps.map (canonP ps r)) (s.ls.map (canonL a mat r)) (p * sb)).map
          (· * gmOf mat r.m / s2)) := by
  have hP : canonP ps r = (· * spOf ps r.p) := rfl
  have hL : canonL a mat r = (· * (slOf a r.l r.m / gmOf mat r.m)) := funext fun v => mul_div_assoc _ _ _
  rw [loadingAt_typed ps hps a mat hc hp hmp s r hs hr pt sb hb b u s2 h2 p, hP, hL, interpLin_canon _ _ hpos,
    Option.map_map]
  refine congrArg (fun f => Except.ok (Option.map f _)) (funext fun y => ?_)
  show y * _ / s2 = y * _ * _ / s2
  rw [mul_assoc y, div_mul_cancel₀ _ (hr.scales hps hp hmp).2.2.2]

/-- `pressure_at` as a function of the canonical columns: the loading knots in mol per stored material unit (mol / g
times the grams per unit), query `n · s2` in mol, values in Pa.  The mol-per-unit factor must be positive. -/
lemma pressureAt_canon (hpos : 0 < slOf a r.l r.m) (n : α) :
    pressureAt (ctxOf ps a mat) s n (some pt.mode) pt.unit (some b.name) (some u) none none
      = .ok ((interpLin ((s.ls.map (canonL a mat r)).map (· * gmOf mat r.m)) (s.ps.map (canonP ps r)) (n * s2)).map
          (· / sb)) := by
  have hP : canonP ps r = (· * spOf ps r.p) := rfl
  have hL : (s.ls.map (canonL a mat r)).map (· * gmOf mat r.m) = s.ls.map (· * slOf a r.l r.m) := by
    rw [List.map_map]
    exact List.map_congr_left fun v _ => div_mul_cancel₀ _ (hr.scales hps hp hmp).2.2.2
  rw [pressureAt_typed ps hps a mat hc hp hmp s r hs hr pt sb hb b u s2 h2 n, hP, hL, interpLin_canon _ _ hpos,
    Option.map_map]
  rfl

end Typed

/-- **A3 (`loading_at`).**  Hypotheses of `access_after_history_loading` with a POSITIVE saturation pressure (the knots
of the interpolation are the stored pressures: a change of pressure representation must keep their order, which it
does because every Pa-per-unit factor is positive, `PRep.scale_pos`).  The pressure argument is given in a fully
specified representation `pt` (mode given, unit given when absolute), the loading is requested in a physical
`(b, u)` without a material argument — the call `alpha_s` makes on the reference isotherm with
`pressure_mode='relative'`.  For ANY history of conversion calls that leaves the material labels alone,
`loading_at` of the converted isotherm returns what `loading_at` of the original returns: the same refusal, the same
"outside the measured range", or the same number — which is the original knots interpolated at `p` expressed in the
ORIGINAL stored pressure unit, times mol-per-original-unit over mol-per-target-unit. -/
theorem loading_at_after_history (ps : α) (hps : 0 < ps) (a : Ads α) (mat : Mat α) (hc : a.Consistent)
    (hp : a.Pos) (hmp : Mat.Pos mat) (s0 : Iso α) (r0 : Rep) (hs : s0.lab = labelsOf r0)
    (hr : C02.Rep.Valid ps a mat r0) (ops : List Op)
    (hmb : (run (ctxOf ps a mat) s0 ops).lab.mbasis = s0.lab.mbasis)
    (hmu : (run (ctxOf ps a mat) s0 ops).lab.munit = s0.lab.munit)
    (pt : PRep) (sb : α) (hb : pt.scale Gen.pressureUnits ps = some sb)
    (b : LB) (u : String) (s2 : α) (h2 : physScale Gen.unitTable a b u = some s2) (p : α) :
    loadingAt (ctxOf ps a mat) (run (ctxOf ps a mat) s0 ops) p (some pt.mode) pt.unit (some b.name) (some u) none none
      = loadingAt (ctxOf ps a mat) s0 p (some pt.mode) pt.unit (some b.name) (some u) none none ∧
    loadingAt (ctxOf ps a mat) s0 p (some pt.mode) pt.unit (some b.name) (some u) none none
      = .ok ((interpLin s0.ps s0.ls (p * sb / spOf ps r0.p)).map (· * slOf a r0.l r0.m / s2)) := by
  have hps' : ps ≠ 0 := hps.ne'
  obtain ⟨rf, _, hlab, h1, h0⟩ := reads_after_history ps hps' a mat hc hp hmp s0 r0 hs hr ops _ (fun _ => True)
    (fun ps' ls' m => Except.ok ((interpLin ps' ls' (p * sb)).map (· * gmOf mat m / s2)))
    (fun s r hs hr _ => loadingAt_canon ps hps' a mat hc hp hmp s r hs hr pt sb hb b u s2 h2
      (PRep.scale_pos ps hps _ _ (hr.scales hps' hp hmp).1.1) p)
    trivial trivial
  refine ⟨?_, loadingAt_typed ps hps' a mat hc hp hmp s0 r0 hs hr pt sb hb b u s2 h2 p⟩
  rw [h1, h0, rep_m_eq hs hlab hmb hmu]

/-- **A3 (`pressure_at`).**  As `loading_at_after_history`, for the call the isosteric enthalpy makes on every isotherm of
a set: the loading is GIVEN in a physical representation `(b, u)` (basis and unit given, no material argument), the
pressure is requested in a fully specified representation `pt` (e.g. absolute / Pa).  The knots of the interpolation
are now the stored LOADINGS, so the mol-per-unit factors must be positive: `AdsStrictPos a` (positive molar mass and
molar densities) on top of the non-zero conditions of C02.  For ANY history that leaves the material labels alone the
converted isotherm returns what the original returns — the original knots interpolated at `n` expressed in the ORIGINAL
stored loading unit, times Pa-per-original-unit over Pa-per-target-unit. -/
theorem pressure_at_after_history (ps : α) (hps : ps ≠ 0) (a : Ads α) (mat : Mat α) (hc : a.Consistent)
    (hp : a.Pos) (hpp : AdsStrictPos a) (hmp : Mat.Pos mat) (s0 : Iso α) (r0 : Rep) (hs : s0.lab = labelsOf r0)
    (hr : C02.Rep.Valid ps a mat r0) (ops : List Op)
    (hmb : (run (ctxOf ps a mat) s0 ops).lab.mbasis = s0.lab.mbasis)
    (hmu : (run (ctxOf ps a mat) s0 ops).lab.munit = s0.lab.munit)
    (pt : PRep) (sb : α) (hb : pt.scale Gen.pressureUnits ps = some sb)
    (b : LB) (u : String) (s2 : α) (h2 : physScale Gen.unitTable a b u = some s2) (n : α) :
    pressureAt (ctxOf ps a mat) (run (ctxOf ps a mat) s0 ops) n (some pt.mode) pt.unit (some b.name) (some u) none none
      = pressureAt (ctxOf ps a mat) s0 n (some pt.mode) pt.unit (some b.name) (some u) none none ∧
    pressureAt (ctxOf ps a mat) s0 n (some pt.mode) pt.unit (some b.name) (some u) none none
      = .ok ((interpLin s0.ls s0.ps (n * s2 / slOf a r0.l r0.m)).map (· * spOf ps r0.p / sb)) := by
  obtain ⟨rf, _, hlab, h1, h0⟩ := reads_after_history ps hps a mat hc hp hmp s0 r0 hs hr ops _ (fun _ => True)
    (fun ps' ls' m => Except.ok ((interpLin (ls'.map (· * gmOf mat m)) ps' (n * s2)).map (· / sb)))
    (fun s r hs hr _ => pressureAt_canon ps hps a mat hc hp hmp s r hs hr pt sb hb b u s2 h2
      (LRep.scale_pos hpp _ _ _ (hr.scales hps hp hmp).2.1.1) n)
    trivial trivial
  refine ⟨?_, pressureAt_typed ps hps a mat hc hp hmp s0 r0 hs hr pt sb hb b u s2 h2 n⟩
  rw [h1, h0, rep_m_eq hs hlab hmb hmu]

/-! ### routines that read through the interpolating accessors -/

/-- one isotherm of a set together with the history of conversion calls it went through -/
structure Hist (α : Type) where
  ps : α
  a : Ads α
  mat : Mat α
  s0 : Iso α
  r0 : Rep
  ops : List Op

/-- the hypotheses of `pressure_at_after_history` / `loading_at_after_history` for one member of a set -/
def Hist.Ok (h : Hist α) : Prop :=
  0 < h.ps ∧ h.a.Consistent ∧ h.a.Pos ∧ AdsStrictPos h.a ∧ Mat.Pos h.mat ∧ h.s0.lab = labelsOf h.r0 ∧
  C02.Rep.Valid h.ps h.a h.mat h.r0 ∧
  (run (ctxOf h.ps h.a h.mat) h.s0 h.ops).lab.mbasis = h.s0.lab.mbasis ∧
  (run (ctxOf h.ps h.a h.mat) h.s0 h.ops).lab.munit = h.s0.lab.munit

def Hist.final (h : Hist α) : Iso α := run (ctxOf h.ps h.a h.mat) h.s0 h.ops

/-- **A4 (isosteric enthalpy).**  A SET of isotherms, each with its own adsorbate / material constants, saturation
pressure, original representation and history of conversions (a *mixed* set: every member may end up in another
pressure mode / unit and loading unit).  What `isosteric_enthalpy` reads — `pressure_at(n, pressure_mode, pressure_unit,
loading_basis, loading_unit)` of every member at every loading point `n ∈ ns`, with a fully specified pressure target
`pt` (the code asks for absolute / Pa) and the loading given in a physical `(b, u)` — is the same table before and
after; hence so is any function `f` of it (the regression of `ln p` on `1/T`, the enthalpy). -/
theorem isosteric_reads_invariant {β : Type} (f : List (List (Except Err (Option α))) → β) (hs : List (Hist α))
    (hok : ∀ h ∈ hs, h.Ok) (pt : PRep) (hpt : ∀ h ∈ hs, (pt.scale Gen.pressureUnits h.ps).isSome)
    (b : LB) (u : String) (hbu : ∀ h ∈ hs, (physScale Gen.unitTable h.a b u).isSome) (ns : List α) :
    f (hs.map fun h => ns.map fun n =>
        pressureAt (ctxOf h.ps h.a h.mat) h.final n (some pt.mode) pt.unit (some b.name) (some u) none none)
    = f (hs.map fun h => ns.map fun n =>
        pressureAt (ctxOf h.ps h.a h.mat) h.s0 n (some pt.mode) pt.unit (some b.name) (some u) none none) := by
  refine congrArg f (List.map_congr_left fun h hh => List.map_congr_left fun n _ => ?_)
  obtain ⟨hps, hc, hp, hpp, hmp, hs0, hr, hmb, hmu⟩ := hok h hh
  obtain ⟨sb, hsb⟩ := Option.isSome_iff_exists.1 (hpt h hh)
  obtain ⟨s2, hs2⟩ := Option.isSome_iff_exists.1 (hbu h hh)
  exact (pressure_at_after_history h.ps hps.ne' h.a h.mat hc hp hpp hmp h.s0 h.r0 hs0 hr h.ops hmb hmu pt sb hsb
    b u s2 hs2 n).1

/-- **A4 (alpha-s).**  Sample and reference isotherm converted by independent histories.  What `alpha_s` reads — the
sample's pressure and loading columns (fully specified targets) and the reference's `loading_at(q, pressure_mode,
pressure_unit, loading_basis, loading_unit)` at query pressures `qs` given in a fully specified representation `qt`
(the code SHOULD pass `pressure_mode='relative'`; finding S15a: it passes no mode, which is right only when the reference is
stored in relative mode) — is the same before and after; hence so is any function of it. -/
theorem alphas_reads_invariant {β : Type}
    (f : List (Except Err α) → List (Except Err α) → List (Except Err (Option α)) → β)
    (smp ref : Hist α) (hsmp : smp.Ok) (href : ref.Ok)
    (pt : PRep) (sb : α) (hb : pt.scale Gen.pressureUnits smp.ps = some sb)
    (b : LB) (u : String) (s2 s2' : α) (h2 : physScale Gen.unitTable smp.a b u = some s2)
    (h2' : physScale Gen.unitTable ref.a b u = some s2')
    (qt : PRep) (sq : α) (hq : qt.scale Gen.pressureUnits ref.ps = some sq) (qs : List α) :
    f (pressureColumn (ctxOf smp.ps smp.a smp.mat) smp.final (some pt.mode) pt.unit)
      (loadingColumn (ctxOf smp.ps smp.a smp.mat) smp.final (some b.name) (some u) none none)
      (qs.map fun q => loadingAt (ctxOf ref.ps ref.a ref.mat) ref.final q (some qt.mode) qt.unit
        (some b.name) (some u) none none)
    = f (pressureColumn (ctxOf smp.ps smp.a smp.mat) smp.s0 (some pt.mode) pt.unit)
      (loadingColumn (ctxOf smp.ps smp.a smp.mat) smp.s0 (some b.name) (some u) none none)
      (qs.map fun q => loadingAt (ctxOf ref.ps ref.a ref.mat) ref.s0 q (some qt.mode) qt.unit
        (some b.name) (some u) none none) := by
  obtain ⟨hps, hc, hp, _, hmp, hs0, hr, hmb, hmu⟩ := hsmp
  obtain ⟨hps', hc', hp', _, hmp', hs0', hr', hmb', hmu'⟩ := href
  obtain ⟨e1, e2⟩ := access_after_history smp.ps hps.ne' smp.a smp.mat hc hp hmp smp.s0 smp.r0 hs0 hr smp.ops hmb hmu
    pt sb hb b u s2 h2
  unfold Hist.final
  rw [e1, e2]
  exact congrArg _ (List.map_congr_left fun q _ => (loading_at_after_history ref.ps hps' ref.a ref.mat hc' hp' hmp'
    ref.s0 ref.r0 hs0' hr' ref.ops hmb' hmu' qt sq hq b u s2' h2' q).1)

end At

/-! ## witnesses and non-vacuity (N2-like rationals of C03) -/
section Witness
open PgVerif.Model

example : interpLin (([1, 2, 4] : List ℚ).map fun v => 2 * v) (([10, 20, 40] : List ℚ).map fun v => 3 * v) (2 * 3)
    = (interpLin ([1, 2, 4] : List ℚ) [10, 20, 40] 3).map fun v => 3 * v := by decide +kernel

/-- **the positivity hypothesis of `interpLin_scale` is necessary**: a negative factor reverses the order of the knots
and the query falls "outside the measured range" -/
theorem interpLin_negative_scale_witness :
    interpLin (([1, 2] : List ℚ).map fun v => -1 * v) (([10, 20] : List ℚ).map fun v => 1 * v) (-1 * (3 / 2)) = none ∧
    (interpLin ([1, 2] : List ℚ) [10, 20] (3 / 2)).map (fun v => 1 * v) = some 15 := by decide +kernel

/-- a two-point isotherm stored in bar, mmol/g -/
def isoTwo : Iso ℚ := ⟨C03.labMolar, [1, 2], [2, 6], 77, false, false⟩

/-- `loading_at(1.5 bar)` = 4 mmol/g before and after the isotherm is converted to relative %, mg/g and °C … -/
example :
    loadingAt C03.ctxW isoTwo (3 / 2) (some "absolute") (some "bar") (some "molar") (some "mmol") none none = .ok (some 4) ∧
    loadingAt C03.ctxW (run C03.ctxW isoTwo [.pressure (some "relative%") none, .loading (some "mass") (some "mg"),
        .temperature (some "°C")]) (3 / 2) (some "absolute") (some "bar") (some "molar") (some "mmol") none none
      = .ok (some 4) := by decide +kernel

/-- … and `pressure_at(4 mmol/g)` in Pa = 150000 before and after (the isosteric enthalpy's call) -/
example :
    pressureAt C03.ctxW isoTwo 4 (some "absolute") (some "Pa") (some "molar") (some "mmol") none none = .ok (some 150000) ∧
    pressureAt C03.ctxW (run C03.ctxW isoTwo [.all (some "relative") none (some "volume_gas") (some "cm3") none none,
        .pressure (some "relative%") none]) 4 (some "absolute") (some "Pa") (some "molar") (some "mmol") none none
      = .ok (some 150000) := by decide +kernel

/-- outside the measured range both answer "no value" -/
example :
    loadingAt C03.ctxW (run C03.ctxW isoTwo [.pressure (some "relative") none]) 3 (some "absolute") (some "bar")
      (some "molar") (some "mmol") none none = .ok none := by decide +kernel

/-- the strict positivity hypothesis is satisfiable (the N2-like constants of C03) -/
example : AdsStrictPos C03.n2 := by
  unfold AdsStrictPos C03.n2
  norm_num

/-- the hypotheses bundled in `Hist.Ok` are satisfiable: the two-point isotherm with the history "to relative %, to mg" -/
def histTwo : Hist ℚ :=
  ⟨101325, C03.n2, C03.mat2, isoTwo, ⟨.abs "bar", .phys .molar "mmol", ⟨.mass, "g"⟩, .K⟩,
    [.pressure (some "relative%") none, .loading (some "mass") (some "mg")]⟩

example : histTwo.Ok := by
  unfold Hist.Ok AdsStrictPos C02.Rep.Valid Spec.Ads.Consistent Spec.Ads.Pos Units.Mat.Pos
  refine ⟨by decide +kernel, by decide +kernel, by decide +kernel, by decide +kernel, by decide +kernel, rfl,
    ⟨by decide +kernel, by decide +kernel, by decide +kernel, Or.inl rfl⟩, by decide +kernel, by decide +kernel⟩

end Witness
end PgVerif.Props.C15
