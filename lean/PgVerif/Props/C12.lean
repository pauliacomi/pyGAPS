/-
C12 — model fitting is self-consistent.

Everything around the numerical optimiser that is logic or algebra (the optimiser itself, scipy `least_squares`, is checked per fit
by the harness): `attempts[errors.index(min(errors))]` of `ModelIsotherm.guess` returns the first attempt with the smallest error (B);
the reported error (`base_model.py`, the line after the `least_squares` call of `fit`; `virial.py`) is non-negative, zero iff the fitted model passes through every point,
unit-free, and 0 at a global minimiser on exact data (A); `initial_guess_bounds` clamps into the bounds in force (C); branch selection
(D); unit covariance of the generated model equations `PgVerif.Gen.R.*` (over ℝ) and of the least-squares problem (E); tests (F).
Continued in Props/C12/Guess.lean (G, H: the whole loop of `guess` with refused candidates; an error derived from the optimiser's
cost) and Props/C12/Start.lean (I: the start vector of a fit with a partial `param_guess`).
-/
import PgVerif.Model.Fit
import PgVerif.Gen.ModelsR
import Mathlib.Algebra.Order.Field.Rat
import Mathlib.Tactic

namespace PgVerif.Props.C12
open PgVerif.Model.Fit

/-! ## sums of squares -/

section helpersField
variable {α : Type} [Field α]

lemma sumSq_nil : sumSq ([] : List α) = 0 := by simp [sumSq]

lemma sumSq_cons (r : α) (rs : List α) : sumSq (r :: rs) = r * r + sumSq rs := by simp [sumSq]

lemma sumSq_map_mul (k : α) (rs : List α) : sumSq (rs.map (k * ·)) = k * k * sumSq rs := by
  induction rs with
  | nil => simp [sumSq]
  | cons r rs ih => rw [List.map_cons, sumSq_cons, sumSq_cons, ih]; ring

end helpersField

section helpers
variable {α : Type} [Field α] [LinearOrder α] [IsStrictOrderedRing α]

lemma sumSq_nonneg (rs : List α) : 0 ≤ sumSq rs := by
  induction rs with
  | nil => simp [sumSq]
  | cons r rs ih => rw [sumSq_cons]; exact add_nonneg (mul_self_nonneg r) ih

lemma sumSq_eq_zero_iff (rs : List α) : sumSq rs = 0 ↔ ∀ r ∈ rs, r = 0 := by
  induction rs with
  | nil => simp [sumSq]
  | cons r rs ih =>
    rw [sumSq_cons, add_eq_zero_iff_of_nonneg (mul_self_nonneg r) (sumSq_nonneg rs), ih, mul_self_eq_zero]
    exact (List.forall_mem_cons (p := fun x => x = 0)).symm

lemma length_pos_cast {rs : List α} (h : rs ≠ []) : (0 : α) < (rs.length : α) := by
  have : 0 < rs.length := List.length_pos_iff.mpr h
  exact_mod_cast this

end helpers

/-! ## B. best of a list -/

section best
variable {α : Type} [LinearOrder α]

/-- what Python's `errors.index(min(errors))` returns, for entries given by a relation `R j e` ("position `j` holds the value `e`":
`es[j]? = some e` for a list, the converged candidates for `ModelIsotherm.guess`): position `i` holds `e`, no value is smaller,
every value at an earlier position is larger -/
structure IsFirstMin (R : Nat → α → Prop) (i : Nat) (e : α) : Prop where
  at_pos : R i e
  le_all : ∀ j e', R j e' → e ≤ e'
  lt_before : ∀ j e', j < i → R j e' → e < e'

/-- the model returned is determined by the errors -/
lemma IsFirstMin.unique {R : Nat → α → Prop} {i i' : Nat} {e e' : α} (h : IsFirstMin R i e) (h' : IsFirstMin R i' e') : i = i' := by
  rcases lt_trichotomy i i' with hlt | heq | hlt
  · exact absurd (h'.lt_before i e hlt h.at_pos) (not_lt.2 (h.le_all i' e' h'.at_pos))
  · exact heq
  · exact absurd (h.lt_before i' e' hlt h'.at_pos) (not_lt.2 (h'.le_all i e h.at_pos))

omit [LinearOrder α] in
lemma forall_getElem?_cons {P : α → Prop} {a : α} {es : List α} (ha : P a) (h : ∀ (j : Nat) e', es[j]? = some e' → P e') :
    ∀ (j : Nat) e', (a :: es)[j]? = some e' → P e'
  | 0, _, hj => Option.some.inj hj ▸ ha
  | j + 1, e', hj => h j e' hj

lemma isFirstMin_cons_zero {a : α} {es : List α} (h : ∀ (j : Nat) e', es[j]? = some e' → a ≤ e') :
    IsFirstMin (fun j e => (a :: es)[j]? = some e) 0 a :=
  ⟨rfl, forall_getElem?_cons le_rfl h, fun j _ hj => absurd hj (Nat.not_lt_zero j)⟩

lemma isFirstMin_cons_succ {a e : α} {es : List α} {k : Nat} (hk : IsFirstMin (fun j e => es[j]? = some e) k e) (hlt : e < a) :
    IsFirstMin (fun j e => (a :: es)[j]? = some e) (k + 1) e :=
  ⟨hk.at_pos, forall_getElem?_cons hlt.le hk.le_all, fun
    | 0, _, _, hj => Option.some.inj hj ▸ hlt
    | j + 1, e', hj', hj => hk.lt_before j e' (Nat.lt_of_succ_lt_succ hj') hj⟩

/-- invariant of the scan: either the incumbent survives (and is ≤ everything scanned), or the result is the first smallest
position of the scanned part, and its value is a strict improvement -/
lemma bestIdxAux_spec (es : List α) : ∀ (i bi : Nat) (be : α),
    (bestIdxAux es i bi be = bi ∧ ∀ (j : Nat) e', es[j]? = some e' → be ≤ e') ∨
    ∃ k e, bestIdxAux es i bi be = i + k ∧ e < be ∧ IsFirstMin (fun j e => es[j]? = some e) k e := by
  induction es with
  | nil => exact fun i bi be => .inl ⟨rfl, by simp⟩
  | cons a es ih =>
    intro i bi be
    rw [bestIdxAux]
    split_ifs with h
    · rcases ih (i + 1) i a with ⟨hr, hmin⟩ | ⟨k, e, hr, hlt, hk⟩
      · exact .inr ⟨0, a, hr, h, isFirstMin_cons_zero hmin⟩
      · exact .inr ⟨k + 1, e, hr.trans (by omega), hlt.trans h, isFirstMin_cons_succ hk hlt⟩
    · rcases ih (i + 1) bi be with ⟨hr, hmin⟩ | ⟨k, e, hr, hlt, hk⟩
      · exact .inl ⟨hr, forall_getElem?_cons (not_lt.1 h) hmin⟩
      · exact .inr ⟨k + 1, e, hr.trans (by omega), hlt, isFirstMin_cons_succ hk (hlt.trans_le (not_lt.1 h))⟩

theorem bestIdx_nil : bestIdx ([] : List α) = none := rfl

/-- the attempt returned has the smallest reported error, and it is the first attempt with that error (Python `errors.index(min(errors))`) -/
theorem bestIdx_eq_some_iff (es : List α) (i : Nat) :
    bestIdx es = some i ↔ ∃ e, IsFirstMin (fun j e => es[j]? = some e) i e := by
  cases es with
  | nil => exact ⟨fun h => by simp [bestIdx] at h, fun ⟨e, h⟩ => by simpa using h.at_pos⟩
  | cons a es =>
    obtain ⟨e₀, h₀⟩ : ∃ e, IsFirstMin (fun j e => (a :: es)[j]? = some e) (bestIdxAux es 1 0 a) e := by
      rcases bestIdxAux_spec es 1 0 a with ⟨hr, hmin⟩ | ⟨k, e, hr, hlt, hk⟩
      · exact ⟨a, by rw [hr]; exact isFirstMin_cons_zero hmin⟩
      · exact ⟨e, by rw [hr, Nat.add_comm]; exact isFirstMin_cons_succ hk hlt⟩
    rw [bestIdx, Option.some.injEq]
    exact ⟨fun h => ⟨e₀, h ▸ h₀⟩, fun ⟨e, h⟩ => h₀.unique h⟩

theorem bestIdx_spec (es : List α) (hne : es ≠ []) :
    ∃ i e, bestIdx es = some i ∧ IsFirstMin (fun j e => es[j]? = some e) i e := by
  obtain ⟨a, es, rfl⟩ := List.exists_cons_of_ne_nil hne
  obtain ⟨e, h⟩ := (bestIdx_eq_some_iff _ _).1 (rfl : bestIdx (a :: es) = some (bestIdxAux es 1 0 a))
  exact ⟨_, e, rfl, h⟩

theorem bestIdx_unique (es : List α) (i i' : Nat) (e e' : α) (h : IsFirstMin (fun j e => es[j]? = some e) i e)
    (h' : IsFirstMin (fun j e => es[j]? = some e) i' e') : i = i' := h.unique h'

theorem bestIdx_isSome_iff (es : List α) : (bestIdx es).isSome ↔ es ≠ [] := by
  cases es <;> simp [bestIdx]

end best

/-! ## A. the reported error -/

section error
variable {α : Type} [Field α] [LinearOrder α] [IsStrictOrderedRing α]

/-- also for the empty list, where it is `0/0 = 0` -/
theorem mse_nonneg (rs : List α) : 0 ≤ mse rs :=
  div_nonneg (sumSq_nonneg rs) (Nat.cast_nonneg _)

theorem rmseSq_nonneg (rs : List α) (range : α) : 0 ≤ rmseSq rs range :=
  div_nonneg (mse_nonneg rs) (mul_self_nonneg range)

theorem rmseSqVirial_nonneg (rs : List α) : 0 ≤ rmseSqVirial rs := mse_nonneg rs

/-- the guard `rs ≠ []` excludes the `0/0` point -/
theorem mse_eq_zero_iff (rs : List α) (hne : rs ≠ []) : mse rs = 0 ↔ ∀ r ∈ rs, r = 0 := by
  unfold mse
  rw [div_eq_zero_iff, or_iff_left (length_pos_cast hne).ne', sumSq_eq_zero_iff]

/-- guards: at least one point, and a non-degenerate model range (otherwise the Python value is `x/0`) -/
theorem rmseSq_eq_zero_iff (rs : List α) (range : α) (hne : rs ≠ []) (hr : range ≠ 0) :
    rmseSq rs range = 0 ↔ ∀ r ∈ rs, r = 0 := by
  unfold rmseSq
  rw [div_eq_zero_iff, or_iff_left (mul_ne_zero hr hr), mse_eq_zero_iff rs hne]

theorem rmseSqVirial_eq_zero_iff (rs : List α) (hne : rs ≠ []) :
    rmseSqVirial rs = 0 ↔ ∀ r ∈ rs, r = 0 := mse_eq_zero_iff rs hne

/-- the documented normalisation makes the reported error unit-free.  No guard on `range` or `rs` is needed: in the degenerate cases both
sides are the same `x/0`. -/
theorem rmseSq_scale (rs : List α) (range k : α) (hk : k ≠ 0) :
    rmseSq (rs.map (k * ·)) (k * range) = rmseSq rs range := by
  unfold rmseSq mse
  rw [sumSq_map_mul, List.length_map, mul_div_assoc, mul_mul_mul_comm, mul_div_mul_left _ _ (mul_ne_zero hk hk)]

/-- the Virial error is not normalised: a change of unit by `k` multiplies its square by `k²` -/
theorem rmseSqVirial_scale (rs : List α) (k : α) :
    rmseSqVirial (rs.map (k * ·)) = k * k * rmseSqVirial rs := by
  unfold rmseSqVirial mse
  rw [sumSq_map_mul, List.length_map]; ring

/-- `Θ` is any type of parameter vectors, `res` any residual function -/
theorem exact_data_generator_is_global_minimiser {Θ : Type} (res : Θ → List α) (θ₀ : Θ)
    (h0 : ∀ r ∈ res θ₀, r = 0) :
    (∀ θ, sumSq (res θ₀) ≤ sumSq (res θ)) ∧ sumSq (res θ₀) = 0 ∧
      (∀ θ, sumSq (res θ) = 0 → ∀ r ∈ res θ, r = 0) ∧
      (∀ θ, sumSq (res θ) ≤ sumSq (res θ₀) → ∀ r ∈ res θ, r = 0) := by
  have hz : sumSq (res θ₀) = 0 := (sumSq_eq_zero_iff _).mpr h0
  refine ⟨fun θ => hz ▸ sumSq_nonneg _, hz, fun θ h => (sumSq_eq_zero_iff _).mp h, fun θ h => ?_⟩
  exact (sumSq_eq_zero_iff _).mp (le_antisymm (hz ▸ h) (sumSq_nonneg _))

theorem exact_data_rmseSq_zero (rs : List α) (range : α) (h0 : ∀ r ∈ rs, r = 0) : rmseSq rs range = 0 := by
  unfold rmseSq mse; rw [(sumSq_eq_zero_iff rs).mpr h0]; simp

end error

/-! ## C. bounds -/

section bounds
variable {α : Type} [LinearOrder α]

theorem clamp_inBounds (lo hi : Option α) (v : α) (hlh : ∀ l h, lo = some l → hi = some h → l ≤ h) :
    inBounds lo hi (clamp lo hi v) := by
  unfold inBounds clamp
  cases lo with
  | none =>
    cases hi with
    | none => simp
    | some h =>
      simp only [reduceCtorEq, false_imp_iff, implies_true, Option.some.injEq, forall_eq', true_and]
      split_ifs with h1
      · exact le_refl _
      · exact not_lt.mp h1
  | some l =>
    cases hi with
    | none =>
      simp only [Option.some.injEq, forall_eq', reduceCtorEq, false_imp_iff, implies_true, and_true]
      split_ifs with h1
      · exact le_refl _
      · exact not_lt.mp h1
    | some h =>
      have hl : l ≤ h := hlh l h rfl rfl
      simp only [Option.some.injEq, forall_eq']
      split_ifs with h1 h2
      · exact ⟨hl, le_refl _⟩
      · exact ⟨le_refl _, hl⟩
      · exact ⟨not_lt.mp h2, not_lt.mp h1⟩

/-- a guess inside its bounds is left alone by `initial_guess_bounds` -/
theorem clamp_of_inBounds (lo hi : Option α) (v : α) (h : inBounds lo hi v) : clamp lo hi v = v := by
  obtain ⟨h1, h2⟩ := h
  -- neither `if` of the Python code fires: `v < l` and `v > h` are excluded by the bounds
  unfold clamp
  cases lo with
  | none =>
    cases hi with
    | none => rfl
    | some h => exact if_neg (not_lt.2 (h2 h rfl))
  | some l =>
    cases hi with
    | none => exact if_neg (not_lt.2 (h1 l rfl))
    | some h => exact (if_neg (not_lt.2 (h2 h rfl))).trans (if_neg (not_lt.2 (h1 l rfl)))

theorem clamp_idempotent (lo hi : Option α) (v : α) (hlh : ∀ l h, lo = some l → hi = some h → l ≤ h) :
    clamp lo hi (clamp lo hi v) = clamp lo hi v :=
  clamp_of_inBounds lo hi _ (clamp_inBounds lo hi v hlh)

theorem clamp_eq_self_iff (lo hi : Option α) (v : α) (hlh : ∀ l h, lo = some l → hi = some h → l ≤ h) :
    clamp lo hi v = v ↔ inBounds lo hi v :=
  ⟨fun h => h ▸ clamp_inBounds lo hi v hlh, clamp_of_inBounds lo hi v⟩

theorem clampGuess_length (bounds : List (Option α × Option α)) (guess : List α) :
    (clampGuess bounds guess).length = min bounds.length guess.length := by
  unfold clampGuess; exact List.length_zipWith

theorem clampGuess_length_eq (bounds : List (Option α × Option α)) (guess : List α)
    (hlen : bounds.length = guess.length) : (clampGuess bounds guess).length = guess.length := by
  rw [clampGuess_length, hlen, min_self]

theorem clampGuess_inBounds (bounds : List (Option α × Option α)) (guess : List α)
    (hlh : ∀ bd ∈ bounds, ∀ l h, bd.1 = some l → bd.2 = some h → l ≤ h)
    (i : Nat) (hi : i < (clampGuess bounds guess).length) :
    inBounds (bounds[i]'(by rw [clampGuess_length] at hi; omega)).1
             (bounds[i]'(by rw [clampGuess_length] at hi; omega)).2 ((clampGuess bounds guess)[i]) := by
  have hb : i < bounds.length := by rw [clampGuess_length] at hi; omega
  have e : (clampGuess bounds guess)[i] = clamp (bounds[i]).1 (bounds[i]).2
      (guess[i]'(by rw [clampGuess_length] at hi; omega)) := by
    exact List.getElem_zipWith
  rw [e]
  exact clamp_inBounds _ _ _ (hlh _ (List.getElem_mem hb))

theorem clampGuess_of_inBounds (bounds : List (Option α × Option α)) (guess : List α)
    (hlen : bounds.length = guess.length)
    (hin : ∀ i (hb : i < bounds.length) (hg : i < guess.length), inBounds (bounds[i]).1 (bounds[i]).2 guess[i]) :
    clampGuess bounds guess = guess := by
  apply List.ext_getElem (clampGuess_length_eq bounds guess hlen)
  intro i h1 h2
  have hb : i < bounds.length := by omega
  have e : (clampGuess bounds guess)[i] = clamp (bounds[i]).1 (bounds[i]).2 guess[i] := by
    exact List.getElem_zipWith
  rw [e]
  exact clamp_of_inBounds _ _ _ (hin i hb h2)

end bounds

/-! ## D. branch selection -/

section branch
variable {β : Type}

theorem selectBranch_spec (rows : List (β × Nat)) (b : Nat) (x : β) :
    x ∈ selectBranch rows b ↔ (x, b) ∈ rows := by
  unfold selectBranch
  simp only [List.mem_map, List.mem_filter, decide_eq_true_eq]
  constructor
  · rintro ⟨⟨y, c⟩, ⟨hm, hc⟩, rfl⟩
    simp only at hc
    subst hc; exact hm
  · intro h; exact ⟨(x, b), ⟨h, rfl⟩, rfl⟩

theorem selectBranch_sublist (rows : List (β × Nat)) (b : Nat) :
    List.Sublist (selectBranch rows b) (rows.map (·.1)) := by
  unfold selectBranch
  exact List.filter_sublist.map _

theorem selectBranch_partition (rows : List (β × Nat)) (h01 : ∀ r ∈ rows, r.2 = 0 ∨ r.2 = 1) :
    (selectBranch rows 0).length + (selectBranch rows 1).length = rows.length := by
  unfold selectBranch
  -- a list splits into the rows that pass a test and those that fail it; with marks 0 / 1 only, failing `= 0` is `= 1`
  rw [List.length_map, List.length_map]
  refine .trans ?_ (List.length_eq_length_filter_add (l := rows) fun r => decide (r.2 = 0)).symm
  congr 2
  exact List.filter_congr fun r hr => by rcases h01 r hr with h | h <;> simp [h]

theorem selectBranch_ignores_other (rows : List (β × Nat)) (b : Nat) :
    selectBranch (rows.filter (fun r => r.2 = b)) b = selectBranch rows b := by
  unfold selectBranch; rw [List.filter_filter]; simp

theorem selectBranch_other_nil (rows : List (β × Nat)) (b : Nat) (h : ∀ r ∈ rows, r.2 ≠ b) :
    selectBranch rows b = [] := by
  unfold selectBranch
  simp only [List.map_eq_nil_iff, List.filter_eq_nil_iff, decide_eq_true_eq]
  exact h

theorem selectBranch_append (r1 r2 : List (β × Nat)) (b : Nat) :
    selectBranch (r1 ++ r2) b = selectBranch r1 b ++ selectBranch r2 b := by
  unfold selectBranch; simp

end branch

/-! ## E. unit covariance

Pressure unit factor `a` (`p' = a·p`), loading unit factor `b` (`n' = b·n`).  Each theorem says: the generated model
equation evaluated with the transformed parameters at the transformed pressure is `b` times the original loading.
Only `a ≠ 0` / `b ≠ 0` is needed for the rational models (no division-by-zero convention is used: the guards make the
cancellations genuine); Freundlich needs `0 < a`, `0 ≤ p` for `rpow`. -/

section units
open PgVerif.Gen.R

/-- the one cancellation behind every rational model: an affinity in the new pressure unit times a pressure in the new unit is
the old product, `(K/a)(a p) = K p` -/
lemma div_mul_mul_cancel_unit {a : ℝ} (ha : a ≠ 0) (K p : ℝ) : K / a * (a * p) = K * p := by
  rw [← mul_assoc, div_mul_cancel₀ K ha]

/-- the prefactor `n_m / K` of the pressure models carries the pressure unit -/
lemma prefactor_unit {a b : ℝ} (ha : a ≠ 0) (hb : b ≠ 0) (x K : ℝ) : b * x / (b * K / a) = a * (x / K) := by
  field_simp

theorem henry_units (K a b p : ℝ) (ha : a ≠ 0) :
    Henry_loading (b * K / a) (a * p) = b * Henry_loading K p := by
  simp only [Henry_loading, mul_div_assoc, mul_assoc, div_mul_mul_cancel_unit ha]

theorem langmuir_units (K n_m a b p : ℝ) (ha : a ≠ 0) :
    Langmuir_loading (K / a) (b * n_m) (a * p) = b * Langmuir_loading K n_m p := by
  simp only [Langmuir_loading, div_mul_mul_cancel_unit ha, mul_assoc, mul_div_assoc]

theorem dslangmuir_units (n_m1 K1 n_m2 K2 a b p : ℝ) (ha : a ≠ 0) :
    DSLangmuir_loading (b * n_m1) (K1 / a) (b * n_m2) (K2 / a) (a * p)
      = b * DSLangmuir_loading n_m1 K1 n_m2 K2 p := by
  simp only [DSLangmuir_loading, div_mul_mul_cancel_unit ha, mul_assoc, mul_div_assoc, mul_add]

theorem tslangmuir_units (n_m1 n_m2 n_m3 K1 K2 K3 a b p : ℝ) (ha : a ≠ 0) :
    TSLangmuir_loading (b * n_m1) (b * n_m2) (b * n_m3) (K1 / a) (K2 / a) (K3 / a) (a * p)
      = b * TSLangmuir_loading n_m1 n_m2 n_m3 K1 K2 K3 p := by
  simp only [TSLangmuir_loading, div_mul_mul_cancel_unit ha, mul_assoc, mul_div_assoc, mul_add]

/-- Toth: `K·p` is invariant, so the `rpow` terms are literally unchanged (no sign guard needed) -/
theorem toth_units (n_m K t a b p : ℝ) (ha : a ≠ 0) :
    Toth_loading (b * n_m) (K / a) t (a * p) = b * Toth_loading n_m K t p := by
  simp only [Toth_loading, div_mul_mul_cancel_unit ha, mul_assoc, mul_div_assoc]

/-- Freundlich `n = K p^(1/m)`: `K' = b K / a^(1/m)`; `0 < a`, `0 ≤ p` are what `(a p)^(1/m) = a^(1/m) p^(1/m)` needs -/
theorem freundlich_units (K m a b p : ℝ) (ha : 0 < a) (hp : 0 ≤ p) :
    Freundlich_loading (b * K / a ^ (1 / m)) m (a * p) = b * Freundlich_loading K m p := by
  simp only [Freundlich_loading, Real.rpow_eq_pow, Real.mul_rpow ha.le hp, mul_div_assoc, mul_assoc,
    div_mul_mul_cancel_unit (Real.rpow_pos_of_pos ha _).ne']

theorem temkin_units (n_m K tht a b p : ℝ) (ha : a ≠ 0) :
    TemkinApprox_loading (b * n_m) (K / a) tht (a * p) = b * TemkinApprox_loading n_m K tht p := by
  simp only [TemkinApprox_loading, div_mul_mul_cancel_unit ha, mul_assoc]

/-- Jensen–Seaton `n = K p / (1 + (K p / (A (1 + B p)))^c)^(1/c)` -/
theorem jensen_seaton_units (K A B c a b p : ℝ) (ha : a ≠ 0) (hb : b ≠ 0) :
    JensenSeaton_loading (b * K / a) (b * A) (B / a) c (a * p) = b * JensenSeaton_loading K A B c p := by
  simp only [JensenSeaton_loading, mul_div_assoc b K a, mul_assoc b, div_mul_mul_cancel_unit ha, mul_div_mul_left _ _ hb,
    mul_div_assoc]

/-- BET: both `C` and `N` multiply the pressure -/
theorem bet_units (n_m C N a b p : ℝ) (ha : a ≠ 0) :
    BET_loading (b * n_m) (C / a) (N / a) (a * p) = b * BET_loading n_m C N p := by
  simp only [BET_loading, mul_assoc, div_mul_mul_cancel_unit ha, mul_div_assoc]

/-- GAB: only `K` multiplies the pressure, `C` is dimensionless -/
theorem gab_units (n_m C K a b p : ℝ) (ha : a ≠ 0) :
    GAB_loading (b * n_m) C (K / a) (a * p) = b * GAB_loading n_m C K p := by
  simp only [GAB_loading, mul_assoc, div_mul_mul_cancel_unit ha, mul_div_assoc]

theorem quadratic_units (n_m Ka Kb a b p : ℝ) (ha : a ≠ 0) :
    Quadratic_loading (b * n_m) (Ka / a) (Kb / a ^ 2) (a * p) = b * Quadratic_loading n_m Ka Kb p := by
  have num : (Ka / a + 2 * (Kb / a ^ 2) * (a * p)) * (a * p) = (Ka + 2 * Kb * p) * p := by field_simp
  simp only [Quadratic_loading, mul_pow, div_mul_mul_cancel_unit ha, div_mul_mul_cancel_unit (pow_ne_zero 2 ha), mul_assoc b,
    mul_assoc n_m, num, mul_div_assoc]

/-- DR / DA work on relative pressure (dimensionless): only the loading unit acts -/
theorem dr_units (n_m e A b p : ℝ) : DR_loading (b * n_m) e A p = b * DR_loading n_m e A p := mul_assoc _ _ _

theorem da_units (n_m e m A b p : ℝ) : DA_loading (b * n_m) e m A p = b * DA_loading n_m e m A p := mul_assoc _ _ _

/-! the pressure-calculating direction (`calculates == "pressure"`: residuals are pressures, factor `a`).
`a ≠ 0`, `b ≠ 0` make the cancellations genuine; the remaining denominators (`K`, `n_m - n`, …) are the same on both
sides of each equation and need no guard (the hypothesis `hK` of `henry_pressure_units` is not used). -/

theorem henry_pressure_units (K a b n : ℝ) (ha : a ≠ 0) (hK : K ≠ 0) (hb : b ≠ 0) :
    Henry_pressure (b * K / a) (b * n) = a * Henry_pressure K n := prefactor_unit ha hb n K

theorem langmuir_pressure_units (K n_m a b n : ℝ) (ha : a ≠ 0) (hb : b ≠ 0) :
    Langmuir_pressure (K / a) (b * n_m) (b * n) = a * Langmuir_pressure K n_m n := by
  unfold Langmuir_pressure
  rw [← mul_sub, div_mul_eq_mul_div, mul_left_comm K b, prefactor_unit ha hb]

theorem toth_pressure_units (n_m K t a b n : ℝ) (ha : a ≠ 0) (hb : b ≠ 0) :
    Toth_pressure (b * n_m) (K / a) t (b * n) = a * Toth_pressure n_m K t n := by
  have e : b * n_m * (K / a) = b * (n_m * K) / a := by ring
  simp only [Toth_pressure, mul_div_mul_left _ _ hb, e, prefactor_unit ha hb]
  rw [mul_div_assoc]

/-- Freundlich inverse `p = (n / K)^m`: needs `0 ≤ n / K` and `m ≠ 0` for `(a^(1/m) x)^m = a x^m` -/
theorem freundlich_pressure_units (K m a b n : ℝ) (ha : 0 < a) (hb : b ≠ 0) (hm : m ≠ 0) (hnK : 0 ≤ n / K) :
    Freundlich_pressure (b * K / a ^ (1 / m)) m (b * n) = a * Freundlich_pressure K m n := by
  have h := Real.rpow_pos_of_pos ha (1 / m)
  simp only [Freundlich_pressure, Real.rpow_eq_pow]
  rw [prefactor_unit h.ne' hb, Real.mul_rpow h.le hnK, ← Real.rpow_mul ha.le, one_div_mul_cancel hm, Real.rpow_one]

/-- FHVST (pressure model): coverage `n / n_m` is invariant, the prefactor `n_m / K` carries the units -/
theorem fhvst_units (n_m K a1v a b n : ℝ) (ha : a ≠ 0) (hb : b ≠ 0) :
    FHVST_pressure (b * n_m) (b * K / a) a1v (b * n) = a * FHVST_pressure n_m K a1v n := by
  simp only [FHVST_pressure, mul_div_mul_left _ _ hb, prefactor_unit ha hb, mul_assoc]

theorem wvst_units (n_m K L1v Lv1 a b n : ℝ) (ha : a ≠ 0) (hb : b ≠ 0) :
    WVST_pressure (b * n_m) (b * K / a) L1v Lv1 (b * n) = a * WVST_pressure n_m K L1v Lv1 n := by
  simp only [WVST_pressure, mul_div_mul_left _ _ hb, prefactor_unit ha hb]
  simp only [mul_div_assoc, mul_assoc]

/-- Virial (pressure model) `p = n exp(-ln K + A n + B n² + C n³)`; positivity is what `ln` of the product needs -/
theorem virial_units (K A B C a b n : ℝ) (hK : 0 < K) (ha : 0 < a) (hb : 0 < b) :
    Virial_pressure (b * K / a) (A / b) (B / b ^ 2) (C / b ^ 3) (b * n) = a * Virial_pressure K A B C n := by
  have hl : -Real.log (b * K / a) = Real.log (a / b) + -Real.log K := by
    rw [Real.log_div (mul_pos hb hK).ne' ha.ne', Real.log_mul hb.ne' hK.ne', Real.log_div ha.ne' hb.ne']; ring
  simp only [Virial_pressure, mul_pow, div_mul_mul_cancel_unit hb.ne', div_mul_mul_cancel_unit (pow_ne_zero _ hb.ne'), hl,
    add_assoc, Real.exp_add, Real.exp_log (div_pos ha hb)]
  have e : b * n * (a / b) = a * n := by field_simp
  rw [← mul_assoc, e, mul_assoc]

/-- with `f' (a p) = b f p` from a `*_units` theorem this is the hypothesis `hres` of `least_squares_covariance` -/
theorem residuals_units (f f' : ℝ → ℝ) (a b : ℝ) (h : ∀ p, f' (a * p) = b * f p) (data : List (ℝ × ℝ)) :
    (data.map (fun d => (a * d.1, b * d.2))).map (fun d => f' d.1 - d.2)
      = (data.map (fun d => f d.1 - d.2)).map (b * ·) := by
  simp only [List.map_map]
  apply List.map_congr_left
  intro d _
  simp only [Function.comp_apply, h, mul_sub]

theorem langmuir_residuals_units (K n_m a b : ℝ) (ha : a ≠ 0) (data : List (ℝ × ℝ)) :
    (data.map (fun d => (a * d.1, b * d.2))).map (fun d => Langmuir_loading (K / a) (b * n_m) d.1 - d.2)
      = (data.map (fun d => Langmuir_loading K n_m d.1 - d.2)).map (b * ·) :=
  residuals_units (Langmuir_loading K n_m) (Langmuir_loading (K / a) (b * n_m)) a b
    (fun p => langmuir_units K n_m a b p ha) data

end units

section covariance
variable {α : Type} [Field α] [LinearOrder α] [IsStrictOrderedRing α]

omit [LinearOrder α] [IsStrictOrderedRing α] in
theorem sumSq_units {Θ Θ' : Type} (T : Θ → Θ') (res : Θ → List α) (res' : Θ' → List α) (b : α)
    (hres : ∀ θ, res' (T θ) = (res θ).map (b * ·)) (θ : Θ) :
    sumSq (res' (T θ)) = b * b * sumSq (res θ) := by
  rw [hres, sumSq_map_mul]

/-- least squares is covariant under a change of units: with `T` the (injective — in particular bijective) change of
parameters and residuals multiplied by `b ≠ 0`, `θ*` minimises the objective over `S` iff `T θ*` minimises the
transformed objective over `T '' S` -/
theorem least_squares_covariance {Θ Θ' : Type} (T : Θ → Θ') (hT : Function.Injective T)
    (res : Θ → List α) (res' : Θ' → List α) (b : α) (hb : b ≠ 0)
    (hres : ∀ θ, res' (T θ) = (res θ).map (b * ·)) (S : Set Θ) (θs : Θ) :
    (θs ∈ S ∧ ∀ θ ∈ S, sumSq (res θs) ≤ sumSq (res θ)) ↔
      (T θs ∈ T '' S ∧ ∀ θ' ∈ T '' S, sumSq (res' (T θs)) ≤ sumSq (res' θ')) := by
  have hbb : 0 < b * b := mul_self_pos.mpr hb
  have key : ∀ θ, sumSq (res' (T θs)) ≤ sumSq (res' (T θ)) ↔ sumSq (res θs) ≤ sumSq (res θ) := by
    intro θ
    rw [sumSq_units T res res' b hres, sumSq_units T res res' b hres]
    constructor
    · exact fun h => le_of_mul_le_mul_left h hbb
    · exact fun h => mul_le_mul_of_nonneg_left h hbb.le
  constructor
  · rintro ⟨hs, hmin⟩
    refine ⟨⟨θs, hs, rfl⟩, ?_⟩
    rintro θ' ⟨θ, hθ, rfl⟩
    exact (key θ).mpr (hmin θ hθ)
  · rintro ⟨⟨θ0, hθ0, he⟩, hmin⟩
    have : θ0 = θs := hT he
    subst this
    exact ⟨hθ0, fun θ hθ => (key θ).mp (hmin (T θ) ⟨θ, hθ, rfl⟩)⟩

theorem least_squares_covariance_univ {Θ Θ' : Type} (T : Θ → Θ') (hT : Function.Bijective T)
    (res : Θ → List α) (res' : Θ' → List α) (b : α) (hb : b ≠ 0)
    (hres : ∀ θ, res' (T θ) = (res θ).map (b * ·)) (θs : Θ) :
    (∀ θ, sumSq (res θs) ≤ sumSq (res θ)) ↔ (∀ θ', sumSq (res' (T θs)) ≤ sumSq (res' θ')) := by
  have h := least_squares_covariance T hT.injective res res' b hb hres Set.univ θs
  simp only [Set.mem_univ, true_and, forall_const, Set.image_univ, hT.surjective.range_eq] at h
  exact h

/-- consequently the fitted curves correspond: at corresponding optima the residual vector (fitted curve minus data)
is the old one expressed in the new unit, and the reported (normalised) error is identical -/
theorem fit_unit_change_same_curve_and_error {Θ Θ' : Type} (T : Θ → Θ')
    (res : Θ → List α) (res' : Θ' → List α) (b : α) (hb : b ≠ 0)
    (hres : ∀ θ, res' (T θ) = (res θ).map (b * ·)) (θs : Θ) (range : α) :
    res' (T θs) = (res θs).map (b * ·) ∧ rmseSq (res' (T θs)) (b * range) = rmseSq (res θs) range := by
  refine ⟨hres θs, ?_⟩
  rw [hres, rmseSq_scale _ _ _ hb]

theorem inBounds_scale (lo hi : Option α) (v k : α) (hk : 0 < k) :
    inBounds (lo.map (k * ·)) (hi.map (k * ·)) (k * v) ↔ inBounds lo hi v := by
  simp only [inBounds, Option.map_eq_some_iff, forall_exists_index, and_imp, forall_apply_eq_imp_iff₂,
    mul_le_mul_iff_of_pos_left hk]

end covariance

/-! ## F. non-vacuity -/

section examples
open PgVerif.Gen.R

example : bestIdx ([3, 1, 2, 1] : List ℚ) = some 1 := by decide +kernel
example : bestIdx ([5] : List ℚ) = some 0 := by decide +kernel
example : bestIdx ([2, 2, 2] : List ℕ) = some 0 := by decide +kernel
example : bestIdx ([4, 3, 2, 1] : List ℕ) = some 3 := by decide +kernel
example : bestIdx ([] : List ℚ) = none := rfl

example : clamp (some (0 : ℚ)) none (-3) = 0 := by decide +kernel
example : clamp (some (0 : ℚ)) (some 1) 7 = 1 := by decide +kernel
example : clamp (some (0 : ℚ)) (some 1) (1 / 2) = 1 / 2 := by decide +kernel
example : clamp (none : Option ℚ) none 42 = 42 := by decide +kernel
example : clampGuess [(some (0 : ℚ), none), (some 0, some 1)] [-1, 5] = [0, 1] := by decide +kernel
/-- inconsistent bounds (`lo > hi`) really break `clamp_inBounds`: the guard is necessary -/
example : ¬ inBounds (some (2 : ℚ)) (some 1) (clamp (some 2) (some 1) 0) := by
  unfold inBounds; decide +kernel

example : selectBranch [("a", 0), ("b", 1), ("c", 0)] 0 = ["a", "c"] := by decide
example : selectBranch [("a", 0), ("b", 1), ("c", 0)] 1 = ["b"] := by decide

example : rmseSq ([1, -1] : List ℚ) 2 = 1 / 4 := by norm_num [rmseSq, mse, sumSq]
example : rmseSq (([1, -1] : List ℚ).map (3 * ·)) (3 * 2) = 1 / 4 := by norm_num [rmseSq, mse, sumSq]
example : rmseSq ([0, 0, 0] : List ℚ) 5 = 0 := by norm_num [rmseSq, mse, sumSq]
/-- without the guard `rs ≠ []` the "zero error" clause would be vacuous: the empty fit reports 0 -/
example : rmseSq ([] : List ℚ) 5 = 0 := by norm_num [rmseSq, mse, sumSq]

/-- a concrete unit change: Langmuir `K = 2 /bar`, `n_m = 3 mmol/g` at `p = 1 bar` gives 2 mmol/g; in kPa (`a = 100`)
and mol/kg→cm³/g-like factor `b = 22` the transformed parameters give `22·2 = 44` -/
example : Langmuir_loading 2 3 1 = 2 := by unfold Langmuir_loading; norm_num
example : Langmuir_loading (2 / 100) (22 * 3) (100 * 1) = 44 := by unfold Langmuir_loading; norm_num
example : Langmuir_loading (2 / 100) (22 * 3) (100 * 1) = 22 * Langmuir_loading 2 3 1 :=
  langmuir_units 2 3 100 22 1 (by norm_num)

end examples

end PgVerif.Props.C12
