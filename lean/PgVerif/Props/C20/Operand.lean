/-
C20 — "an isotherm created with such a string is linked to that adsorbate", for the documented alternative to the string: the adsorbate
OBJECT as the constructor argument (finding S56-C20).

`BaseIsotherm.__init__` tests its three required descriptors with `None in [material, adsorbate, temperature]`.  Python's `x in list`
is "identical or EQUAL to an element", and `None == element` — `NoneType.__eq__` declines — is answered by the element's reflected
`__eq__(None)`.  For an `Adsorbate` element that is `Adsorbate.__eq__`, which (before the repair) sent every operand that is not an
adsorbate to `other.lower()`: `None.lower()` raises AttributeError, so the constructor refused every adsorbate object although
`Adsorbate.find`, the setter's look-up, returns an object as it is.  Repaired: `__eq__` answers strings and adsorbates as before and
DECLINES (NotImplemented: Python falls back to identity) everything else.

Stated here, over the string model of `Model/Registry.lean` (`eqStr`, any string type `σ`, any normalisation `norm`):
* `adsEq_str` / `adsEq_ads`: the repaired comparison is the old one on strings and adsorbates (nothing about `find` by name changes);
* `noneIn_eq_any`: with the repaired comparison the required check is TOTAL and is exactly "one of the arguments is None";
  `required_check_passes_object`: it lets an adsorbate object through; `find_object`: the setter's look-up holds that very object;
* `raising_eq_refuses_object`: with the old comparison the check raises for EVERY argument list in which an adsorbate object comes before
  the first `None` (the defect class), witness `raising_eq_refuses_object_witness`.
The tie to the real classes is the oracle of `harness/pgv/regroutes.py` (`_object_in_constructor`: the three isotherm classes and the
shorthand, every route's registry).
-/
import PgVerif.Model.Registry
import Mathlib.Tactic

namespace PgVerif.C20
open PgVerif.Model.Registry

section Operand
variable {σ : Type} [DecidableEq σ]

/-- what can stand in a required-descriptor slot of the constructor: `None`, a string, an adsorbate object (name, stored aliases), or any
other object whose own `__eq__` declines an unknown operand (numbers, lists, a `Material` compares its name: not equal to `None`) -/
inductive Arg (σ : Type)
  | none
  | str (s : σ)
  | ads (name : σ) (stored : List σ)
  | other
  deriving DecidableEq

def Arg.isNone : Arg σ → Bool
  | .none => true
  | _ => false

/-- `Adsorbate.__eq__(self, other)` as repaired; `Option.none` is `NotImplemented` -/
def adsEq (norm : σ → σ) (name : σ) (stored : List σ) : Arg σ → Option Bool
  | .ads n _ => some (decide (name = n))
  | .str s => some (eqStr norm stored s)
  | _ => Option.none

/-- `Adsorbate.__eq__` before the repair: whatever is not an adsorbate is sent `.lower()` (`error` = AttributeError) -/
def adsEqRaising (norm : σ → σ) (name : σ) (stored : List σ) : Arg σ → Except Unit (Option Bool)
  | .ads n _ => .ok (some (decide (name = n)))
  | .str s => .ok (some (eqStr norm stored s))
  | _ => .error ()

/-- `None == x`: `NoneType.__eq__` declines, the reflected `x.__eq__(None)` answers; declined on both sides = identity -/
def noneEq (eq : σ → List σ → Arg σ → Except Unit (Option Bool)) (x : Arg σ) : Except Unit Bool :=
  match x with
  | .none => .ok true
  | .ads n al => (eq n al .none).map (·.getD false)
  | _ => .ok false

/-- `None in [x₁, …, xₙ]`: left to right, identical or equal, stops at the first hit — or at the first comparison that raises -/
def noneIn (eq : σ → List σ → Arg σ → Except Unit (Option Bool)) : List (Arg σ) → Except Unit Bool
  | [] => .ok false
  | x :: t =>
    match noneEq eq x with
    | .error e => .error e
    | .ok true => .ok true
    | .ok false => noneIn eq t

/-- the repaired comparison as a total instance of the above -/
def eqTotal (norm : σ → σ) : σ → List σ → Arg σ → Except Unit (Option Bool) := fun n al x => .ok (adsEq norm n al x)

/-- `Adsorbate.find(x)` for the argument kinds it accepts: an object is returned as it is, a string is looked up -/
def findArg (norm : σ → σ) (reg : List ((σ × List σ) × List σ)) : Arg σ → Option (σ × List σ)
  | .ads n al => some (n, al)
  | .str s => findS norm reg s
  | _ => Option.none

/-- the repair keeps the comparison with a string: lower-cased membership among the stored aliases -/
theorem adsEq_str (norm : σ → σ) (name : σ) (stored : List σ) (s : σ) :
    adsEq norm name stored (.str s) = some (eqStr norm stored s) ∧ adsEqRaising norm name stored (.str s) = .ok (some (eqStr norm stored s)) :=
  ⟨rfl, rfl⟩

/-- … and with another adsorbate: equal names -/
theorem adsEq_ads (norm : σ → σ) (name : σ) (stored : List σ) (n : σ) (al : List σ) :
    adsEq norm name stored (.ads n al) = some (decide (name = n)) ∧
      adsEqRaising norm name stored (.ads n al) = .ok (some (decide (name = n))) :=
  ⟨rfl, rfl⟩

/-- with the repaired comparison the required check is total and says exactly "one of the arguments is None" -/
theorem noneIn_eq_any (norm : σ → σ) (xs : List (Arg σ)) : noneIn (eqTotal norm) xs = .ok (xs.any Arg.isNone) := by
  induction xs with
  | nil => rfl
  | cons x t ih =>
    cases x <;> simp [noneIn, noneEq, eqTotal, adsEq, Arg.isNone, Except.map, ih]

/-- an adsorbate object passes the required check (the other two descriptors given) … -/
theorem required_check_passes_object (norm : σ → σ) (m t : Arg σ) (n : σ) (al : List σ) (hm : m.isNone = false) (ht : t.isNone = false) :
    noneIn (eqTotal norm) [m, .ads n al, t] = .ok false := by
  rw [noneIn_eq_any]
  have h : (Arg.ads n al : Arg σ).isNone = false := rfl
  simp only [List.any_cons, List.any_nil, hm, ht, h, Bool.or_false]

/-- … and the setter's look-up holds that very object, whatever the registry -/
theorem find_object (norm : σ → σ) (reg : List ((σ × List σ) × List σ)) (n : σ) (al : List σ) :
    findArg norm reg (.ads n al) = some (n, al) := rfl

/-- the defect class: with a comparison that raises for operands that are neither strings nor adsorbates, the required check raises for
every argument list in which an adsorbate object comes before the first `None` — in particular for every complete set of descriptors that
contains an adsorbate object -/
theorem raising_eq_refuses_object (norm : σ → σ) (pre post : List (Arg σ)) (n : σ) (al : List σ)
    (hpre : ∀ x ∈ pre, x = .other ∨ ∃ s, x = .str s) :
    noneIn (adsEqRaising norm) (pre ++ .ads n al :: post) = .error () := by
  induction pre with
  | nil => simp [noneIn, noneEq, adsEqRaising, Except.map]
  | cons x t ih =>
    have hx := hpre x (by simp)
    have ht : ∀ y ∈ t, y = .other ∨ ∃ s, y = .str s := fun y hy => hpre y (by simp [hy])
    rcases hx with rfl | ⟨s, rfl⟩ <;> simp [noneIn, noneEq, ih ht]

end Operand

/-- witness on strings: `BaseIsotherm(material='m', adsorbate=<nitrogen object>, temperature=300)` — refused by the raising comparison,
accepted by the repaired one, which still answers `N2` (any letter case) and declines `None` -/
theorem raising_eq_refuses_object_witness :
    noneIn (adsEqRaising String.toLower) [.str "m", .ads "nitrogen" ["n2", "nitrogen"], .other] = .error () ∧
    noneIn (eqTotal String.toLower) [.str "m", .ads "nitrogen" ["n2", "nitrogen"], .other] = .ok false ∧
    noneIn (eqTotal String.toLower) [.str "m", .ads "nitrogen" ["n2", "nitrogen"], .none] = .ok true ∧
    adsEq String.toLower "nitrogen" ["n2", "nitrogen"] (.str "N2") = some true ∧
    adsEq String.toLower "nitrogen" ["n2", "nitrogen"] (.none) = none := by decide +kernel

end PgVerif.C20
