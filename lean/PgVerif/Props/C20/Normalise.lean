/-
C20 — "found by its name and by each of its aliases in any letter case", at the level of the strings themselves.

`Props/C20.lean` works on the generated registry, whose keys are the numbers of the LOWER-CASED alias strings: that the stored strings are
lower-cased is an assumption there.  This file proves where it comes from and why it is needed:

* the constructor model `ctorAlias` (`Adsorbate.__init__`) stores the normalised name and the normalised form of every written alias and
  nothing else; what it stores is a fixed point of the normalisation;
* hence, in ANY registry built by the constructor from written entries (the JSON source list, a database read back by
  `adsorbates_from_db`, user-made adsorbates) whose stored aliases do not collide, every written name and alias is found in every
  letter case, designates exactly one entry, and nothing else is found;
* a stored alias that is NOT a fixed point of the normalisation can never be matched by `__eq__` / `find` — not even by the identical
  string — so a constructor that keeps some aliases as written loses them (`kept_alias_not_found`, witness: `MEK` of 2-butanone).

`norm` is `str.lower`; the general statements need at most that it is idempotent (`String.toLower` is: `toLower_idem`).
The correspondence of `ctorAlias` / `findS` with the real constructor and the real `Adsorbate.find` is run by `harness/pgv/regroutes.py`
(driver ops `ctor`, `bfind` of `Drv/Registry.lean`).
-/
import PgVerif.Model.Registry
import PgVerif.Props.C20
import Mathlib.Data.List.Nodup
import Mathlib.Data.List.Basic
import Mathlib.Tactic

namespace PgVerif.C20
open PgVerif.Model.Registry PgVerif.Gen.Registry

section General
variable {σ : Type} [DecidableEq σ] {β : Type} (norm : σ → σ)

/-! ## what the constructor stores -/

theorem ctorAliasKeeping_none (name : σ) (al : Option (List σ)) :
    ctorAliasKeeping (fun _ => false) norm name al = ctorAlias norm name al := by
  cases al <;> simp [ctorAliasKeeping, ctorAlias]

/-- what the constructor stores: the normalised name, and every written alias in the form it is kept in -/
lemma mem_ctorAliasKeeping (keep : σ → Bool) (name : σ) (al : Option (List σ)) (s : σ) :
    s ∈ ctorAliasKeeping keep norm name al ↔ s = norm name ∨ ∃ a ∈ al.getD [], s = if keep a then a else norm a := by
  cases al with
  | none => simp [ctorAliasKeeping]
  | some as =>
    have hm : s ∈ as.map (fun a => if keep a then a else norm a) ↔ ∃ a ∈ as, s = if keep a then a else norm a := by
      simp only [List.mem_map]
      exact ⟨fun ⟨a, ha, h⟩ => ⟨a, ha, h.symm⟩, fun ⟨a, ha, h⟩ => ⟨a, ha, h.symm⟩⟩
    simp only [ctorAliasKeeping, Option.getD_some]
    split
    · rename_i h
      rw [List.contains_iff_mem] at h
      rw [hm, or_iff_right_of_imp]
      rintro rfl
      exact hm.1 h
    · rw [List.mem_append, List.mem_singleton, hm, or_comm]

lemma mem_ctorAlias (name : σ) (al : Option (List σ)) (s : σ) :
    s ∈ ctorAlias norm name al ↔ s = norm name ∨ ∃ a ∈ al.getD [], s = norm a := by
  rw [← ctorAliasKeeping_none, mem_ctorAliasKeeping]; simp

theorem ctor_stores_name (name : σ) (al : Option (List σ)) : norm name ∈ ctorAlias norm name al :=
  (mem_ctorAlias norm name al _).2 (.inl rfl)

theorem ctor_stores_every_alias (name : σ) (as : List σ) (a : σ) (ha : a ∈ as) :
    norm a ∈ ctorAlias norm name (some as) :=
  (mem_ctorAlias norm name (some as) _).2 (.inr ⟨a, ha, rfl⟩)

theorem ctor_stores_nothing_else (name : σ) (al : Option (List σ)) (s : σ) (hs : s ∈ ctorAlias norm name al) :
    s = norm name ∨ ∃ as a, al = some as ∧ a ∈ as ∧ s = norm a := by
  rcases (mem_ctorAlias norm name al s).1 hs with h | ⟨a, ha, h⟩
  · exact .inl h
  · cases al with
    | none => simp at ha
    | some as => exact .inr ⟨as, a, rfl, ha, h⟩

theorem ctor_stored_are_normalised (hn : ∀ x, norm (norm x) = norm x) (name : σ) (al : Option (List σ)) (s : σ)
    (hs : s ∈ ctorAlias norm name al) : norm s = s := by
  rcases ctor_stores_nothing_else norm name al s hs with rfl | ⟨_, a, _, _, rfl⟩ <;> exact hn _

/-- the written strings of an entry, normalised, are exactly what is stored (as sets) -/
theorem ctor_stored_iff (e : σ × Option (List σ)) (s : σ) :
    s ∈ ctorAlias norm e.1 e.2 ↔ ∃ a ∈ written e, s = norm a := by
  rw [mem_ctorAlias]
  simp [written, or_and_right, exists_or]

/-! ## `__eq__` with a string -/

/-- an adsorbate made by the constructor equals each of its written strings in any letter case -/
theorem eq_written_any_case (e : σ × Option (List σ)) (a : σ) (ha : a ∈ written e) (q : σ) (hq : norm q = norm a) :
    eqStr norm (ctorAlias norm e.1 e.2) q = true := by
  have : norm q ∈ ctorAlias norm e.1 e.2 := (ctor_stored_iff norm e (norm q)).mpr ⟨a, ha, hq⟩
  simpa [eqStr] using this

/-- and equals nothing else -/
theorem eq_only_written (e : σ × Option (List σ)) (q : σ) (h : eqStr norm (ctorAlias norm e.1 e.2) q = true) :
    ∃ a ∈ written e, norm q = norm a := by
  have : norm q ∈ ctorAlias norm e.1 e.2 := by simpa [eqStr] using h
  exact (ctor_stored_iff norm e (norm q)).mp this

/-- a stored alias that is not a fixed point of the normalisation is dead: `__eq__` gives the same answer with it removed -/
theorem unnormalised_alias_is_dead (hn : ∀ x, norm (norm x) = norm x) (stored : List σ) (q : σ) :
    eqStr norm stored q = eqStr norm (stored.filter fun s => decide (norm s = s)) q := by
  rw [Bool.eq_iff_iff]
  simp only [eqStr, List.contains_iff_mem, List.mem_filter, decide_eq_true_eq]
  exact ⟨fun h => ⟨h, hn q⟩, fun h => h.1⟩

/-- in particular no string at all — not even the identical one — matches it -/
theorem unnormalised_alias_never_matches (hn : ∀ x, norm (norm x) = norm x) (s : σ) (hs : norm s ≠ s) (q : σ) :
    eqStr norm [s] q = false := by
  rw [unnormalised_alias_is_dead norm hn]
  simp [eqStr, hs]

/-! ## `find` over the stored strings -/

/-- if no stored alias occurs twice, a string whose lower-cased form is stored with `e` is resolved to `e`, and designates only `e` -/
theorem findS_of_unique (reg : List (β × List σ)) (hu : (allAliases reg).Nodup)
    (e : β × List σ) (he : e ∈ reg) (q : σ) (hq : norm q ∈ e.2) :
    findS norm reg q = some e.1 ∧ designated norm reg q = [e.1] :=
  findS_resolves_of_nodup norm reg hu e he q hq

/-- a string whose lower-cased form is stored nowhere is not found (`Adsorbate.find` raises `ParameterError`) and designates nothing -/
theorem findS_none_of_absent (reg : List (β × List σ)) (q : σ) (h : norm q ∉ allAliases reg) :
    findS norm reg q = none ∧ designated norm reg q = [] :=
  findS_none_of_not_mem norm reg q h

/-- whatever `find` returns was stored under the lower-cased query, which is a fixed point of the normalisation:
only normalised stored strings can ever be the reason of a match -/
theorem findS_some_needs_normalised_key (hn : ∀ x, norm (norm x) = norm x) (reg : List (β × List σ)) (q : σ) (b : β)
    (h : findS norm reg q = some b) : ∃ e ∈ reg, e.1 = b ∧ ∃ s ∈ e.2, s = norm q ∧ norm s = s := by
  unfold findS at h
  obtain ⟨e, hf, rfl⟩ := Option.map_eq_some_iff.mp h
  refine ⟨e, List.mem_of_find?_eq_some hf, rfl, norm q, ?_, rfl, hn q⟩
  simpa [eqStr] using List.find?_some hf

/-- every registry built by the constructor: if the stored aliases do not collide, each written name and alias of each entry, in
any letter case, is resolved to that entry and designates exactly that entry -/
theorem find_written_alias_any_case (entries : List (σ × Option (List σ)))
    (hu : (allAliases (build norm entries)).Nodup)
    (e : σ × Option (List σ)) (he : e ∈ entries) (a : σ) (ha : a ∈ written e) (q : σ) (hq : norm q = norm a) :
    findS norm (build norm entries) q = some e.1 ∧ designated norm (build norm entries) q = [e.1] := by
  have hmem : (e.1, ctorAlias norm e.1 e.2) ∈ build norm entries := List.mem_map.mpr ⟨e, he, rfl⟩
  have hk : norm q ∈ ((e.1, ctorAlias norm e.1 e.2) : σ × List σ).2 :=
    (ctor_stored_iff norm e (norm q)).mpr ⟨a, ha, hq⟩
  exact findS_of_unique norm _ hu _ hmem q hk

/-- and a string that is, in lower case, none of the written strings is not found -/
theorem find_unwritten_none (entries : List (σ × Option (List σ))) (q : σ)
    (h : ∀ e ∈ entries, ∀ a ∈ written e, norm q ≠ norm a) :
    findS norm (build norm entries) q = none ∧ designated norm (build norm entries) q = [] := by
  apply findS_none_of_absent
  intro hc
  obtain ⟨r, hr, hs⟩ := List.mem_flatMap.mp hc
  obtain ⟨e, he, rfl⟩ := List.mem_map.mp hr
  obtain ⟨a, ha, h'⟩ := (ctor_stored_iff norm e (norm q)).mp hs
  exact h e he a ha h'

/-- why the constructor must normalise: with a constructor that keeps the aliases selected by `keep` as written, a kept alias `a`
is found in NO letter case (not even as written), unless its lower-cased form happens to be stored for another reason (it is the
lower-cased name of an entry, the lower-cased form of an alias that is not kept, or literally a kept alias) -/
theorem kept_alias_not_found (keep : σ → Bool) (entries : List (σ × Option (List σ))) (a : σ)
    (h1 : ∀ e ∈ entries, norm e.1 ≠ norm a)
    (h2 : ∀ e ∈ entries, ∀ a' ∈ e.2.getD [], (if keep a' then a' else norm a') ≠ norm a)
    (q : σ) (hq : norm q = norm a) :
    findS norm (buildKeeping keep norm entries) q = none := by
  refine (findS_none_of_absent norm _ q ?_).1
  intro hc
  obtain ⟨r, hr, hs⟩ := List.mem_flatMap.mp hc
  obtain ⟨e, he, rfl⟩ := List.mem_map.mp hr
  rw [hq] at hs
  rcases (mem_ctorAliasKeeping norm keep e.1 e.2 _).1 hs with h | ⟨a', ha', h⟩
  · exact h1 e he h.symm
  · exact h2 e he a' ha' h.symm

/-- the hypotheses of `kept_alias_not_found` are met by the alias itself exactly when it is not a fixed point:
a kept alias that is already lower-case is stored as its own lower-cased form and stays findable -/
theorem kept_normalised_alias_still_found (keep : σ → Bool) (name : σ) (as : List σ) (a : σ) (ha : a ∈ as) (hfix : norm a = a)
    (q : σ) (hq : norm q = norm a) : eqStr norm (ctorAliasKeeping keep norm name (some as)) q = true := by
  simp only [eqStr, List.contains_iff_mem, hq]
  exact (mem_ctorAliasKeeping norm keep name (some as) _).2 (.inr ⟨a, ha, by split <;> simp [hfix]⟩)

/-! ## the string model and the key model agree -/

/-- `find` over numeric keys (`Props/C20.lean`, the generated registry) is `findS` over the strings, for any injective key function -/
theorem findS_eq_find (enc : σ → Nat) (hinj : Function.Injective enc) (reg : List (β × List σ)) (q : σ) :
    findS norm reg q = find (reg.map fun e => (e.1, e.2.map enc)) (enc (norm q)) := by
  unfold findS find eqStr
  induction reg with
  | nil => rfl
  | cons a rest ih =>
    have hiff : (a.2.map enc).contains (enc (norm q)) = a.2.contains (norm q) := by
      rw [Bool.eq_iff_iff]
      simp only [List.contains_iff_mem, List.mem_map]
      exact ⟨fun ⟨x, hx, hxe⟩ => hinj hxe ▸ hx, fun h => ⟨_, h, rfl⟩⟩
    simp only [List.map_cons, List.find?_cons, hiff]
    cases a.2.contains (norm q) with
    | true => rfl
    | false => exact ih

end General

/-! ## `str.lower` on ASCII: `String.toLower` is idempotent -/

private theorem char_toLower_idem (c : Char) : c.toLower.toLower = c.toLower := by
  simp only [Char.toLower]
  split
  · split
    · next h1 h2 =>
      simp only [UInt32.le_iff_toNat_le, UInt32.toNat_add, seval] at h1 h2
      omega
    · simp
  · rfl

theorem toLower_idem (s : String) : s.toLower.toLower = s.toLower := by
  unfold String.toLower
  rw [String.map_map, Function.comp_def]
  simp [char_toLower_idem]

/-! ## the generated registry, as strings -/

private lemma byteArray_foldl_loop {γ : Type} (f : γ → UInt8 → γ) (as : ByteArray) :
    ∀ (i j : Nat) (b : γ), i + j = as.size →
      ByteArray.foldlM.loop (m := Id) (fun b x => pure (f b x)) as as.size (Nat.le_refl _) i j b
        = (as.data.toList.drop j).foldl f b := by
  have hs : as.data.toList.length = as.size := by cases as; rfl
  intro i
  induction i with
  | zero =>
    intro j b h
    unfold ByteArray.foldlM.loop
    rw [dif_neg (by omega), List.drop_eq_nil_of_le (by omega)]
    rfl
  | succ i ih =>
    intro j b h
    have hj : j < as.size := by omega
    have hd : as.data.toList.drop j = as[j] :: as.data.toList.drop (j + 1) := by
      rw [List.drop_eq_getElem_cons (by omega)]; rfl
    unfold ByteArray.foldlM.loop
    rw [dif_pos hj, hd, List.foldl_cons]
    exact ih (j + 1) _ (by omega)

/-- `encode` as a fold over the LIST of UTF-8 bytes -/
lemma encode_eq_foldl (s : String) : encode s = s.toUTF8.data.toList.foldl (fun n b => n * 256 + b.toNat) 1 := by
  unfold encode ByteArray.foldl ByteArray.foldlM
  simp only [Nat.le_refl, dite_true, Nat.sub_zero]
  exact byteArray_foldl_loop _ _ _ 0 1 (by simp)

/-- the generated keys are the keys of the generated alias strings (the translator's pairing, decided on every regeneration) -/
theorem db_keys_are_encoded_aliases : dbKeys = dbAliases.map (fun e => (e.1, e.2.map encode)) := by
  -- evaluated on the byte list: the kernel runs `List.foldl` several times faster than the index loop of `ByteArray.foldl`
  rw [funext encode_eq_foldl]; decide +kernel

theorem db_alias_strings_unique : (allAliases dbAliases).Nodup := by
  have h := db_alias_unique
  rw [db_keys_are_encoded_aliases] at h
  have hmap : allKeys (dbAliases.map fun e => (e.1, e.2.map encode)) = (allAliases dbAliases).map encode := by
    simp only [allKeys, allAliases, List.flatMap_map, List.map_flatMap]
  rw [hmap] at h
  exact List.Nodup.of_map _ h

/-- every shipped adsorbate is found by each of its stored aliases in any letter case, and the string designates exactly that
adsorbate (`a` ranges over the alias strings as `ADSORBATE_LIST` stores them, i.e. lower-cased — by `ctor_stored_are_normalised`
for every adsorbate the constructor made; letter case in the sense of `String.toLower`: ASCII, which all shipped strings are) -/
theorem shipped_found_in_any_case (e : String × List String) (he : e ∈ dbAliases) (a : String) (ha : a ∈ e.2)
    (q : String) (hq : q.toLower = a) :
    findS String.toLower dbAliases q = some e.1 ∧ designated String.toLower dbAliases q = [e.1] :=
  findS_of_unique String.toLower dbAliases db_alias_strings_unique e he q (hq ▸ ha)

/-! ## non-vacuity and the witness of the defect class -/

/- The kernel compares a computed string with a literal quickly, two computed strings very slowly (≈ 7·10⁷ heartbeats for one
`"n2".toLower == "N2".toLower`): where `norm name` meets `norm alias`, the literals are lower-cased first. -/
private lemma lower_written : "N2".toLower = "n2" ∧ "n2".toLower = "n2" ∧ "Nitrogen".toLower = "nitrogen" ∧
    "acetone".toLower = "acetone" ∧ "DMK".toLower = "dmk" ∧ "2-butanone".toLower = "2-butanone" ∧ "MEK".toLower = "mek" ∧
    "butanone".toLower = "butanone" ∧ "Mek".toLower = "mek" := by decide +kernel

/-- the constructor on an entry as written in adsorbates.json -/
example : ctorAlias String.toLower "2-butanone" (some ["MEK", "butanone", "Methyl Ethyl Ketone"])
    = ["mek", "butanone", "methyl ethyl ketone", "2-butanone"] := by decide +kernel
example : ctorAlias String.toLower "Xe" none = ["xe"] := by decide +kernel
example : ctorAlias String.toLower "N2" (some ["n2", "Nitrogen"]) = ["n2", "nitrogen"] := by
  simp only [ctorAlias, List.map_cons, List.map_nil, lower_written]
  decide +kernel

/-- found by the acronym in any case when the constructor normalises … -/
example : findS String.toLower (build String.toLower [("acetone", some ["DMK"]), ("2-butanone", some ["MEK", "butanone"])]) "Mek"
    = some "2-butanone" := by
  simp only [findS, eqStr, build, ctorAlias, List.map_cons, List.map_nil, lower_written]
  decide +kernel

/-- … and in no case — not even as written — when all-upper-case aliases are kept as written -/
example : let keep := fun (a : String) => a.toUpper == a && a.toLower != a
    let reg := buildKeeping keep String.toLower [("acetone", some ["DMK"]), ("2-butanone", some ["MEK", "butanone"])]
    findS String.toLower reg "MEK" = none ∧ findS String.toLower reg "mek" = none ∧ findS String.toLower reg "Mek" = none ∧
    findS String.toLower reg "butanone" = some "2-butanone" := by decide +kernel

example : eqStr String.toLower ["MEK"] "MEK" = false := by decide +kernel
example : "MEK".toLower ≠ "MEK" := by decide +kernel

/-- the hypotheses of `shipped_found_in_any_case` are met by the shipped nitrogen -/
example : findS String.toLower dbAliases "N2" = some "nitrogen" := by decide +kernel

end PgVerif.C20
