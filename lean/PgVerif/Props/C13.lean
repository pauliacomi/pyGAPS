/-
C13 — IAST results satisfy the IAST equations and known closed forms.

The root finding of `iast_point` / `reverse_iast` (scipy `optimize.root`) is numerical and is certified per result by
the harness.  Here: everything around it that is algebra.

* A. the arithmetic after the solver (`PgVerif.Model.Iast`): completed fractions sum to one, component loadings add up
     to the total, the fractions recomputed from the loadings are the solver's, ideal mixing rule, range check,
     wrappers (`iast_point_fraction`, `iast_binary_svp`, `iast_binary_vle`);
* B. closed forms: for Henry mixtures and equal-capacity Langmuir mixtures (any number of components) the published
     closed form solves the IAST equations, about the GENERATED `Gen.R.Henry_*`, `Gen.R.Langmuir_*`;
* C. uniqueness of the solution (binary; n components, also for spreading pressures that are strictly increasing only
     on a set per component: `solution_unique_on`), permutation equivariance, forward / reverse inversion, instances
     for the library's own spreading pressures;
* D. non-vacuity examples.
(E–G, the raw-data certificate for point-isotherm mixtures and its uniqueness: `Props/C13/Point.lean`; H–L, the same on the
rows of one branch of a hysteretic isotherm: `Props/C13/Branch.lean`; the acceptance test of the solver's return: `Props/C13/Accept.lean`;
`iast_binary_svp` over a sequence of pressures: `Props/C13/Order.lean`.)

Part A is over an arbitrary field (the harness runs the model at ℚ), B/C over ℝ.
-/
import PgVerif.Model.Iast
import PgVerif.Gen.ModelsR
import PgVerif.Props.C11.Analytic
import Mathlib.Tactic

namespace PgVerif.Props.C13
open PgVerif.Model.Iast PgVerif.Gen.R

/-! ## A. arithmetic after the solver -/

section A
variable {α : Type} [Field α]

theorem complete_sum (free : List α) : (complete free).sum = 1 := by
  simp [complete]

theorem complete_length (free : List α) : (complete free).length = free.length + 1 := by
  simp [complete]

lemma totalLoading_ne_zero (x n0 : List α) (h : inverseLoading x n0 ≠ 0) : totalLoading x n0 ≠ 0 := by
  unfold totalLoading; exact one_div_ne_zero h

theorem loadings_sum (x n0 : List α) (_hinv : inverseLoading x n0 ≠ 0) (hx : x.sum = 1) :
    (loadings x n0).sum = totalLoading x n0 := by
  unfold loadings
  rw [List.sum_map_mul_right, List.map_id', hx, one_mul]

theorem loadings_length (x n0 : List α) : (loadings x n0).length = x.length := by
  simp [loadings]

theorem loadings_fraction (x n0 : List α) (hinv : inverseLoading x n0 ≠ 0) :
    (loadings x n0).map (· / totalLoading x n0) = x := by
  have ht := totalLoading_ne_zero x n0 hinv
  unfold loadings
  rw [List.map_map]
  exact (List.map_congr_left (g := id) fun a _ => mul_div_cancel_right₀ a ht).trans (List.map_id x)

theorem loadings_fraction_getElem (x n0 : List α) (hinv : inverseLoading x n0 ≠ 0) (i : ℕ)
    (hi : i < (loadings x n0).length) (hi' : i < x.length) :
    (loadings x n0)[i] / totalLoading x n0 = x[i] := by
  have ht := totalLoading_ne_zero x n0 hinv
  simp only [loadings, List.getElem_map]
  field_simp

theorem loadings_fraction_of_sum (x n0 : List α) (hinv : inverseLoading x n0 ≠ 0) (hx : x.sum = 1) :
    (loadings x n0).map (· / (loadings x n0).sum) = x := by
  rw [loadings_sum x n0 hinv hx]; exact loadings_fraction x n0 hinv

theorem ideal_mixing (x n0 : List α) (_hinv : inverseLoading x n0 ≠ 0) :
    1 / totalLoading x n0 = (List.zipWith (· / ·) x n0).sum := by
  unfold totalLoading inverseLoading
  rw [one_div_one_div]

theorem fractionsValid_iff [LinearOrder α] (x : List α) :
    fractionsValid x = true ↔ ∀ v ∈ x, 0 ≤ v ∧ v ≤ 1 := by
  simp [fractionsValid, List.all_eq_true]

/-- `iast_point_fraction` feeds `iast_point` with partial pressures whose fictitious pressures are those of
`reverse_iast`: the forward and the reverse problem use the same fictitious pressures -/
theorem partialPressures_fictitious (y x : List α) (P : α) :
    fictitious (partialPressures y P) x = fictitiousReverse P y x := by
  unfold fictitious partialPressures fictitiousReverse
  rw [List.zipWith_map_left]

theorem partialPressures_length (y : List α) (P : α) : (partialPressures y P).length = y.length := by
  simp [partialPressures]

/-- `iast_binary_svp` returns the published selectivity `(x₀/y₀)/(x₁/y₁)` with `x_i = n_i / (n₀ + n₁)` -/
theorem selectivity_def (n0 n1 y0 y1 : α) (h : n0 + n1 ≠ 0) :
    selectivity n0 n1 y0 y1 = ((n0 / (n0 + n1)) / y0) / ((n1 / (n0 + n1)) / y1) := by
  unfold selectivity
  have e0 : n0 / (n0 + n1) / y0 = (n0 / y0) / (n0 + n1) := div_right_comm _ _ _
  have e1 : n1 / (n0 + n1) / y1 = (n1 / y1) / (n0 + n1) := div_right_comm _ _ _
  rw [e0, e1, div_div_div_cancel_right₀ h]

/-- `iast_binary_vle` returns the adsorbed fraction of component 0 -/
theorem vleX_def (n0 n1 : α) : vleX n0 n1 = n0 / (n0 + n1) := rfl

theorem vleX_complement (n0 n1 : α) (h : n0 + n1 ≠ 0) : vleX n0 n1 + vleX n1 n0 = 1 := by
  unfold vleX; rw [add_comm n1 n0]; field_simp

/-- applied to the loadings of a binary IAST point, `vleX` is the solver's fraction `x₀` -/
theorem vleX_loadings (x0 x1 m0 m1 : α) (hinv : inverseLoading [x0, x1] [m0, m1] ≠ 0) (hx : x0 + x1 = 1) :
    vleX (x0 * totalLoading [x0, x1] [m0, m1]) (x1 * totalLoading [x0, x1] [m0, m1]) = x0 := by
  have ht := totalLoading_ne_zero _ _ hinv
  unfold vleX
  rw [← add_mul, hx, one_mul]; field_simp

/-- applied to the loadings of a binary IAST point, `selectivity` is `(x₀/y₀)/(x₁/y₁)` -/
theorem selectivity_loadings (x0 x1 m0 m1 y0 y1 : α) (hinv : inverseLoading [x0, x1] [m0, m1] ≠ 0) :
    selectivity (x0 * totalLoading [x0, x1] [m0, m1]) (x1 * totalLoading [x0, x1] [m0, m1]) y0 y1
      = (x0 / y0) / (x1 / y1) := by
  have ht := totalLoading_ne_zero _ _ hinv
  unfold selectivity
  generalize totalLoading [x0, x1] [m0, m1] = t at ht
  have e0 : x0 * t / y0 = (x0 / y0) * t := mul_div_right_comm _ _ _
  have e1 : x1 * t / y1 = (x1 / y1) * t := mul_div_right_comm _ _ _
  rw [e0, e1, mul_div_mul_right _ _ ht]

end A

/-! ## B. closed forms -/

/-- `S = Σ K_i p_i` -/
noncomputable def mixS (Ks ps : List ℝ) : ℝ := (List.zipWith (· * ·) Ks ps).sum

/-- the closed-form adsorbed fractions `x_i = K_i p_i / S` -/
noncomputable def mixX (Ks ps : List ℝ) : List ℝ := List.zipWith (fun K p => K * p / mixS Ks ps) Ks ps

section helpersB

lemma zipWith_mul_pos (Ks ps : List ℝ) (hK : ∀ K ∈ Ks, 0 < K) (hp : ∀ p ∈ ps, 0 < p) :
    ∀ w ∈ List.zipWith (· * ·) Ks ps, 0 < w := by
  intro w hw
  rw [← List.map_uncurry_zip_eq_zipWith, List.mem_map] at hw
  obtain ⟨⟨K, p⟩, hm, rfl⟩ := hw
  exact mul_pos (hK K (List.of_mem_zip hm).1) (hp p (List.of_mem_zip hm).2)

lemma mixX_eq_map (Ks ps : List ℝ) :
    mixX Ks ps = (List.zipWith (· * ·) Ks ps).map (· / mixS Ks ps) := by
  unfold mixX; rw [List.map_zipWith]

lemma mixX_length (Ks ps : List ℝ) (hlen : Ks.length = ps.length) : (mixX Ks ps).length = Ks.length := by
  simp [mixX, hlen]

lemma mixX_getElem (Ks ps : List ℝ) (i : ℕ) (h : i < (mixX Ks ps).length) (h1 : i < Ks.length)
    (h2 : i < ps.length) : (mixX Ks ps)[i] = Ks[i] * ps[i] / mixS Ks ps := by
  simp [mixX]

lemma mixX_sum (Ks ps : List ℝ) (hS : mixS Ks ps ≠ 0) : (mixX Ks ps).sum = 1 := by
  rw [mixX_eq_map]
  simp only [div_eq_mul_inv]
  rw [List.sum_map_mul_right, List.map_id']
  exact mul_inv_cancel₀ hS

lemma loadings_of_const (x n0 : List ℝ) (N : ℝ) (hx : x.sum = 1) (hlen : n0.length = x.length)
    (h : ∀ i (hi : i < n0.length), n0[i] = N) : loadings x n0 = x.map (· * N) := by
  have e : List.zipWith (· / ·) x n0 = x.map (· / N) := by
    apply List.ext_getElem
    · simp [hlen]
    · intro i h1 h2
      simp only [List.length_zipWith, lt_min_iff] at h1
      simp [h i h1.2]
  have hinv : inverseLoading x n0 = 1 / N := by
    unfold inverseLoading
    rw [e]
    simp only [div_eq_mul_inv]
    rw [List.sum_map_mul_right, List.map_id', hx]
  unfold loadings totalLoading
  rw [hinv, one_div_one_div]

/-- the fictitious pressure of component `i` in the closed form, times `K_i`, is `S` -/
lemma K_mul_fict (K p S : ℝ) (hK : 0 < K) (hp : 0 < p) (hS : 0 < S) : K * (p / (K * p / S)) = S := by
  field_simp

lemma pair_eq_const {a b N : ℝ} (ha : a = N) (hb : b = N) (i : ℕ) (hi : i < [a, b].length) : [a, b][i] = N := by
  match i, hi with
  | 0, _ => exact ha
  | 1, _ => exact hb

/-- the fraction `w/S` of the total loading `n_m S/(1+S)` is the extended-Langmuir loading of the component -/
lemma extended_langmuir (nm K p : ℝ) {S : ℝ} (hS : S ≠ 0) :
    K * p / S * (nm * S / (1 + S)) = nm * K * p / (1 + S) := by
  rw [div_mul_div_comm, mul_comm S, mul_left_comm (K * p), ← mul_assoc, mul_div_mul_right _ _ hS, mul_assoc]

lemma henry_sp_eq (K q : ℝ) : Henry_spreading_pressure K q = K * q := rfl
lemma henry_loading_eq (K q : ℝ) : Henry_loading K q = K * q := rfl
lemma langmuir_sp_eq (K nm q : ℝ) : Langmuir_spreading_pressure K nm q = nm * Real.log (1 + K * q) := rfl
lemma langmuir_loading_eq (K nm q : ℝ) : Langmuir_loading K nm q = nm * (K * q) / (1 + K * q) := rfl

lemma binary_fractions (K1 K2 p1 p2 : ℝ) (hK1 : 0 < K1) (hK2 : 0 < K2) (hp1 : 0 < p1) (hp2 : 0 < p2) :
    let S := K1 * p1 + K2 * p2
    let x1 := K1 * p1 / S
    let x2 := K2 * p2 / S
    0 < S ∧ x1 + x2 = 1 ∧ (0 < x1 ∧ x1 < 1) ∧ (0 < x2 ∧ x2 < 1) ∧ K1 * (p1 / x1) = S ∧ K2 * (p2 / x2) = S := by
  intro S x1 x2
  have h1 : 0 < K1 * p1 := mul_pos hK1 hp1
  have h2 : 0 < K2 * p2 := mul_pos hK2 hp2
  have hS : 0 < S := add_pos h1 h2
  exact ⟨hS, (add_div _ _ _).symm.trans (div_self hS.ne'),
    ⟨div_pos h1 hS, (div_lt_one hS).mpr (lt_add_of_pos_right _ h2)⟩,
    ⟨div_pos h2 hS, (div_lt_one hS).mpr (lt_add_of_pos_left _ h1)⟩,
    K_mul_fict K1 p1 S hK1 hp1 hS, K_mul_fict K2 p2 S hK2 hp2 hS⟩

/-! closed-form fractions of a mixture of `Ks.length` components, all `K_i`, `p_i` positive -/
section closedForm
variable (Ks ps : List ℝ) (hlen : Ks.length = ps.length) (hne : Ks ≠ []) (hK : ∀ K ∈ Ks, 0 < K) (hp : ∀ p ∈ ps, 0 < p)
include hlen hne hK hp

lemma mixS_pos : 0 < mixS Ks ps := by
  apply List.sum_pos _ (zipWith_mul_pos Ks ps hK hp)
  intro h
  have h' := congrArg List.length h
  simp only [List.length_zipWith, ← hlen, min_self, List.length_nil] at h'
  exact hne (List.length_eq_zero_iff.mp h')

lemma mixX_mem : ∀ v ∈ mixX Ks ps, 0 < v ∧ v ≤ 1 := by
  have hS := mixS_pos Ks ps hlen hne hK hp
  intro v hv
  rw [mixX_eq_map, List.mem_map] at hv
  obtain ⟨w, hw, rfl⟩ := hv
  have hw0 := zipWith_mul_pos Ks ps hK hp w hw
  have hwS : w ≤ mixS Ks ps :=
    List.single_le_sum (fun y hy => (zipWith_mul_pos Ks ps hK hp y hy).le) w hw
  exact ⟨div_pos hw0 hS, (div_le_one hS).mpr hwS⟩

lemma mixX_spec :
    (mixX Ks ps).length = Ks.length ∧ (mixX Ks ps).sum = 1 ∧ (∀ v ∈ mixX Ks ps, 0 < v ∧ v ≤ 1) ∧
    ∀ i (h1 : i < Ks.length) (h2 : i < (fictitious ps (mixX Ks ps)).length),
      Ks[i] * (fictitious ps (mixX Ks ps))[i] = mixS Ks ps := by
  have hS := mixS_pos Ks ps hlen hne hK hp
  have hxl := mixX_length Ks ps hlen
  refine ⟨hxl, mixX_sum Ks ps hS.ne', mixX_mem Ks ps hlen hne hK hp, fun i h1 h2 => ?_⟩
  have h3 : i < ps.length := hlen ▸ h1
  simp only [fictitious, List.getElem_zipWith, mixX_getElem Ks ps i (hxl ▸ h1) h1 h3]
  exact K_mul_fict _ _ _ (hK _ (List.getElem_mem h1)) (hp _ (List.getElem_mem h3)) hS

/-- a model whose loading at the fictitious pressure depends on `K_i p_i / x_i = S` only (`f K q = N` whenever
`K q = S`): the IAST loadings computed from the closed-form fractions are `x_i N` -/
lemma mixX_loadings (f : ℝ → ℝ → ℝ) (N : ℝ) (hf : ∀ K q, K * q = mixS Ks ps → f K q = N) :
    loadings (mixX Ks ps) (List.zipWith f Ks (fictitious ps (mixX Ks ps)))
      = List.zipWith (fun K p => K * p / mixS Ks ps * N) Ks ps := by
  obtain ⟨hxl, hsum, -, key⟩ := mixX_spec Ks ps hlen hne hK hp
  rw [loadings_of_const (mixX Ks ps) _ N hsum (by simp [fictitious, hxl, hlen]), mixX, List.map_zipWith]
  intro i hi
  simp only [List.length_zipWith, lt_min_iff] at hi
  rw [List.getElem_zipWith]
  exact hf _ _ (key i hi.1 (by simpa [fictitious] using hi.2))

end closedForm

end helpersB

/-- Binary Henry mixture: `x_i = K_i p_i / (K₁ p₁ + K₂ p₂)` are valid fractions, give both components the
spreading pressure `K₁ p₁ + K₂ p₂`, and the IAST loadings are `n_i = K_i p_i`. -/
theorem henry_binary (K1 K2 p1 p2 : ℝ) (hK1 : 0 < K1) (hK2 : 0 < K2) (hp1 : 0 < p1) (hp2 : 0 < p2) :
    let S := K1 * p1 + K2 * p2
    let x1 := K1 * p1 / S
    let x2 := K2 * p2 / S
    x1 + x2 = 1 ∧ (0 < x1 ∧ x1 < 1) ∧ (0 < x2 ∧ x2 < 1) ∧
    Henry_spreading_pressure K1 (p1 / x1) = S ∧ Henry_spreading_pressure K2 (p2 / x2) = S ∧
    loadings [x1, x2] [Henry_loading K1 (p1 / x1), Henry_loading K2 (p2 / x2)] = [K1 * p1, K2 * p2] := by
  intro S x1 x2
  obtain ⟨hS, hsum, hx1, hx2, e1, e2⟩ := binary_fractions K1 K2 p1 p2 hK1 hK2 hp1 hp2
  refine ⟨hsum, hx1, hx2, e1, e2, ?_⟩
  have hl := pair_eq_const (a := Henry_loading K1 (p1 / x1)) (b := Henry_loading K2 (p2 / x2)) e1 e2
  rw [loadings_of_const [x1, x2] _ S (by rw [List.sum_pair, hsum]) (by rfl) hl]
  exact congrArg₂ (fun a b => [a, b]) (div_mul_cancel₀ _ hS.ne') (div_mul_cancel₀ _ hS.ne')

/-- Henry mixture with any number of components (`Ks`, `ps` of the same positive length, all positive):
(a) the closed-form fractions sum to one and lie in `(0, 1]`; (b) every component has spreading pressure `S` at its
fictitious pressure `p_i / x_i`; (c) the IAST loadings computed from these fractions are `n_i = K_i p_i`. -/
theorem henry_closed_form_solves (Ks ps : List ℝ) (hlen : Ks.length = ps.length) (hne : Ks ≠ [])
    (hK : ∀ K ∈ Ks, 0 < K) (hp : ∀ p ∈ ps, 0 < p) :
    (mixX Ks ps).length = Ks.length ∧ (mixX Ks ps).sum = 1 ∧ (∀ v ∈ mixX Ks ps, 0 < v ∧ v ≤ 1) ∧
    (∀ i (h1 : i < Ks.length) (h2 : i < (fictitious ps (mixX Ks ps)).length),
      Henry_spreading_pressure Ks[i] (fictitious ps (mixX Ks ps))[i] = mixS Ks ps) ∧
    loadings (mixX Ks ps) (List.zipWith Henry_loading Ks (fictitious ps (mixX Ks ps)))
      = List.zipWith (· * ·) Ks ps := by
  have hS := mixS_pos Ks ps hlen hne hK hp
  obtain ⟨hxl, hsum, hmem, key⟩ := mixX_spec Ks ps hlen hne hK hp
  refine ⟨hxl, hsum, hmem, key, ?_⟩
  rw [mixX_loadings Ks ps hlen hne hK hp Henry_loading (mixS Ks ps) fun K q h => h]
  congr
  funext K p
  exact div_mul_cancel₀ _ hS.ne'

/-- Binary Langmuir mixture with equal capacities `n_m`: the same fractions solve the IAST equations, the common
spreading pressure is `n_m log (1 + K₁ p₁ + K₂ p₂)` and the IAST loadings are the extended-Langmuir loadings. -/
theorem langmuir_equal_capacity_binary (nm K1 K2 p1 p2 : ℝ) (hnm : 0 < nm) (hK1 : 0 < K1) (hK2 : 0 < K2)
    (hp1 : 0 < p1) (hp2 : 0 < p2) :
    let S := K1 * p1 + K2 * p2
    let x1 := K1 * p1 / S
    let x2 := K2 * p2 / S
    x1 + x2 = 1 ∧ (0 < x1 ∧ x1 < 1) ∧ (0 < x2 ∧ x2 < 1) ∧
    Langmuir_spreading_pressure K1 nm (p1 / x1) = nm * Real.log (1 + S) ∧
    Langmuir_spreading_pressure K2 nm (p2 / x2) = nm * Real.log (1 + S) ∧
    loadings [x1, x2] [Langmuir_loading K1 nm (p1 / x1), Langmuir_loading K2 nm (p2 / x2)]
      = [nm * K1 * p1 / (1 + S), nm * K2 * p2 / (1 + S)] := by
  intro S x1 x2
  obtain ⟨hS, hsum, hx1, hx2, e1, e2⟩ := binary_fractions K1 K2 p1 p2 hK1 hK2 hp1 hp2
  refine ⟨hsum, hx1, hx2, by rw [langmuir_sp_eq, e1], by rw [langmuir_sp_eq, e2], ?_⟩
  have hl := pair_eq_const (a := Langmuir_loading K1 nm (p1 / x1)) (b := Langmuir_loading K2 nm (p2 / x2))
    (N := nm * S / (1 + S)) (by rw [langmuir_loading_eq, e1]) (by rw [langmuir_loading_eq, e2])
  rw [loadings_of_const [x1, x2] _ (nm * S / (1 + S)) (by rw [List.sum_pair, hsum]) (by rfl) hl]
  exact congrArg₂ (fun a b => [a, b]) (extended_langmuir nm K1 p1 hS.ne') (extended_langmuir nm K2 p2 hS.ne')

/-- Equal-capacity Langmuir mixture with any number of components: (a) the closed-form fractions `K_i p_i / S` are
valid; (b) every component has spreading pressure `n_m log (1 + S)` at its fictitious pressure; (c) the IAST loadings
computed from these fractions are the extended-Langmuir loadings `n_m K_i p_i / (1 + S)`. -/
theorem langmuir_equal_capacity_closed_form_solves (nm : ℝ) (Ks ps : List ℝ) (hnm : 0 < nm)
    (hlen : Ks.length = ps.length) (hne : Ks ≠ []) (hK : ∀ K ∈ Ks, 0 < K) (hp : ∀ p ∈ ps, 0 < p) :
    (mixX Ks ps).length = Ks.length ∧ (mixX Ks ps).sum = 1 ∧ (∀ v ∈ mixX Ks ps, 0 < v ∧ v ≤ 1) ∧
    (∀ i (h1 : i < Ks.length) (h2 : i < (fictitious ps (mixX Ks ps)).length),
      Langmuir_spreading_pressure Ks[i] nm (fictitious ps (mixX Ks ps))[i] = nm * Real.log (1 + mixS Ks ps)) ∧
    loadings (mixX Ks ps) (List.zipWith (fun K q => Langmuir_loading K nm q) Ks (fictitious ps (mixX Ks ps)))
      = List.zipWith (fun K p => nm * K * p / (1 + mixS Ks ps)) Ks ps := by
  have hS := mixS_pos Ks ps hlen hne hK hp
  obtain ⟨hxl, hsum, hmem, key⟩ := mixX_spec Ks ps hlen hne hK hp
  refine ⟨hxl, hsum, hmem, fun i h1 h2 => by rw [langmuir_sp_eq, key i h1 h2], ?_⟩
  rw [mixX_loadings Ks ps hlen hne hK hp (fun K q => Langmuir_loading K nm q)
    (nm * mixS Ks ps / (1 + mixS Ks ps)) fun K q h => by rw [langmuir_loading_eq, h]]
  congr
  funext K p
  exact extended_langmuir nm K p hS.ne'

/-! ## C. uniqueness, permutation, forward / reverse -/

/-- The IAST equations for components with spreading pressures `πs` and partial pressures `ps`: the adsorbed
fractions `xs` are positive, sum to one, and every component has the same spreading pressure `c` at its fictitious
pressure `p_i / x_i` (`fictitious` is the model of `pressure0` in `iast_point`). -/
def Solves (πs : List (ℝ → ℝ)) (ps xs : List ℝ) (c : ℝ) : Prop :=
  πs.length = ps.length ∧ xs.length = ps.length ∧ xs.sum = 1 ∧ (∀ x ∈ xs, 0 < x) ∧
  ∀ i (h1 : i < πs.length) (h2 : i < (fictitious ps xs).length), πs[i] (fictitious ps xs)[i] = c

/-- The equations of `reverse_iast`: adsorbed fractions `xs` given, gas fractions `ys` positive, summing to one, and
every component has the same spreading pressure `c` at `P y_i / x_i`. -/
def SolvesReverse (πs : List (ℝ → ℝ)) (P : ℝ) (xs ys : List ℝ) (c : ℝ) : Prop :=
  πs.length = xs.length ∧ ys.length = xs.length ∧ ys.sum = 1 ∧ (∀ y ∈ ys, 0 < y) ∧
  ∀ i (h1 : i < πs.length) (h2 : i < (fictitiousReverse P ys xs).length), πs[i] (fictitiousReverse P ys xs)[i] = c

section helpersC

lemma sum_lt_sum_getElem {l l' : List ℝ} (hlen : l.length = l'.length) (hne : l ≠ [])
    (h : ∀ i (h : i < l.length) (h' : i < l'.length), l[i] < l'[i]) : l.sum < l'.sum := by
  have hz : l.zip l' ≠ [] := fun h0 =>
    (List.zip_eq_nil_iff.mp h0).elim hne fun h1 => hne (List.length_eq_zero_iff.mp (by rw [hlen, h1]; rfl))
  have := List.sum_lt_sum_of_ne_nil hz Prod.fst Prod.snd fun q hq => by
    obtain ⟨i, hi, rfl⟩ := List.getElem_of_mem hq
    rw [List.getElem_zip]
    exact h i _ _
  rwa [List.map_fst_zip hlen.le, List.map_snd_zip hlen.ge] at this

/-- The core of every uniqueness statement below.  Two lists of the same positive length and the same sum whose
entries are compared through two numbers (`l[i] < l'[i] ↔ c < c'` and conversely, for every `i`) are equal, and so
are the numbers: otherwise all entries differ in the same direction and the sums cannot agree. -/
lemma eq_of_sum_eq_of_lt_iff {l l' : List ℝ} {c c' : ℝ} (hlen : l.length = l'.length) (hne : l ≠ [])
    (hsum : l.sum = l'.sum)
    (h : ∀ i (h : i < l.length) (h' : i < l'.length), (l[i] < l'[i] ↔ c < c') ∧ (l'[i] < l[i] ↔ c' < c)) :
    l = l' ∧ c = c' := by
  have hne' : l' ≠ [] := fun h0 => hne (List.length_eq_zero_iff.mp (by rw [hlen, h0]; rfl))
  rcases lt_trichotomy c c' with hc | hc | hc
  · exact absurd hsum (sum_lt_sum_getElem hlen hne fun i h1 h2 => (h i h1 h2).1.mpr hc).ne
  · refine ⟨List.ext_getElem hlen fun i h1 h2 => ?_, hc⟩
    exact le_antisymm (not_lt.mp fun hlt => hc.not_gt ((h i h1 h2).2.mp hlt))
      (not_lt.mp fun hlt => hc.not_lt ((h i h1 h2).1.mp hlt))
  · exact absurd hsum (sum_lt_sum_getElem hlen.symm hne' fun i h1 h2 => (h i h2 h1).2.mpr hc).ne'

lemma ne_nil_of_sum_eq_one (l : List ℝ) (h : l.sum = 1) : l ≠ [] := by
  rintro rfl; simp at h

lemma Solves.sum_eq {πs : List (ℝ → ℝ)} {ps xs : List ℝ} {c : ℝ} (h : Solves πs ps xs c) : xs.sum = 1 := h.2.2.1
lemma Solves.pos {πs : List (ℝ → ℝ)} {ps xs : List ℝ} {c : ℝ} (h : Solves πs ps xs c) : ∀ x ∈ xs, 0 < x := h.2.2.2.1

lemma SolvesReverse.sum_eq {πs : List (ℝ → ℝ)} {P : ℝ} {xs ys : List ℝ} {c : ℝ} (h : SolvesReverse πs P xs ys c) :
    ys.sum = 1 := h.2.2.1
lemma SolvesReverse.pos {πs : List (ℝ → ℝ)} {P : ℝ} {xs ys : List ℝ} {c : ℝ} (h : SolvesReverse πs P xs ys c) :
    ∀ y ∈ ys, 0 < y := h.2.2.2.1

lemma Solves.point {πs : List (ℝ → ℝ)} {ps xs : List ℝ} {c : ℝ} (h : Solves πs ps xs c) (i : ℕ)
    (h1 : i < πs.length) (h2 : i < ps.length) (h3 : i < xs.length) : πs[i] (ps[i] / xs[i]) = c := by
  have := h.2.2.2.2 i h1 (by simp only [fictitious, List.length_zipWith]; omega)
  simpa only [fictitious, List.getElem_zipWith] using this

lemma SolvesReverse.point {πs : List (ℝ → ℝ)} {P : ℝ} {xs ys : List ℝ} {c : ℝ} (h : SolvesReverse πs P xs ys c)
    (i : ℕ) (h1 : i < πs.length) (h2 : i < ys.length) (h3 : i < xs.length) :
    πs[i] (P * ys[i] / xs[i]) = c := by
  have := h.2.2.2.2 i h1 (by simp only [fictitiousReverse, List.length_zipWith]; omega)
  simpa only [fictitiousReverse, List.getElem_zipWith] using this

end helpersC

/-- Binary mixture: with strictly increasing spreading pressures the residual of the solver,
`g x = π₁ (p₁ / x) − π₂ (p₂ / (1 − x))`, is strictly decreasing on `(0, 1)`. -/
theorem binary_residual_strictAntiOn (π₁ π₂ : ℝ → ℝ) (h₁ : StrictMonoOn π₁ (Set.Ioi 0))
    (h₂ : StrictMonoOn π₂ (Set.Ioi 0)) (p₁ p₂ : ℝ) (hp₁ : 0 < p₁) (hp₂ : 0 < p₂) :
    StrictAntiOn (fun x => π₁ (p₁ / x) - π₂ (p₂ / (1 - x))) (Set.Ioo 0 1) := by
  intro a ha b hb hab
  exact sub_lt_sub
    (h₁ (div_pos hp₁ hb.1) (div_pos hp₁ ha.1) ((div_lt_div_iff_of_pos_left hp₁ hb.1 ha.1).mpr hab))
    (h₂ (div_pos hp₂ (sub_pos.mpr ha.2)) (div_pos hp₂ (sub_pos.mpr hb.2))
      ((div_lt_div_iff_of_pos_left hp₂ (sub_pos.mpr ha.2) (sub_pos.mpr hb.2)).mpr (sub_lt_sub_left hab 1)))

theorem binary_solution_unique (π₁ π₂ : ℝ → ℝ) (h₁ : StrictMonoOn π₁ (Set.Ioi 0))
    (h₂ : StrictMonoOn π₂ (Set.Ioi 0)) (p₁ p₂ : ℝ) (hp₁ : 0 < p₁) (hp₂ : 0 < p₂)
    (x x' : ℝ) (hx : x ∈ Set.Ioo (0 : ℝ) 1) (hx' : x' ∈ Set.Ioo (0 : ℝ) 1)
    (e : π₁ (p₁ / x) = π₂ (p₂ / (1 - x))) (e' : π₁ (p₁ / x') = π₂ (p₂ / (1 - x'))) : x = x' := by
  apply (binary_residual_strictAntiOn π₁ π₂ h₁ h₂ p₁ p₂ hp₁ hp₂).injOn hx hx'
  simp only
  rw [e, e', sub_self, sub_self]

/-- `solution_unique` when the spreading pressures are only known to be strictly increasing on a set `D i` per
component (a point isotherm: up to its last measured pressure) and both solutions keep their fictitious pressures
inside. -/
theorem solution_unique_on (πs : List (ℝ → ℝ)) (D : ℕ → Set ℝ) (ps xs xs' : List ℝ) (c c' : ℝ)
    (hπ : ∀ i (h : i < πs.length), StrictMonoOn πs[i] (D i)) (hp : ∀ p ∈ ps, 0 < p)
    (h : Solves πs ps xs c) (h' : Solves πs ps xs' c')
    (hD : ∀ i (h2 : i < ps.length) (h3 : i < xs.length), ps[i] / xs[i] ∈ D i)
    (hD' : ∀ i (h2 : i < ps.length) (h3 : i < xs'.length), ps[i] / xs'[i] ∈ D i) : xs = xs' ∧ c = c' := by
  obtain ⟨hl1, hl2, hs, hpos, -⟩ := id h
  obtain ⟨-, hl2', hs', hpos', -⟩ := id h'
  -- a larger common spreading pressure means larger fictitious pressures `p_i / x_i`, i.e. smaller fractions
  have key := eq_of_sum_eq_of_lt_iff (c := c') (c' := c) (hl2.trans hl2'.symm) (ne_nil_of_sum_eq_one xs hs)
    (hs.trans hs'.symm) fun i h3 h3' => by
      have h2 : i < ps.length := hl2 ▸ h3
      have h1 : i < πs.length := hl1 ▸ h2
      have hpi := hp _ (List.getElem_mem h2)
      have hxi := hpos _ (List.getElem_mem h3)
      have hxi' := hpos' _ (List.getElem_mem h3')
      have m := hD i h2 h3
      have m' := hD' i h2 h3'
      constructor
      · rw [← h.point i h1 h2 h3, ← h'.point i h1 h2 h3', (hπ i h1).lt_iff_lt m' m,
          div_lt_div_iff_of_pos_left hpi hxi' hxi]
      · rw [← h.point i h1 h2 h3, ← h'.point i h1 h2 h3', (hπ i h1).lt_iff_lt m m',
          div_lt_div_iff_of_pos_left hpi hxi hxi']
  exact ⟨key.1, key.2.symm⟩

theorem solution_unique (πs : List (ℝ → ℝ)) (ps xs xs' : List ℝ) (c c' : ℝ)
    (hπ : ∀ π ∈ πs, StrictMonoOn π (Set.Ioi 0)) (hp : ∀ p ∈ ps, 0 < p)
    (h : Solves πs ps xs c) (h' : Solves πs ps xs' c') : xs = xs' ∧ c = c' :=
  solution_unique_on πs (fun _ => Set.Ioi 0) ps xs xs' c c' (fun _ hi => hπ _ (List.getElem_mem hi)) hp h h'
    (fun _ h2 h3 => div_pos (hp _ (List.getElem_mem h2)) (h.pos _ (List.getElem_mem h3)))
    (fun _ h2 h3 => div_pos (hp _ (List.getElem_mem h2)) (h'.pos _ (List.getElem_mem h3)))

/-- a solution of the IAST equations passes the range check of `iast_point` (all fractions in `[0, 1]`) -/
theorem Solves.fractionsValid {πs : List (ℝ → ℝ)} {ps xs : List ℝ} {c : ℝ} (h : Solves πs ps xs c) :
    fractionsValid xs = true := by
  rw [fractionsValid_iff]
  intro v hv
  refine ⟨(h.pos v hv).le, ?_⟩
  rw [← h.sum_eq]
  exact List.single_le_sum (fun y hy => (h.pos y hy).le) v hv

/-! ### permutation of the components -/

/-- a mixture given as a list of components `(π_i, p_i, x_i)`: the IAST equations in membership form -/
lemma solves_triples_iff (l : List ((ℝ → ℝ) × ℝ × ℝ)) (c : ℝ) :
    Solves (l.map (·.1)) (l.map (·.2.1)) (l.map (·.2.2)) c ↔
      (l.map (·.2.2)).sum = 1 ∧ ∀ t ∈ l, 0 < t.2.2 ∧ t.1 (t.2.1 / t.2.2) = c := by
  constructor
  · intro h
    refine ⟨h.sum_eq, fun t ht => ?_⟩
    obtain ⟨i, hi, rfl⟩ := List.getElem_of_mem ht
    refine ⟨h.pos _ (List.mem_map_of_mem (List.getElem_mem hi)), ?_⟩
    have := h.point i (by simpa using hi) (by simpa using hi) (by simpa using hi)
    simpa using this
  · rintro ⟨hs, hall⟩
    refine ⟨by simp, by simp, hs, ?_, ?_⟩
    · intro x hx
      obtain ⟨t, ht, rfl⟩ := List.mem_map.mp hx
      exact (hall t ht).1
    · intro i h1 h2
      have hi : i < l.length := by simpa using h1
      have := (hall _ (List.getElem_mem hi)).2
      simpa [fictitious] using this

/-- The IAST equations are symmetric under permutation of the components: a mixture given as a list of
components `(π_i, p_i, x_i)` solves the equations iff any reordering of that list does. -/
theorem permutation_equivariant (l l' : List ((ℝ → ℝ) × ℝ × ℝ)) (hperm : l.Perm l') (c : ℝ) :
    Solves (l.map (·.1)) (l.map (·.2.1)) (l.map (·.2.2)) c ↔
      Solves (l'.map (·.1)) (l'.map (·.2.1)) (l'.map (·.2.2)) c := by
  rw [solves_triples_iff, solves_triples_iff, (hperm.map _).sum_eq]
  constructor
  · rintro ⟨a, b⟩; exact ⟨a, fun t ht => b t (hperm.mem_iff.mpr ht)⟩
  · rintro ⟨a, b⟩; exact ⟨a, fun t ht => b t (hperm.mem_iff.mp ht)⟩

theorem binary_swap (π₁ π₂ : ℝ → ℝ) (p₁ p₂ x₁ x₂ c : ℝ) :
    Solves [π₁, π₂] [p₁, p₂] [x₁, x₂] c ↔ Solves [π₂, π₁] [p₂, p₁] [x₂, x₁] c :=
  permutation_equivariant [(π₁, p₁, x₁), (π₂, p₂, x₂)] [(π₂, p₂, x₂), (π₁, p₁, x₁)] (List.Perm.swap _ _ _) c

/-- With uniqueness: the result for reordered data is the reordered result.  If `l` (components with their
fractions) solves the equations and `xs'` is any solution for the data of the reordering `l'`, then `xs'` is the
list of fractions of `l'`, and the common spreading pressure is the same. -/
theorem permutation_result (l l' : List ((ℝ → ℝ) × ℝ × ℝ)) (hperm : l.Perm l') (c c' : ℝ) (xs' : List ℝ)
    (hπ : ∀ t ∈ l, StrictMonoOn t.1 (Set.Ioi 0)) (hp : ∀ t ∈ l, 0 < t.2.1)
    (h : Solves (l.map (·.1)) (l.map (·.2.1)) (l.map (·.2.2)) c)
    (h' : Solves (l'.map (·.1)) (l'.map (·.2.1)) xs' c') :
    xs' = l'.map (·.2.2) ∧ c' = c := by
  have h2 := (permutation_equivariant l l' hperm c).mp h
  apply solution_unique (l'.map (·.1)) (l'.map (·.2.1)) xs' (l'.map (·.2.2)) c' c _ _ h' h2
  · intro π hm
    obtain ⟨t, ht, rfl⟩ := List.mem_map.mp hm
    exact hπ t (hperm.mem_iff.mpr ht)
  · intro p hm
    obtain ⟨t, ht, rfl⟩ := List.mem_map.mp hm
    exact hp t (hperm.mem_iff.mpr ht)

/-! ### forward and reverse IAST -/

/-- `reverse_iast` and `iast_point` solve the same equations: for valid adsorbed fractions `xs` and gas fractions
`ys`, `ys` solves the reverse problem for `xs` at total pressure `P` iff `xs` solves the forward problem for the
partial pressures `P y_i`. -/
theorem forward_reverse_inverse (πs : List (ℝ → ℝ)) (P : ℝ) (xs ys : List ℝ) (c : ℝ)
    (hx : xs.sum = 1) (hxpos : ∀ x ∈ xs, 0 < x) (hy : ys.sum = 1) (hypos : ∀ y ∈ ys, 0 < y) :
    SolvesReverse πs P xs ys c ↔ Solves πs (partialPressures ys P) xs c := by
  unfold SolvesReverse Solves
  rw [partialPressures_fictitious, partialPressures_length]
  constructor
  · rintro ⟨a, b, -, -, e⟩; exact ⟨a.trans b.symm, b.symm, hx, hxpos, e⟩
  · rintro ⟨a, b, -, -, e⟩; exact ⟨a.trans b.symm, b.symm, hy, hypos, e⟩

theorem reverse_solution_unique (πs : List (ℝ → ℝ)) (P : ℝ) (xs ys ys' : List ℝ) (c c' : ℝ) (hP : 0 < P)
    (hπ : ∀ π ∈ πs, StrictMonoOn π (Set.Ioi 0)) (hxpos : ∀ x ∈ xs, 0 < x)
    (h : SolvesReverse πs P xs ys c) (h' : SolvesReverse πs P xs ys' c') : ys = ys' ∧ c = c' := by
  obtain ⟨hl1, hl2, hs, hpos, -⟩ := id h
  obtain ⟨-, hl2', hs', hpos', -⟩ := id h'
  -- a larger common spreading pressure means larger fictitious pressures `P y_i / x_i`, i.e. larger gas fractions
  refine eq_of_sum_eq_of_lt_iff (hl2.trans hl2'.symm) (ne_nil_of_sum_eq_one ys hs) (hs.trans hs'.symm)
    fun i h3 h3' => ?_
  have h2 : i < xs.length := hl2 ▸ h3
  have h1 : i < πs.length := hl1 ▸ h2
  have hm := hπ _ (List.getElem_mem h1)
  have hxi := hxpos _ (List.getElem_mem h2)
  have m : P * ys[i] / xs[i] ∈ Set.Ioi (0 : ℝ) := div_pos (mul_pos hP (hpos _ (List.getElem_mem h3))) hxi
  have m' : P * ys'[i] / xs[i] ∈ Set.Ioi (0 : ℝ) := div_pos (mul_pos hP (hpos' _ (List.getElem_mem h3'))) hxi
  have key : ∀ a b : ℝ, P * a / xs[i] < P * b / xs[i] ↔ a < b := fun a b => by
    rw [div_lt_div_iff_of_pos_right hxi, mul_lt_mul_iff_right₀ hP]
  constructor
  · rw [← h.point i h1 h3 h2, ← h'.point i h1 h3' h2, hm.lt_iff_lt m m', key]
  · rw [← h.point i h1 h3 h2, ← h'.point i h1 h3' h2, hm.lt_iff_lt m' m, key]

/-- reverse then forward: if `reverse_iast` finds gas fractions `ys` for the wanted adsorbed fractions `xs`, any
result of the forward calculation at the partial pressures `P y_i` is `xs` again. -/
theorem reverse_then_forward (πs : List (ℝ → ℝ)) (P : ℝ) (xs ys xs' : List ℝ) (c c' : ℝ) (hP : 0 < P)
    (hπ : ∀ π ∈ πs, StrictMonoOn π (Set.Ioi 0)) (hx : xs.sum = 1) (hxpos : ∀ x ∈ xs, 0 < x)
    (hr : SolvesReverse πs P xs ys c) (hf : Solves πs (partialPressures ys P) xs' c') :
    xs' = xs ∧ c' = c := by
  have hf0 := (forward_reverse_inverse πs P xs ys c hx hxpos hr.sum_eq hr.pos).mp hr
  apply solution_unique πs (partialPressures ys P) xs' xs c' c hπ _ hf hf0
  intro p hm
  obtain ⟨y, hy, rfl⟩ := List.mem_map.mp hm
  exact mul_pos hP (hr.pos y hy)

/-- forward then reverse: if `iast_point` finds adsorbed fractions `xs` at the partial pressures `P y_i`
(`ys` valid gas fractions), any result of `reverse_iast` for `xs` at total pressure `P` is `ys` again. -/
theorem forward_then_reverse (πs : List (ℝ → ℝ)) (P : ℝ) (xs ys ys' : List ℝ) (c c' : ℝ) (hP : 0 < P)
    (hπ : ∀ π ∈ πs, StrictMonoOn π (Set.Ioi 0)) (hy : ys.sum = 1) (hypos : ∀ y ∈ ys, 0 < y)
    (hf : Solves πs (partialPressures ys P) xs c) (hr : SolvesReverse πs P xs ys' c') :
    ys' = ys ∧ c' = c := by
  have hr0 := (forward_reverse_inverse πs P xs ys c hf.sum_eq hf.pos hy hypos).mpr hf
  exact reverse_solution_unique πs P xs ys' ys c' c hP hπ hf.pos hr hr0

/-! ### instances: the library's own spreading pressures

The generated spreading pressures are strictly increasing on `(0, ∞)` for positive parameters (Props/C11), so the
uniqueness, permutation and inversion theorems above apply to mixtures of these models.  (BET and GAB are strictly
increasing only below their pole, `TemkinApprox` only for `θ < 4` — `PgVerif.C11.temkin_spread_strictMonoOn_false`
shows that it is not monotone for `θ = 8`, so uniqueness of the IAST solution is not guaranteed there.) -/

theorem henry_spreading_strictMonoOn (K : ℝ) (hK : 0 < K) :
    StrictMonoOn (Henry_spreading_pressure K) (Set.Ioi 0) :=
  (PgVerif.C11.henry_spread_strictMonoOn K hK).mono Set.Ioi_subset_Ici_self

theorem langmuir_spreading_strictMonoOn (K nm : ℝ) (hK : 0 < K) (hnm : 0 < nm) :
    StrictMonoOn (Langmuir_spreading_pressure K nm) (Set.Ioi 0) :=
  (PgVerif.C11.langmuir_spread_strictMonoOn K nm hK hnm).mono Set.Ioi_subset_Ici_self

theorem dslangmuir_spreading_strictMonoOn (nm1 K1 nm2 K2 : ℝ) (hnm1 : 0 < nm1) (hK1 : 0 < K1) (hnm2 : 0 < nm2)
    (hK2 : 0 < K2) : StrictMonoOn (DSLangmuir_spreading_pressure nm1 K1 nm2 K2) (Set.Ioi 0) :=
  (PgVerif.C11.dslangmuir_spread_strictMonoOn nm1 K1 nm2 K2 hnm1 hK1 hnm2 hK2).mono Set.Ioi_subset_Ici_self

theorem tslangmuir_spreading_strictMonoOn (nm1 nm2 nm3 K1 K2 K3 : ℝ) (hnm1 : 0 < nm1) (hnm2 : 0 < nm2)
    (hnm3 : 0 < nm3) (hK1 : 0 < K1) (hK2 : 0 < K2) (hK3 : 0 < K3) :
    StrictMonoOn (TSLangmuir_spreading_pressure nm1 nm2 nm3 K1 K2 K3) (Set.Ioi 0) :=
  (PgVerif.C11.tslangmuir_spread_strictMonoOn nm1 nm2 nm3 K1 K2 K3 hnm1 hnm2 hnm3 hK1 hK2 hK3).mono
    Set.Ioi_subset_Ici_self

theorem quadratic_spreading_strictMonoOn (nm Ka Kb : ℝ) (hnm : 0 < nm) (hKa : 0 < Ka) (hKb : 0 < Kb) :
    StrictMonoOn (Quadratic_spreading_pressure nm Ka Kb) (Set.Ioi 0) :=
  (PgVerif.C11.quadratic_spread_strictMonoOn nm Ka Kb hnm hKa hKb).mono Set.Ioi_subset_Ici_self

theorem freundlich_spreading_strictMonoOn (K m : ℝ) (hK : 0 < K) (hm : 0 < m) :
    StrictMonoOn (Freundlich_spreading_pressure K m) (Set.Ioi 0) :=
  (PgVerif.C11.freundlich_spread_strictMonoOn K m hK hm).mono Set.Ioi_subset_Ici_self

theorem temkin_spreading_strictMonoOn (nm K tht : ℝ) (hnm : 0 < nm) (hK : 0 < K) (htht : tht < 4) :
    StrictMonoOn (TemkinApprox_spreading_pressure nm K tht) (Set.Ioi 0) :=
  PgVerif.C11.temkin_spread_strictMonoOn_partial nm K tht hnm hK htht

/-- spreading pressures `π K` that depend on `K q` only (`π K q = c` whenever `K q = S`): the closed-form fractions solve
the IAST equations with the common spreading pressure `c` -/
lemma mixX_Solves (Ks ps : List ℝ) (hlen : Ks.length = ps.length) (hne : Ks ≠ []) (hK : ∀ K ∈ Ks, 0 < K)
    (hp : ∀ p ∈ ps, 0 < p) (π : ℝ → ℝ → ℝ) (c : ℝ) (hπ : ∀ K q, K * q = mixS Ks ps → π K q = c) :
    Solves (Ks.map π) ps (mixX Ks ps) c := by
  obtain ⟨hl, hsum, hmem, key⟩ := mixX_spec Ks ps hlen hne hK hp
  refine ⟨by simp [hlen], hl.trans hlen, hsum, fun v hv => (hmem v hv).1, fun i h1 h2 => ?_⟩
  rw [List.getElem_map]
  exact hπ _ _ (key i (by simpa using h1) h2)

theorem henry_closed_form_Solves (Ks ps : List ℝ) (hlen : Ks.length = ps.length) (hne : Ks ≠ [])
    (hK : ∀ K ∈ Ks, 0 < K) (hp : ∀ p ∈ ps, 0 < p) :
    Solves (Ks.map Henry_spreading_pressure) ps (mixX Ks ps) (mixS Ks ps) :=
  mixX_Solves Ks ps hlen hne hK hp Henry_spreading_pressure _ fun _ _ h => h

/-- Henry mixtures: whatever the root finder returns, if it satisfies the IAST equations it IS the closed form:
fractions `K_i p_i / S`, spreading pressure `S`, loadings `n_i = K_i p_i`. -/
theorem henry_result_unique (Ks ps xs : List ℝ) (c : ℝ) (hlen : Ks.length = ps.length) (hne : Ks ≠ [])
    (hK : ∀ K ∈ Ks, 0 < K) (hp : ∀ p ∈ ps, 0 < p) (h : Solves (Ks.map Henry_spreading_pressure) ps xs c) :
    xs = mixX Ks ps ∧ c = mixS Ks ps ∧
    loadings xs (List.zipWith Henry_loading Ks (fictitious ps xs)) = List.zipWith (· * ·) Ks ps := by
  obtain ⟨hx, hc⟩ := solution_unique _ ps xs _ c _ (fun f hm => by
    obtain ⟨K, hKm, rfl⟩ := List.mem_map.mp hm
    exact henry_spreading_strictMonoOn K (hK K hKm)) hp h (henry_closed_form_Solves Ks ps hlen hne hK hp)
  exact ⟨hx, hc, hx ▸ (henry_closed_form_solves Ks ps hlen hne hK hp).2.2.2.2⟩

theorem langmuir_equal_capacity_closed_form_Solves (nm : ℝ) (Ks ps : List ℝ) (hnm : 0 < nm)
    (hlen : Ks.length = ps.length) (hne : Ks ≠ []) (hK : ∀ K ∈ Ks, 0 < K) (hp : ∀ p ∈ ps, 0 < p) :
    Solves (Ks.map fun K => Langmuir_spreading_pressure K nm) ps (mixX Ks ps)
      (nm * Real.log (1 + mixS Ks ps)) :=
  mixX_Solves Ks ps hlen hne hK hp (fun K => Langmuir_spreading_pressure K nm) _
    fun K q h => by rw [langmuir_sp_eq, h]

/-- Equal-capacity Langmuir mixtures: any solution of the IAST equations is the extended-Langmuir closed form. -/
theorem langmuir_equal_capacity_result_unique (nm : ℝ) (Ks ps xs : List ℝ) (c : ℝ) (hnm : 0 < nm)
    (hlen : Ks.length = ps.length) (hne : Ks ≠ []) (hK : ∀ K ∈ Ks, 0 < K) (hp : ∀ p ∈ ps, 0 < p)
    (h : Solves (Ks.map fun K => Langmuir_spreading_pressure K nm) ps xs c) :
    xs = mixX Ks ps ∧ c = nm * Real.log (1 + mixS Ks ps) ∧
    loadings xs (List.zipWith (fun K q => Langmuir_loading K nm q) Ks (fictitious ps xs))
      = List.zipWith (fun K p => nm * K * p / (1 + mixS Ks ps)) Ks ps := by
  obtain ⟨hx, hc⟩ := solution_unique _ ps xs _ c _ (fun f hm => by
    obtain ⟨K, hKm, rfl⟩ := List.mem_map.mp hm
    exact langmuir_spreading_strictMonoOn K nm (hK K hKm) hnm) hp h
    (langmuir_equal_capacity_closed_form_Solves nm Ks ps hnm hlen hne hK hp)
  exact ⟨hx, hc, hx ▸ (langmuir_equal_capacity_closed_form_solves nm Ks ps hnm hlen hne hK hp).2.2.2.2⟩

theorem langmuir_binary_unique (K1 nm1 K2 nm2 p1 p2 x x' : ℝ) (hK1 : 0 < K1) (hnm1 : 0 < nm1) (hK2 : 0 < K2)
    (hnm2 : 0 < nm2) (hp1 : 0 < p1) (hp2 : 0 < p2) (hx : x ∈ Set.Ioo (0 : ℝ) 1) (hx' : x' ∈ Set.Ioo (0 : ℝ) 1)
    (e : Langmuir_spreading_pressure K1 nm1 (p1 / x) = Langmuir_spreading_pressure K2 nm2 (p2 / (1 - x)))
    (e' : Langmuir_spreading_pressure K1 nm1 (p1 / x') = Langmuir_spreading_pressure K2 nm2 (p2 / (1 - x'))) :
    x = x' :=
  binary_solution_unique _ _ (langmuir_spreading_strictMonoOn K1 nm1 hK1 hnm1)
    (langmuir_spreading_strictMonoOn K2 nm2 hK2 hnm2) p1 p2 hp1 hp2 x x' hx hx' e e'

/-! ## D. non-vacuity -/

example : complete [(1 / 4 : ℚ), 1 / 4] = [1 / 4, 1 / 4, 1 / 2] := by decide +kernel

example : fractionsValid (complete [(1 / 4 : ℚ), 1 / 4]) = true := by decide +kernel

example : fractionsValid (complete [(3 / 4 : ℚ), 1 / 2]) = false := by decide +kernel

/-- `x = [1/4, 3/4]`, pure-component loadings `[2, 6]`: `1/n_t = 1/8 + 1/8`, `n_t = 4`, loadings `[1, 3]` -/
example : loadings [(1 / 4 : ℚ), 3 / 4] [2, 6] = [1, 3] := by decide +kernel

example : inverseLoading [(1 / 4 : ℚ), 3 / 4] [2, 6] ≠ 0 := by decide +kernel

example : fictitious (partialPressures [(1 / 4 : ℚ), 3 / 4] 2) [1 / 2, 1 / 2] = [1, 3] := by decide +kernel

example : selectivity (1 : ℚ) 3 (1 / 2) (1 / 2) = 1 / 3 := by decide +kernel

example : vleX (1 : ℚ) 3 = 1 / 4 := by decide +kernel

example : mixS [2, 1] [1, 2] = 4 ∧ mixX [2, 1] [1, 2] = [1 / 2, 1 / 2] := by
  norm_num [mixS, mixX]

example : Solves [Henry_spreading_pressure 2, Henry_spreading_pressure 1] [1, 2] [1 / 2, 1 / 2] 4 := by
  refine (solves_triples_iff [(Henry_spreading_pressure 2, 1, 1 / 2), (Henry_spreading_pressure 1, 2, 1 / 2)] 4).mpr
    ⟨by norm_num, ?_⟩
  simp only [List.forall_mem_cons, List.not_mem_nil, henry_sp_eq]
  norm_num

example : loadings [(1 / 2 : ℝ), 1 / 2]
    [Henry_loading 2 (1 / (1 / 2)), Henry_loading 1 (2 / (1 / 2))] = [2, 2] := by
  norm_num [loadings, totalLoading, inverseLoading, henry_loading_eq]

end PgVerif.Props.C13
