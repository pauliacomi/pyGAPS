/-
C08 — the SQLite store behaves as a keyed collection over any operation history.

All statements are about `runOp db mem op fault : Result` of `PgVerif.Model.Store`; the fault-free call is `fault = none`.
The program logic and the fault-free `exec` lemmas are in `PgVerif.Lemmas.Store`.
-/
import PgVerif.Model.Store
import PgVerif.Lemmas.Store
import Mathlib.Tactic

set_option linter.unusedSimpArgs false

namespace PgVerif.C08
open PgVerif.Model.Store PgVerif.StoreL

theorem empty_wellFormed : Db.empty.wellFormed = true := by decide

/-! ### referential integrity as a proposition, and its preservation by every single statement -/

def Refs {α κ : Type} (child : List α) (key : α → κ) (parent : List κ) : Prop := ∀ r ∈ child, key r ∈ parent

/-- the statements' `any` tests for a key, as membership -/
lemma any_key_iff {α : Type} {l : List α} {k : α → String} {x : String} :
    (l.any fun r => k r == x) = true ↔ x ∈ l.map k := by
  simp only [List.any_eq_true, beq_iff_eq, List.mem_map]

lemma any_key_true {α : Type} {l : List α} {k : α → String} {x : String} (h : x ∈ l.map k) :
    (l.any fun r => k r == x) = true :=
  any_key_iff.2 h

lemma any_key_false {α : Type} {l : List α} {k : α → String} {x : String} (h : x ∉ l.map k) :
    (l.any fun r => k r == x) = false :=
  Bool.eq_false_iff.2 fun c => h (any_key_iff.1 c)

lemma mem_map_fst_filter_ne {β : Type} (l : List (String × β)) (t x : String) :
    x ∈ (l.filter (fun r => r.1 != t)).map (·.1) ↔ x ∈ l.map (·.1) ∧ x ≠ t := by
  simp only [List.mem_map, List.mem_filter, bne_iff_ne]
  constructor
  · rintro ⟨r, ⟨h1, h2⟩, rfl⟩; exact ⟨⟨r, h1, rfl⟩, h2⟩
  · rintro ⟨⟨r, h1, rfl⟩, h2⟩; exact ⟨r, ⟨h1, h2⟩, rfl⟩

lemma key_ne_of_not_any {α : Type} {l : List α} {k : α → String} {x : String} (h : ¬(l.any fun r => k r == x) = true) :
    ∀ r ∈ l, k r ≠ x := by
  simpa only [List.any_eq_true, beq_iff_eq, not_exists, not_and] using h

/-- an `UPDATE` of a type row leaves the keys of the table as they are -/
lemma map_fst_upd {β : Type} (l : List (String × β)) (t : String) (b : β) :
    (l.map fun r => if r.1 == t then (t, b) else r).map (·.1) = l.map (·.1) := by
  rw [List.map_map]
  refine List.map_congr_left fun r _ => ?_
  simp only [Function.comp]
  split
  · exact (beq_iff_eq.1 ‹_›).symm
  · rfl

namespace Refs
variable {α κ : Type} {c c' : List α} {k : α → κ} {p p' : List κ}

lemma mono_parent (h : Refs c k p) (hp : p ⊆ p') : Refs c k p' := fun r hr => hp (h r hr)

lemma mono_child (h : Refs c k p) (hc : c' ⊆ c) : Refs c' k p := fun r hr => h r (hc hr)

lemma append (h : Refs c k p) {r : α} (hr : k r ∈ p) : Refs (c ++ [r]) k p := fun r' hr' => by
  rcases List.mem_append.1 hr' with h' | h'
  · exact h r' h'
  · rw [List.mem_singleton.1 h']; exact hr

/-- a parent no row refers to may be deleted -/
lemma filter_parent {c : List α} {k : α → String} {p : List String} (h : Refs c k p) {x : String}
    (hx : ∀ r ∈ c, k r ≠ x) : Refs c k (p.filter (· != x)) := fun r hr =>
  List.mem_filter.2 ⟨h r hr, bne_iff_ne.2 (hx r hr)⟩

lemma filter_parent_keys {β : Type} {c : List α} {k : α → String} {l : List (String × β)} (h : Refs c k (l.map (·.1)))
    {x : String} (hx : ∀ r ∈ c, k r ≠ x) : Refs c k ((l.filter (·.1 != x)).map (·.1)) := fun r hr =>
  (mem_map_fst_filter_ne l x _).2 ⟨h r hr, hx r hr⟩

end Refs

/-- `Db.wellFormed` as a proposition: one clause per foreign key of the schema -/
structure WF (db : Db) : Prop where
  adsProp_ads : Refs db.adsProps (·.1) db.ads
  adsProp_type : Refs db.adsProps (·.2.1) (db.adsTypes.map (·.1))
  matProp_mat : Refs db.matProps (·.1) db.mats
  matProp_type : Refs db.matProps (·.2.1) (db.matTypes.map (·.1))
  iso_type : Refs db.isos (·.2.1) (db.isoTypes.map (·.1))
  iso_mat : Refs db.isos (·.2.2.1) db.mats
  iso_ads : Refs db.isos (·.2.2.2.1) db.ads
  isoProp_iso : Refs db.isoProps (·.1) (db.isos.map (·.1))
  isoData_iso : Refs db.isoData (·.1) (db.isos.map (·.1))

lemma wf_iff (db : Db) : db.wellFormed = true ↔ WF db := by
  simp only [Db.wellFormed, Bool.and_eq_true, List.all_eq_true, any_key_iff, List.contains_iff_mem]
  constructor
  · rintro ⟨⟨⟨⟨h1, h2⟩, h3⟩, h4⟩, h5⟩
    exact ⟨fun r hr => (h1 r hr).1, fun r hr => (h1 r hr).2, fun r hr => (h2 r hr).1, fun r hr => (h2 r hr).2,
      fun r hr => (h3 r hr).1.1, fun r hr => (h3 r hr).1.2, fun r hr => (h3 r hr).2, h4, h5⟩
  · intro h
    exact ⟨⟨⟨⟨fun r hr => ⟨h.adsProp_ads r hr, h.adsProp_type r hr⟩, fun r hr => ⟨h.matProp_mat r hr, h.matProp_type r hr⟩⟩,
      fun r hr => ⟨⟨h.iso_type r hr, h.iso_mat r hr⟩, h.iso_ads r hr⟩⟩, h.isoProp_iso⟩, h.isoData_iso⟩

section statements
variable {d : Db} (h : WF d)
include h

lemma wf_insAds (name : Option String) : okP WF anyErr (insAds name d) := by
  unfold insAds insName
  cases name with
  | none => trivial
  | some n =>
    exact okP_refuse fun _ => { h with
      adsProp_ads := h.adsProp_ads.mono_parent (List.subset_append_left _ _)
      iso_ads := h.iso_ads.mono_parent (List.subset_append_left _ _) }

lemma wf_insMat (name : Option String) : okP WF anyErr (insMat name d) := by
  unfold insMat insName
  cases name with
  | none => trivial
  | some n =>
    exact okP_refuse fun _ => { h with
      matProp_mat := h.matProp_mat.mono_parent (List.subset_append_left _ _)
      iso_mat := h.iso_mat.mono_parent (List.subset_append_left _ _) }

lemma wf_insAdsProp (a t : String) (v : Option String) : okP WF anyErr (insAdsProp a t v d) := by
  unfold insAdsProp
  cases v with
  | none => trivial
  | some v =>
    refine okP_guard fun c => ?_
    simp only [Bool.and_eq_true, any_key_iff, List.contains_iff_mem] at c
    exact { h with adsProp_ads := h.adsProp_ads.append c.1, adsProp_type := h.adsProp_type.append c.2 }

lemma wf_insMatProp (m t : String) (v : Option String) : okP WF anyErr (insMatProp m t v d) := by
  unfold insMatProp
  cases v with
  | none => trivial
  | some v =>
    refine okP_guard fun c => ?_
    simp only [Bool.and_eq_true, any_key_iff, List.contains_iff_mem] at c
    exact { h with matProp_mat := h.matProp_mat.append c.1, matProp_type := h.matProp_type.append c.2 }

lemma wf_insAdsType (t : Option String) (u de : String) :
    okP WF anyErr (insType3 (·.adsTypes) (fun d l => { d with adsTypes := l }) t u de d) := by
  unfold insType3
  cases t with
  | none => trivial
  | some t =>
    exact okP_refuse fun _ => { h with
      adsProp_type := h.adsProp_type.mono_parent (List.map_subset _ (List.subset_append_left _ _)) }

lemma wf_insMatType (t : Option String) (u de : String) :
    okP WF anyErr (insType3 (·.matTypes) (fun d l => { d with matTypes := l }) t u de d) := by
  unfold insType3
  cases t with
  | none => trivial
  | some t =>
    exact okP_refuse fun _ => { h with
      matProp_type := h.matProp_type.mono_parent (List.map_subset _ (List.subset_append_left _ _)) }

lemma wf_updAdsType (t : Option String) (u de : String) :
    okP WF anyErr (updType3 (·.adsTypes) (fun d l => { d with adsTypes := l }) t u de d) := by
  unfold updType3
  cases t with
  | none => exact h
  | some t => exact { h with adsProp_type := (map_fst_upd d.adsTypes t (u, de)).symm ▸ h.adsProp_type }

lemma wf_updMatType (t : Option String) (u de : String) :
    okP WF anyErr (updType3 (·.matTypes) (fun d l => { d with matTypes := l }) t u de d) := by
  unfold updType3
  cases t with
  | none => exact h
  | some t => exact { h with matProp_type := (map_fst_upd d.matTypes t (u, de)).symm ▸ h.matProp_type }

lemma wf_insIsoType (t : Option String) (de : String) : okP WF anyErr (insIsoType t de d) := by
  unfold insIsoType
  cases t with
  | none => trivial
  | some t =>
    exact okP_refuse fun _ => { h with
      iso_type := h.iso_type.mono_parent (List.map_subset _ (List.subset_append_left _ _)) }

lemma wf_updIsoType (t : Option String) (de : String) : okP WF anyErr (updIsoType t de d) := by
  unfold updIsoType
  cases t with
  | none => exact h
  | some t => exact { h with iso_type := (map_fst_upd d.isoTypes t de).symm ▸ h.iso_type }

lemma wf_delAds (a : String) : okP WF anyErr (delAds a d) := by
  refine okP_refuse fun c => ?_
  rw [Bool.or_eq_true, not_or] at c
  exact { h with
    adsProp_ads := h.adsProp_ads.filter_parent (key_ne_of_not_any c.2)
    iso_ads := h.iso_ads.filter_parent (key_ne_of_not_any c.1) }

lemma wf_delMat (m : String) : okP WF anyErr (delMat m d) := by
  refine okP_refuse fun c => ?_
  rw [Bool.or_eq_true, not_or] at c
  exact { h with
    matProp_mat := h.matProp_mat.filter_parent (key_ne_of_not_any c.2)
    iso_mat := h.iso_mat.filter_parent (key_ne_of_not_any c.1) }

lemma wf_delAdsType (t : String) : okP WF anyErr (delAdsType t d) :=
  okP_refuse fun c => { h with adsProp_type := h.adsProp_type.filter_parent_keys (key_ne_of_not_any c) }

lemma wf_delMatType (t : String) : okP WF anyErr (delMatType t d) :=
  okP_refuse fun c => { h with matProp_type := h.matProp_type.filter_parent_keys (key_ne_of_not_any c) }

lemma wf_delIsoType (t : String) : okP WF anyErr (delIsoType t d) :=
  okP_refuse fun c => { h with iso_type := h.iso_type.filter_parent_keys (key_ne_of_not_any c) }

lemma wf_insIso (id ty : String) (mat ads temp : Option String) : okP WF anyErr (insIso id ty mat ads temp d) := by
  unfold insIso
  cases mat <;> cases ads <;> cases temp <;> simp only <;> try trivial
  split_ifs with _ c
  · trivial
  · simp only [Bool.and_eq_true, any_key_iff, List.contains_iff_mem] at c
    exact { h with
      iso_type := h.iso_type.append c.1.1, iso_mat := h.iso_mat.append c.1.2, iso_ads := h.iso_ads.append c.2
      isoProp_iso := h.isoProp_iso.mono_parent (List.map_subset _ (List.subset_append_left _ _))
      isoData_iso := h.isoData_iso.mono_parent (List.map_subset _ (List.subset_append_left _ _)) }
  · trivial

lemma wf_insIsoProp (id t : String) (v : PVal) : okP WF anyErr (insIsoProp id t v d) := by
  unfold insIsoProp
  cases v with
  | unsupported => trivial
  | null => trivial
  | val s => exact okP_guard fun c => { h with isoProp_iso := h.isoProp_iso.append (any_key_iff.1 c) }

lemma wf_insIsoData (id t dt da : String) : okP WF anyErr (insIsoData id t dt da d) :=
  okP_guard fun c => { h with isoData_iso := h.isoData_iso.append (any_key_iff.1 c) }

lemma wf_filterAdsProps (nm : String) : WF { d with adsProps := d.adsProps.filter (·.1 != nm) } :=
  { h with
    adsProp_ads := h.adsProp_ads.mono_child List.filter_sublist.subset
    adsProp_type := h.adsProp_type.mono_child List.filter_sublist.subset }

lemma wf_filterMatProps (nm : String) : WF { d with matProps := d.matProps.filter (·.1 != nm) } :=
  { h with
    matProp_mat := h.matProp_mat.mono_child List.filter_sublist.subset
    matProp_type := h.matProp_type.mono_child List.filter_sublist.subset }

/-- deleting an isotherm together with its property and data rows -/
lemma wf_isoDelete_result (id : String) :
    WF { d with isoData := d.isoData.filter (·.1 != id), isoProps := d.isoProps.filter (·.1 != id),
                isos := d.isos.filter (·.1 != id) } :=
  { h with
    iso_type := h.iso_type.mono_child List.filter_sublist.subset
    iso_mat := h.iso_mat.mono_child List.filter_sublist.subset
    iso_ads := h.iso_ads.mono_child List.filter_sublist.subset
    isoProp_iso := (h.isoProp_iso.mono_child List.filter_sublist.subset).filter_parent_keys
      fun _ hr => bne_iff_ne.1 (List.mem_filter.1 hr).2
    isoData_iso := (h.isoData_iso.mono_child List.filter_sublist.subset).filter_parent_keys
      fun _ hr => bne_iff_ne.1 (List.mem_filter.1 hr).2 }

end statements


/-! ### every fault-free operation preserves well-formedness -/

/-- `isoDelete` is left out as a whole: its last `DELETE` carries no guard and relies on the two before it (`wf_body` computes
the three together). -/
lemma wf_writes {op : Op} {f : Db → Except SqlErr Db} (hw : Writes op f) (hop : ∀ id, op ≠ .isoDelete id) (d : Db)
    (h : WF d) : okP WF anyErr (f d) := by
  induction hw with
  | ads hk => cases hk with
    | clear => exact wf_filterAdsProps h _
    | insName => exact wf_insAds h _
    | insType => exact wf_insAdsType h _ _ _
    | insProp => exact wf_insAdsProp h _ _ _
  | mat hk => cases hk with
    | clear => exact wf_filterMatProps h _
    | insName => exact wf_insMat h _
    | insType => exact wf_insMatType h _ _ _
    | insProp => exact wf_insMatProp h _ _ _
  | adsDel hk => cases hk with
    | clear => exact wf_filterAdsProps h _
    | del => exact wf_delAds h _
  | matDel hk => cases hk with
    | clear => exact wf_filterMatProps h _
    | del => exact wf_delMat h _
  | @typeAds _ t u de o => cases o <;> [exact wf_insAdsType h t u de; exact wf_updAdsType h t u de]
  | @typeMat _ t u de o => cases o <;> [exact wf_insMatType h t u de; exact wf_updMatType h t u de]
  | @typeIso _ t _ de o => cases o <;> [exact wf_insIsoType h t de; exact wf_updIsoType h t de]
  | typeDelAds => exact wf_delAdsType h _
  | typeDelMat => exact wf_delMatType h _
  | typeDelIso => exact wf_delIsoType h _
  | isoRow => exact wf_insIso h _ _ _ _ _
  | isoProp => exact wf_insIsoProp h _ _ _
  | isoData => exact wf_insIsoData h _ _ _ _
  | isoMat _ ih | isoAds _ ih => exact ih fun _ => Op.noConfusion
  | isoDelData | isoDelProps | isoDelRow => exact absurd rfl (hop _)
  | noTable => trivial

/-- `_delete_by_id` and its kin on a fault-free run: refused when the `SELECT` finds no row, else the rest runs -/
lemma exec_checked_absent {g : Db → Bool} {rest : Sql Unit} {db : Db} (h : g db = false) (mem : Mem) (n : Nat) :
    exec (do
      let ex ← readStmt g
      if !ex then raise .integrity
      rest) ⟨db, mem, n, none⟩ = (.error .integrity, ⟨db, mem, n + 1, none⟩) := by
  rw [exec_bind, exec_readStmt_none]
  simp only [h, Bool.not_false, if_true, exec_bind, exec_raise]

lemma exec_checked_present {g : Db → Bool} {rest : Sql Unit} {db : Db} (h : g db = true) (mem : Mem) (n : Nat) :
    exec (do
      let ex ← readStmt g
      if !ex then raise .integrity
      rest) ⟨db, mem, n, none⟩ = exec rest ⟨db, mem, n + 1, none⟩ := by
  rw [exec_bind, exec_readStmt_none]
  simp only [h, Bool.not_true, Bool.false_eq_true, if_false]

lemma exec_isoDelete_none (id : String) (db : Db) (mem : Mem) (n : Nat) :
    exec (isoDelete id) ⟨db, mem, n, none⟩ =
      if db.isos.any (·.1 == id) then
        (.ok (), ⟨{ db with isoData := db.isoData.filter (·.1 != id), isoProps := db.isoProps.filter (·.1 != id),
                            isos := db.isos.filter (·.1 != id) }, mem, n + 4, none⟩)
      else (.error .integrity, ⟨db, mem, n + 1, none⟩) := by
  unfold isoDelete
  split
  · rw [exec_checked_present ‹_›]
    simp only [exec_bind, exec_writeStmt_none]
  · rw [exec_checked_absent (Bool.eq_false_iff.2 ‹_›)]

lemma wf_body (op : Op) : Inv anyErr WF op.body := by
  by_cases hop : ∃ id, op = .isoDelete id
  · obtain ⟨id, rfl⟩ := hop
    show Inv anyErr WF (isoDelete id)
    rintro ⟨db, mem, n, f⟩ hf h
    simp only at hf h
    subst hf
    rw [exec_isoDelete_none]
    split
    · exact Or.inr ⟨(), rfl, rfl, wf_isoDelete_result h id⟩
    · exact Or.inl ⟨_, trivial, rfl⟩
  · exact Inv.opBody trivial op fun f hf d h => wf_writes hf (fun id e => hop ⟨id, e⟩) d h

theorem wf_opBody (op : Op) (db : Db) (mem : Mem) (n : Nat) (h : WF db)
    (hok : (exec op.body ⟨db, mem, n, none⟩).1 = .ok ()) : WF (exec op.body ⟨db, mem, n, none⟩).2.db := by
  rcases wf_body op ⟨db, mem, n, none⟩ rfl h with ⟨e, _, he⟩ | ⟨_, _, _, h2⟩
  · rw [hok] at he; cases he
  · exact h2

theorem refused_changes_nothing (db : Db) (mem : Mem) (op : Op) :
    (runOp db mem op none).out ≠ .ok → (runOp db mem op none).db = db := by
  obtain ⟨h1, h2⟩ := runOp_none db mem op
  rw [h1, h2]
  rcases (exec op.body ⟨db, mem, 1, none⟩).1 with e | a
  · intro _; rfl
  · intro h; exact absurd rfl h

/-- The result for the target file (committed content and outcome) is a function of that file's content and of the
operation only: it does not depend on the process-global lists, i.e. on uploads earlier in the session; other
database files are not even an input of `runOp`. -/
theorem outcome_depends_only_on_file (db : Db) (mem₁ mem₂ : Mem) (op : Op) (f : Option (Nat × FaultKind)) :
    (runOp db mem₁ op f).db = (runOp db mem₂ op f).db ∧ (runOp db mem₁ op f).out = (runOp db mem₂ op f).out := by
  have h := runOp_mem_irrelevant db mem₁ mem₂ op f
  exact ⟨h.1, h.2.1⟩

/-! ### no orphans, ever -/

theorem wellFormed_preserved_none (db : Db) (mem : Mem) (op : Op) (h : db.wellFormed = true) :
    (runOp db mem op none).db.wellFormed = true :=
  (wf_iff _).2 ((wf_body op).call db mem ((wf_iff _).1 h) none)

/-- referential integrity: isotherms reference existing material / adsorbate / type; property and data rows reference existing
owners -/
theorem wellFormed_preserved (db : Db) (mem : Mem) (op : Op) (fault : Option (Nat × FaultKind))
    (h : db.wellFormed = true) : (runOp db mem op fault).db.wellFormed = true :=
  (wf_iff _).2 ((wf_body op).call db mem ((wf_iff _).1 h) fault)

/-- one step of a history: the call sees the committed file and the current process-global lists -/
def step (s : Db × Mem) (c : Op × Option (Nat × FaultKind)) : Db × Mem :=
  ((runOp s.1 s.2 c.1 c.2).db, (runOp s.1 s.2 c.1 c.2).mem)

theorem history_wellFormed (h : List (Op × Option (Nat × FaultKind))) (db : Db) (mem : Mem)
    (hw : db.wellFormed = true) : (h.foldl step (db, mem)).1.wellFormed = true := by
  induction h generalizing db mem with
  | nil => exact hw
  | cons c h ih =>
    rw [List.foldl_cons]
    exact ih _ _ (wellFormed_preserved db mem c.1 c.2 hw)

theorem history_wellFormed_from_empty (h : List (Op × Option (Nat × FaultKind))) (mem : Mem) :
    (h.foldl step (Db.empty, mem)).1.wellFormed = true :=
  history_wellFormed h _ _ empty_wellFormed

theorem history_db_independent_of_mem (h : List (Op × Option (Nat × FaultKind))) (db : Db) (mem₁ mem₂ : Mem) :
    (h.foldl step (db, mem₁)).1 = (h.foldl step (db, mem₂)).1 := by
  induction h generalizing db mem₁ mem₂ with
  | nil => rfl
  | cons c h ih =>
    rw [List.foldl_cons, List.foldl_cons]
    unfold step
    simp only
    rw [(outcome_depends_only_on_file db mem₁ mem₂ c.1 c.2).1]
    exact ih _ _ _


abbrev isInt : SqlErr → Prop := fun e => e = .integrity

/-- what an auto-insertion leaves alone: the names of the other item (`other`), the isotherm types and the isotherms -/
def Frame (other : Db → List String) (N : List String) (T : List (String × String))
    (I : List (String × String × String × String × String)) (d : Db) : Prop :=
  other d = N ∧ d.isoTypes = T ∧ d.isos = I

section frame
variable {N : List String} {T : List (String × String)} {I : List (String × String × String × String × String)}

lemma frame_adsToDb (name props ai ow) : Inv isInt (Frame (·.mats) N T I) (adsToDb name props ai ow) :=
  Inv.opBody (E := isInt) (P := Frame (·.mats) N T I) rfl (.adsToDb name props ai ow) fun f hf d h => by
    cases hf with | ads hf => ?_
    cases hf <;> stmt_split <;> first | exact h | rfl

lemma frame_matToDb (name props ai ow) : Inv isInt (Frame (·.ads) N T I) (matToDb name props ai ow) :=
  Inv.opBody (E := isInt) (P := Frame (·.ads) N T I) rfl (.matToDb name props ai ow) fun f hf d h => by
    cases hf with | mat hf => ?_
    cases hf <;> stmt_split <;> first | exact h | rfl

end frame


/-! ### refusals of `isotherm_to_db` -/

lemma isoTail_fails (i : IsoIn) (w : Work) (hw : w.fault = none)
    (h : insIso i.id i.isoType i.material i.adsorbate i.temperature w.db = .error .integrity) :
    (exec (isoTail i) w).1 = .error .integrity := by
  obtain ⟨db, mem, n, f⟩ := w
  subst hw
  unfold isoTail
  rw [exec_bind, exec_writeStmt_none, h]

/-- an auto-insertion step (`SELECT`; if the name is unknown, the upload `p`) in front of a continuation that fails from every state
the step can lead to -/
lemma autoInsert_fails {P : Db → Prop} {p : Sql Unit} (hp : Inv isInt P p) (known : Db → Bool) (c : Sql Unit) (auto : Bool)
    (w : Work) (hw : w.fault = none) (hP : P w.db)
    (hc : ∀ w' : Work, w'.fault = none → P w'.db → (auto = true ∨ w'.db = w.db) → (exec c w').1 = .error .integrity) :
    (exec (if auto then do
        let k ← readStmt known
        if !k then do p; c else c
      else c) w).1 = .error .integrity := by
  cases auto with
  | false => exact hc w hw hP (Or.inr rfl)
  | true =>
    obtain ⟨db, mem, n, f⟩ := w
    subst hw
    rw [if_pos rfl, exec_bind, exec_readStmt_none]
    simp only
    split_ifs
    · exact hp.bind_fails rfl hP fun _ w' hw' hP' => hc w' hw' hP' (Or.inl rfl)
    · exact hc _ rfl hP (Or.inl rfl)

lemma isoAdsPart_fails (i : IsoIn) (aa : Bool) (w : Work) (hw : w.fault = none)
    (h : ∀ d, (aa = true ∨ d.ads = w.db.ads) → d.mats = w.db.mats → d.isoTypes = w.db.isoTypes → d.isos = w.db.isos →
      insIso i.id i.isoType i.material i.adsorbate i.temperature d = .error .integrity) :
    (exec (isoAdsPart i aa) w).1 = .error .integrity :=
  autoInsert_fails (frame_adsToDb _ _ _ _) _ _ aa w hw ⟨rfl, rfl, rfl⟩ fun w' hw' hP ha =>
    isoTail_fails i w' hw' (h _ (ha.imp_right (congrArg Db.ads)) hP.1 hP.2.1 hP.2.2)

/-- the general refusal lemma for `isotherm_to_db`: if the `INSERT INTO isotherms` is rejected in every state the
auto-insertion steps can lead to, the call ends in a `ParsingError` -/
lemma isoToDb_fails (i : IsoIn) (am aa : Bool) (db : Db) (mem : Mem) (n : Nat)
    (h : ∀ d, (am = true ∨ d.mats = db.mats) → (aa = true ∨ d.ads = db.ads) → d.isoTypes = db.isoTypes → d.isos = db.isos →
      insIso i.id i.isoType i.material i.adsorbate i.temperature d = .error .integrity) :
    (exec (isoToDb i am aa) ⟨db, mem, n, none⟩).1 = .error .integrity :=
  autoInsert_fails (frame_matToDb _ _ _ _) _ _ am ⟨db, mem, n, none⟩ rfl ⟨rfl, rfl, rfl⟩ fun w' hw' hP hm =>
    isoAdsPart_fails i aa w' hw' fun d g1 g2 g3 g4 =>
      h d (hm.imp_right fun e => g2.trans (congrArg Db.mats e)) (g1.imp_right (·.trans hP.1)) (g3.trans hP.2.1)
        (g4.trans hP.2.2)

/-- the ways in which `INSERT INTO isotherms` is refused -/
lemma insIso_refused (id ty : String) (mat ads temp : Option String) (d : Db)
    (h : temp = none ∨ (∀ m, mat = some m → m ∉ d.mats) ∨ (∀ a, ads = some a → a ∉ d.ads) ∨
      ty ∉ d.isoTypes.map (·.1) ∨ id ∈ d.isos.map (·.1)) :
    insIso id ty mat ads temp d = .error .integrity := by
  unfold insIso
  rcases mat with _ | m <;> rcases ads with _ | a <;> rcases temp with _ | t <;> try rfl
  simp only
  split_ifs with c1 c2
  · rfl
  · exfalso
    simp only [Bool.and_eq_true, any_key_iff, List.contains_iff_mem] at c2
    rcases h with h | h | h | h | h
    · cases h
    · exact h m rfl c2.1.2
    · exact h a rfl c2.2
    · exact h c2.1.1
    · exact c1 (any_key_iff.2 h)
  · rfl

lemma isoToDb_refused (db : Db) (mem : Mem) (i : IsoIn) (am aa : Bool)
    (h : ∀ d, (am = true ∨ d.mats = db.mats) → (aa = true ∨ d.ads = db.ads) → d.isoTypes = db.isoTypes → d.isos = db.isos →
      insIso i.id i.isoType i.material i.adsorbate i.temperature d = .error .integrity) :
    (runOp db mem (.isoToDb i am aa) none).out = .parsingError := by
  rw [(runOp_none _ _ _).1]
  show outcomeOf (exec (isoToDb i am aa) _).1 = _
  rw [isoToDb_fails i am aa db mem 1 h]
  rfl


/-! ### refusal rules (fault-free calls; each outcome is `ParsingError`, and by `refused_changes_nothing` nothing changes) -/

/-- names of the rows of the property-type table addressed by `table` (`"adsorbate"`, `"material"`, anything else = isotherm types) -/
def typeNames (db : Db) (table : String) : List String :=
  match table with
  | "adsorbate" => db.adsTypes.map (·.1)
  | "material" => db.matTypes.map (·.1)
  | _ => db.isoTypes.map (·.1)

lemma refused_of_exec {op : Op} {db : Db} {mem : Mem} {w : Work}
    (h : exec op.body ⟨db, mem, 1, none⟩ = (.error .integrity, w)) : (runOp db mem op none).out = .parsingError := by
  rw [(runOp_none _ _ _).1, h]
  rfl

section item
variable (k : Item) {db : Db} (mem : Mem) (n : Nat) (props : List (String × List (Option String))) (ai : Bool)

lemma _root_.PgVerif.StoreL.Item.exec_toDb_refused (name : Option String) {e : SqlErr} (h : k.insName name db = .error e) :
    exec (k.toDb name props ai false) ⟨db, mem, n, none⟩ = (.error e, ⟨db, mem, n + 1, none⟩) := by
  unfold Item.toDb
  rw [if_neg Bool.false_ne_true, exec_bind, exec_writeStmt_none, h]

lemma _root_.PgVerif.StoreL.Item.exec_toDb_absent {name : Option String} (h : name.getD "" ∉ k.names db) :
    exec (k.toDb name props ai true) ⟨db, mem, n, none⟩ = (.error .integrity, ⟨db, mem, n + 1, none⟩) := by
  unfold Item.toDb
  rw [if_pos rfl, exec_checked_absent (by simpa using h)]

lemma _root_.PgVerif.StoreL.Item.exec_delete_absent {nm : String} (h : nm ∉ k.names db) :
    exec (k.delete nm) ⟨db, mem, n, none⟩ = (.error .integrity, ⟨db, mem, n + 1, none⟩) := by
  unfold Item.delete
  rw [exec_checked_absent (by simpa using h)]

end item

theorem duplicate_adsorbate_refused (db : Db) (mem : Mem) (nm : String) (props : List (String × List (Option String)))
    (ai : Bool) (h : nm ∈ db.ads) :
    (runOp db mem (.adsToDb (some nm) props ai false) none).out = .parsingError :=
  refused_of_exec (Item.ads.exec_toDb_refused mem 1 props ai (some nm) (e := .integrity) (by simp [Item.ads, insAds, insName, h]))

theorem duplicate_material_refused (db : Db) (mem : Mem) (nm : String) (props : List (String × List (Option String)))
    (ai : Bool) (h : nm ∈ db.mats) :
    (runOp db mem (.matToDb (some nm) props ai false) none).out = .parsingError :=
  refused_of_exec (Item.mat.exec_toDb_refused mem 1 props ai (some nm) (e := .integrity) (by simp [Item.mat, insMat, insName, h]))

/-- an upload without a name (NOT NULL) is refused -/
theorem null_name_refused (db : Db) (mem : Mem) (props : List (String × List (Option String))) (ai : Bool) :
    (runOp db mem (.adsToDb none props ai false) none).out = .parsingError ∧
    (runOp db mem (.matToDb none props ai false) none).out = .parsingError := by
  exact ⟨refused_of_exec (Item.ads.exec_toDb_refused mem 1 props ai none (e := .integrity) rfl),
    refused_of_exec (Item.mat.exec_toDb_refused mem 1 props ai none (e := .integrity) rfl)⟩

theorem overwrite_absent_refused (db : Db) (mem : Mem) (name : Option String) (props : List (String × List (Option String)))
    (ai : Bool) :
    (name.getD "" ∉ db.ads → (runOp db mem (.adsToDb name props ai true) none).out = .parsingError) ∧
    (name.getD "" ∉ db.mats → (runOp db mem (.matToDb name props ai true) none).out = .parsingError) := by
  exact ⟨fun h => refused_of_exec (Item.ads.exec_toDb_absent mem 1 props ai h),
    fun h => refused_of_exec (Item.mat.exec_toDb_absent mem 1 props ai h)⟩

theorem delete_absent_refused (db : Db) (mem : Mem) :
    (∀ nm, nm ∉ db.ads → (runOp db mem (.adsDelete nm) none).out = .parsingError) ∧
    (∀ nm, nm ∉ db.mats → (runOp db mem (.matDelete nm) none).out = .parsingError) ∧
    (∀ id, id ∉ db.isos.map (·.1) → (runOp db mem (.isoDelete id) none).out = .parsingError) ∧
    (∀ table t, t ∉ typeNames db table → (runOp db mem (.typeDelete table t) none).out = .parsingError) := by
  refine ⟨?_, ?_, ?_, ?_⟩
  · exact fun nm h => refused_of_exec (Item.ads.exec_delete_absent mem 1 h)
  · exact fun nm h => refused_of_exec (Item.mat.exec_delete_absent mem 1 h)
  · intro id h
    rw [(runOp_none _ _ _).1]
    simp only [Op.body, exec_isoDelete_none, any_key_false h]
    simp [outcomeOf]
  · intro table t h
    rw [(runOp_none _ _ _).1]
    unfold typeNames at h
    simp only [Op.body, typeDelete, exec_bind, exec_readStmt_none]
    split at h <;> simp [any_key_false h, outcomeOf, exec_bind]



theorem delete_referenced_refused (db : Db) (mem : Mem) (nm : String)
    (r : String × String × String × String × String) (hr : r ∈ db.isos) :
    (nm ∈ db.ads → r.2.2.2.1 = nm → (runOp db mem (.adsDelete nm) none).out = .parsingError) ∧
    (nm ∈ db.mats → r.2.2.1 = nm → (runOp db mem (.matDelete nm) none).out = .parsingError) := by
  constructor
  · intro h hr2
    rw [(runOp_none _ _ _).1]
    have : (db.isos.any fun r => r.2.2.2.1 == nm) = true := any_key_true (List.mem_map.2 ⟨r, hr, hr2⟩)
    simp [Op.body, adsDelete, exec_bind, h, outcomeOf, exec_writeStmt_none, delAds, this]
  · intro h hr2
    rw [(runOp_none _ _ _).1]
    have : (db.isos.any fun r => r.2.2.1 == nm) = true := any_key_true (List.mem_map.2 ⟨r, hr, hr2⟩)
    simp [Op.body, matDelete, exec_bind, h, outcomeOf, exec_writeStmt_none, delMat, this]

theorem type_delete_referenced_refused (db : Db) (mem : Mem) (t : String) :
    (t ∈ db.adsProps.map (·.2.1) → (runOp db mem (.typeDelete "adsorbate" t) none).out = .parsingError) ∧
    (t ∈ db.matProps.map (·.2.1) → (runOp db mem (.typeDelete "material" t) none).out = .parsingError) ∧
    (∀ table, table ≠ "adsorbate" → table ≠ "material" → t ∈ db.isos.map (·.2.1) →
      (runOp db mem (.typeDelete table t) none).out = .parsingError) := by
  refine ⟨?_, ?_, ?_⟩
  · intro h
    have h' : (db.adsProps.any fun r => r.2.1 == t) = true := any_key_true h
    rw [(runOp_none _ _ _).1]
    simp only [Op.body, typeDelete, exec_bind, exec_readStmt_none]
    by_cases c : (db.adsTypes.any fun x => x.1 == t) = true <;>
      simp [c, outcomeOf, exec_bind, exec_writeStmt_none, delAdsType, h']
  · intro h
    have h' : (db.matProps.any fun r => r.2.1 == t) = true := any_key_true h
    rw [(runOp_none _ _ _).1]
    simp only [Op.body, typeDelete, exec_bind, exec_readStmt_none]
    by_cases c : (db.matTypes.any fun x => x.1 == t) = true <;>
      simp [c, outcomeOf, exec_bind, exec_writeStmt_none, delMatType, h']
  · intro table h1 h2 h
    have h' : (db.isos.any fun r => r.2.1 == t) = true := any_key_true h
    rw [(runOp_none _ _ _).1]
    simp only [Op.body, typeDelete, exec_bind, exec_readStmt_none]
    by_cases c : (db.isoTypes.any fun x => x.1 == t) = true <;>
      simp [c, outcomeOf, exec_bind, exec_writeStmt_none, delIsoType, h', h1, h2]

theorem duplicate_isotherm_refused (db : Db) (mem : Mem) (i : IsoIn) (am aa : Bool) (h : i.id ∈ db.isos.map (·.1)) :
    (runOp db mem (.isoToDb i am aa) none).out = .parsingError :=
  isoToDb_refused db mem i am aa fun d _ _ _ h4 => insIso_refused _ _ _ _ _ d (.inr (.inr (.inr (.inr (h4 ▸ h)))))

theorem unknown_reference_refused (db : Db) (mem : Mem) (i : IsoIn) :
    (∀ aa, (∀ m, i.material = some m → m ∉ db.mats) → (runOp db mem (.isoToDb i false aa) none).out = .parsingError) ∧
    (∀ am, (∀ a, i.adsorbate = some a → a ∉ db.ads) → (runOp db mem (.isoToDb i am false) none).out = .parsingError) ∧
    (∀ am aa, i.isoType ∉ db.isoTypes.map (·.1) → (runOp db mem (.isoToDb i am aa) none).out = .parsingError) ∧
    (∀ am aa, i.temperature = none → (runOp db mem (.isoToDb i am aa) none).out = .parsingError) := by
  refine ⟨fun aa h => ?_, fun am h => ?_, fun am aa h => ?_, fun am aa h => ?_⟩
  · refine isoToDb_refused db mem i false aa fun d h1 _ _ _ => insIso_refused _ _ _ _ _ d (.inr (.inl ?_))
    rw [h1.resolve_left Bool.false_ne_true]
    exact h
  · refine isoToDb_refused db mem i am false fun d _ h2 _ _ => insIso_refused _ _ _ _ _ d (.inr (.inr (.inl ?_)))
    rw [h2.resolve_left Bool.false_ne_true]
    exact h
  · exact isoToDb_refused db mem i am aa fun d _ _ h3 _ => insIso_refused _ _ _ _ _ d (.inr (.inr (.inr (.inl (h3 ▸ h)))))
  · exact isoToDb_refused db mem i am aa fun d _ _ _ _ => insIso_refused _ _ _ _ _ d (.inl h)


/-! ### effect rules (fault-free calls; outcome `ok` and the exact new content) -/

lemma any_filter_ne_false {α : Type} (l : List α) (f : α → String) (t : String) :
    ((l.filter fun r => f r != t).any fun r => f r == t) = false := by
  rw [Bool.eq_false_iff, Ne, List.any_eq_true]
  rintro ⟨r, hr, h⟩
  have := (List.mem_filter.1 hr).2
  simp_all

/-- with `overwrite` the statement is an `UPDATE`: the row of that name is replaced in place, nothing else is touched -/
theorem type_upload (db : Db) (mem : Mem) (t u d : String) :
    (t ∉ db.adsTypes.map (·.1) →
      (runOp db mem (.typeToDb "adsorbate" (some t) u d false) none).out = .ok ∧
      (runOp db mem (.typeToDb "adsorbate" (some t) u d false) none).db = { db with adsTypes := db.adsTypes ++ [(t, u, d)] }) ∧
    (t ∉ db.matTypes.map (·.1) →
      (runOp db mem (.typeToDb "material" (some t) u d false) none).out = .ok ∧
      (runOp db mem (.typeToDb "material" (some t) u d false) none).db = { db with matTypes := db.matTypes ++ [(t, u, d)] }) ∧
    (∀ table, table ≠ "adsorbate" → table ≠ "material" → t ∉ db.isoTypes.map (·.1) →
      (runOp db mem (.typeToDb table (some t) u d false) none).out = .ok ∧
      (runOp db mem (.typeToDb table (some t) u d false) none).db = { db with isoTypes := db.isoTypes ++ [(t, d)] }) ∧
    ((runOp db mem (.typeToDb "adsorbate" (some t) u d true) none).out = .ok ∧
      (runOp db mem (.typeToDb "adsorbate" (some t) u d true) none).db =
        { db with adsTypes := db.adsTypes.map fun r => if r.1 == t then (t, u, d) else r }) ∧
    ((runOp db mem (.typeToDb "material" (some t) u d true) none).out = .ok ∧
      (runOp db mem (.typeToDb "material" (some t) u d true) none).db =
        { db with matTypes := db.matTypes.map fun r => if r.1 == t then (t, u, d) else r }) := by
  refine ⟨?_, ?_, ?_, ?_, ?_⟩
  · intro h
    rw [(runOp_none _ _ _).1, (runOp_none _ _ _).2]
    simp [Op.body, typeToDb, exec_writeStmt_none, insType3, any_key_false h, outcomeOf]
  · intro h
    rw [(runOp_none _ _ _).1, (runOp_none _ _ _).2]
    simp [Op.body, typeToDb, exec_writeStmt_none, insType3, any_key_false h, outcomeOf]
  · intro table h1 h2 h
    rw [(runOp_none _ _ _).1, (runOp_none _ _ _).2]
    simp [Op.body, typeToDb, exec_writeStmt_none, insIsoType, any_key_false h, outcomeOf, h1, h2]
  · rw [(runOp_none _ _ _).1, (runOp_none _ _ _).2]
    simp [Op.body, typeToDb, exec_writeStmt_none, updType3, outcomeOf]
  · rw [(runOp_none _ _ _).1, (runOp_none _ _ _).2]
    simp [Op.body, typeToDb, exec_writeStmt_none, updType3, outcomeOf]

theorem type_delete (db : Db) (mem : Mem) (t : String) :
    (t ∈ db.adsTypes.map (·.1) → t ∉ db.adsProps.map (·.2.1) →
      (runOp db mem (.typeDelete "adsorbate" t) none).out = .ok ∧
      (runOp db mem (.typeDelete "adsorbate" t) none).db = { db with adsTypes := db.adsTypes.filter (·.1 != t) }) ∧
    (t ∈ db.matTypes.map (·.1) → t ∉ db.matProps.map (·.2.1) →
      (runOp db mem (.typeDelete "material" t) none).out = .ok ∧
      (runOp db mem (.typeDelete "material" t) none).db = { db with matTypes := db.matTypes.filter (·.1 != t) }) ∧
    (∀ table, table ≠ "adsorbate" → table ≠ "material" → t ∈ db.isoTypes.map (·.1) → t ∉ db.isos.map (·.2.1) →
      (runOp db mem (.typeDelete table t) none).out = .ok ∧
      (runOp db mem (.typeDelete table t) none).db = { db with isoTypes := db.isoTypes.filter (·.1 != t) }) := by
  refine ⟨?_, ?_, ?_⟩
  · intro h hn
    have hn' : (db.adsProps.any fun r => r.2.1 == t) = false := any_key_false hn
    rw [(runOp_none _ _ _).1, (runOp_none _ _ _).2]
    simp [Op.body, typeDelete, exec_bind, exec_writeStmt_none, delAdsType, any_key_true h, hn', outcomeOf]
  · intro h hn
    have hn' : (db.matProps.any fun r => r.2.1 == t) = false := any_key_false hn
    rw [(runOp_none _ _ _).1, (runOp_none _ _ _).2]
    simp [Op.body, typeDelete, exec_bind, exec_writeStmt_none, delMatType, any_key_true h, hn', outcomeOf]
  · intro table h1 h2 h hn
    have hn' : (db.isos.any fun r => r.2.1 == t) = false := any_key_false hn
    rw [(runOp_none _ _ _).1, (runOp_none _ _ _).2]
    simp [Op.body, typeDelete, exec_bind, exec_writeStmt_none, delIsoType, any_key_true h, hn', outcomeOf, h1, h2]

theorem delete_removes_exactly (db : Db) (mem : Mem) :
    (∀ nm, nm ∈ db.ads → nm ∉ db.isos.map (·.2.2.2.1) →
      (runOp db mem (.adsDelete nm) none).out = .ok ∧
      (runOp db mem (.adsDelete nm) none).db =
        { db with ads := db.ads.filter (· != nm), adsProps := db.adsProps.filter (·.1 != nm) }) ∧
    (∀ nm, nm ∈ db.mats → nm ∉ db.isos.map (·.2.2.1) →
      (runOp db mem (.matDelete nm) none).out = .ok ∧
      (runOp db mem (.matDelete nm) none).db =
        { db with mats := db.mats.filter (· != nm), matProps := db.matProps.filter (·.1 != nm) }) ∧
    (∀ id, id ∈ db.isos.map (·.1) →
      (runOp db mem (.isoDelete id) none).out = .ok ∧
      (runOp db mem (.isoDelete id) none).db =
        { db with isos := db.isos.filter (·.1 != id), isoProps := db.isoProps.filter (·.1 != id),
                  isoData := db.isoData.filter (·.1 != id) }) := by
  refine ⟨?_, ?_, ?_⟩
  · intro nm h hn
    have hn' : (db.isos.any fun r => r.2.2.2.1 == nm) = false := any_key_false hn
    have hp := any_filter_ne_false db.adsProps (·.1) nm
    rw [(runOp_none _ _ _).1, (runOp_none _ _ _).2]
    simp [Op.body, adsDelete, exec_bind, exec_writeStmt_none, delAds, h, hn', hp, outcomeOf]
  · intro nm h hn
    have hn' : (db.isos.any fun r => r.2.2.1 == nm) = false := any_key_false hn
    have hp := any_filter_ne_false db.matProps (·.1) nm
    rw [(runOp_none _ _ _).1, (runOp_none _ _ _).2]
    simp [Op.body, matDelete, exec_bind, exec_writeStmt_none, delMat, h, hn', hp, outcomeOf]
  · intro id h
    rw [(runOp_none _ _ _).1, (runOp_none _ _ _).2]
    simp [Op.body, exec_isoDelete_none, any_key_true h, outcomeOf]


/-! ### uploads of adsorbates and materials -/

/-- `sel` / `upd` read and replace one table of the file -/
structure Table {ρ : Type} (sel : Db → List ρ) (upd : Db → List ρ → Db) : Prop where
  get_set (d : Db) (l : List ρ) : sel (upd d l) = l
  set_set (d : Db) (l l' : List ρ) : upd (upd d l) l' = upd d l'
  set_get (d : Db) : upd d (sel d) = d

/-- the rows the auto-insertion adds, for the property keys `keys`, to a type table whose keys are `known` -/
def newTypes (known keys : List String) : List (String × String × String) :=
  (keys.filter fun t => !known.contains t).map fun t => (t, "", "")

/-- the auto-insertion loop adds, in order, the property types that were not in the snapshot `types0` -/
lemma exec_typeLoop {sel upd} (T : Table sel upd) (types0 : List String) (props : List (String × List (Option String)))
    (hnd : (props.map (·.1)).Nodup) (db : Db) (mem : Mem) (n : Nat)
    (h : ∀ t ∈ props.map (·.1), t ∉ types0 → t ∉ (sel db).map (·.1)) :
    ∃ n', exec (typeLoop sel upd types0 props) ⟨db, mem, n, none⟩ =
      (.ok PUnit.unit, ⟨upd db (sel db ++ newTypes types0 (props.map (·.1))), mem, n', none⟩) := by
  unfold typeLoop newTypes
  induction props generalizing db n with
  | nil => exact ⟨n, by simp [T.set_get]⟩
  | cons p rest ih =>
    obtain ⟨t, vs⟩ := p
    rw [List.forIn_cons]
    simp only [List.map_cons, List.nodup_cons] at hnd h
    by_cases c : types0.contains t = true
    · obtain ⟨n', hn'⟩ := ih hnd.2 db n (fun t' ht' => h t' (List.mem_cons_of_mem _ ht'))
      refine ⟨n', ?_⟩
      simp only [exec_bind, c, Bool.not_true, Bool.false_eq_true, if_false, exec_pure]
      rw [hn']
      have c' : t ∈ types0 := by simpa using c
      simp [List.filter_cons, c']
    · have ht : t ∉ (sel db).map (·.1) := h t List.mem_cons_self (by simpa using c)
      have hins : insType3 sel upd (some t) "" "" db = .ok (upd db (sel db ++ [(t, "", "")])) := by
        simp [insType3, any_key_false ht]
      obtain ⟨n', hn'⟩ := ih hnd.2 (upd db (sel db ++ [(t, "", "")])) (n + 1) (by
        intro t' ht' hnt'
        rw [T.get_set]
        simp only [List.map_append, List.map_cons, List.map_nil, List.mem_append, List.mem_singleton, not_or]
        refine ⟨h t' (List.mem_cons_of_mem _ ht') hnt', ?_⟩
        rintro rfl; exact hnd.1 ht')
      refine ⟨n', ?_⟩
      simp only [exec_bind, c, Bool.not_false, if_true, exec_writeStmt_ok hins, exec_pure]
      rw [hn']
      have c' : t ∉ types0 := by simpa using c
      simp [List.filter_cons, c', T.get_set, T.set_set]

/-- a loop that issues one `INSERT` per element appends one row per element, as long as the guard `G` of the `INSERT` holds -/
lemma exec_insLoop {α γ ρ : Type} {sel : Db → List ρ} {upd} (T : Table sel upd) {e : γ → α} {g : α → Db → Except SqlErr Db}
    {row : γ → ρ} {G : Db → Prop} (hG : ∀ d l, G d → G (upd d l))
    (hins : ∀ d x, G d → g (e x) d = .ok (upd d (sel d ++ [row x])))
    {body : α → PUnit → Sql (ForInStep PUnit)}
    (hbody : ∀ a u, body a u = do writeStmt (g a); pure (ForInStep.yield PUnit.unit))
    (l : List γ) (db : Db) (mem : Mem) (n : Nat) (hg : G db) :
    ∃ n', exec (forIn (l.map e) PUnit.unit body) ⟨db, mem, n, none⟩ =
      (.ok PUnit.unit, ⟨upd db (sel db ++ l.map row), mem, n', none⟩) := by
  induction l generalizing db n with
  | nil => exact ⟨n, by simp [T.set_get]⟩
  | cons x rest ih =>
    rw [List.map_cons, List.forIn_cons, hbody]
    obtain ⟨n', hn'⟩ := ih (upd db (sel db ++ [row x])) (n + 1) (hG _ _ hg)
    refine ⟨n', ?_⟩
    simp only [exec_bind, exec_writeStmt_ok (hins db x hg), exec_pure]
    rw [hn']
    simp [T.get_set, T.set_set]

lemma exec_propLoop {ρ : Type} {sel : Db → List ρ} {upd} (T : Table sel upd)
    {ins : String → Option String → Db → Except SqlErr Db} {row : String → String → ρ} {G : String → Db → Prop}
    (hG : ∀ t d l, G t d → G t (upd d l))
    (hins : ∀ t d v, G t d → ins t (some v) d = .ok (upd d (sel d ++ [row t v])))
    (props : List (String × List String)) (db : Db) (mem : Mem) (n : Nat) (hg : ∀ t ∈ props.map (·.1), G t db) :
    ∃ n', exec (propLoop ins (props.map fun p => (p.1, p.2.map some))) ⟨db, mem, n, none⟩ =
      (.ok PUnit.unit, ⟨upd db (sel db ++ props.flatMap fun p => p.2.map (row p.1)), mem, n', none⟩) := by
  unfold propLoop
  induction props generalizing db n with
  | nil => exact ⟨n, by simp [T.set_get]⟩
  | cons p rest ih =>
    obtain ⟨t, vs⟩ := p
    rw [List.map_cons, List.forIn_cons]
    simp only [List.map_cons, List.mem_cons, forall_eq_or_imp] at hg
    obtain ⟨n1, h1⟩ := exec_insLoop T (e := some) (hG t) (hins t) (fun _ _ => rfl) vs db mem n hg.1
    replace h1 : exec (valLoop (ins t) (vs.map some)) _ = _ := h1
    obtain ⟨n', hn'⟩ := ih (upd db (sel db ++ vs.map (row t))) n1 fun t' ht' => hG t' _ _ (hg.2 t' ht')
    refine ⟨n', ?_⟩
    simp only [exec_bind, h1, exec_pure]
    rw [hn']
    simp [T.get_set, T.set_set]

/-- what `adsorbate_to_db` / `material_to_db` do once the name row is settled, with auto-insertion: read the known property types,
insert the missing ones, insert the property rows, go on with `c` -/
def uploadRows (selT : Db → List (String × String × String)) (updT : Db → List (String × String × String) → Db)
    (ins : String → Option String → Db → Except SqlErr Db) (props : List (String × List (Option String))) (c : Sql Unit) :
    Sql Unit := do
  let types ← readStmt fun db => (selT db).map (·.1)
  typeLoop selT updT types props
  propLoop ins props
  c

/-- the laws of an item the computations below use; for `Item.ads` and `Item.mat` each holds by `rfl` or by unfolding a
statement.  (This and the lemmas `Item.…` below are declared into the namespace of `Item` for the dot notation; they stand here,
with the effect rules they serve, because they rest on `Table`, `exec_typeLoop` and `exec_propLoop` of this file.) -/
structure _root_.PgVerif.StoreL.Item.Lawful (k : Item) : Prop where
  typesT : Table k.types k.setTypes
  propsT : Table k.props k.setProps
  names_setNames (d : Db) (l : List String) : k.names (k.setNames d l) = l
  names_setTypes (d : Db) (l : List (String × String × String)) : k.names (k.setTypes d l) = k.names d
  names_setProps (d : Db) (l : List (String × String × String)) : k.names (k.setProps d l) = k.names d
  types_setProps (d : Db) (l : List (String × String × String)) : k.types (k.setProps d l) = k.types d
  insName_ok (nm : String) (d : Db) : nm ∉ k.names d → k.insName (some nm) d = .ok (k.setNames d (k.names d ++ [nm]))
  insProp_ok (nm t v : String) (d : Db) : nm ∈ k.names d → t ∈ (k.types d).map Prod.fst →
    k.insProp nm t (some v) d = .ok (k.setProps d (k.props d ++ [(nm, t, v)]))

lemma _root_.PgVerif.StoreL.Item.lawful {k : Item} (hk : k = Item.ads ∨ k = Item.mat) : k.Lawful := by
  rcases hk with rfl | rfl <;> exact
    { typesT := ⟨fun _ _ => rfl, fun _ _ _ => rfl, fun _ => rfl⟩
      propsT := ⟨fun _ _ => rfl, fun _ _ _ => rfl, fun _ => rfl⟩
      names_setNames := fun _ _ => rfl
      names_setTypes := fun _ _ => rfl
      names_setProps := fun _ _ => rfl
      types_setProps := fun _ _ => rfl
      insName_ok := fun nm d h => by
        dsimp only [Item.ads, Item.mat, insAds, insMat, insName]
        rw [if_neg (by rw [List.contains_iff_mem]; exact h)]
      insProp_ok := fun nm t v d h1 h2 => by
        dsimp only [Item.ads, Item.mat, insAdsProp, insMatProp]
        rw [if_pos (by rw [Bool.and_eq_true]; exact ⟨List.contains_iff_mem.2 h1, any_key_true h2⟩)] }

/-- the file after the auto-insertion and the property rows of `nm` -/
def _root_.PgVerif.StoreL.Item.withRows (k : Item) (nm : String) (props : List (String × List String)) (d : Db) : Db :=
  k.setProps (k.setTypes d (k.types d ++ newTypes ((k.types d).map (·.1)) (props.map (·.1))))
    (k.props (k.setTypes d (k.types d ++ newTypes ((k.types d).map (·.1)) (props.map (·.1)))) ++
      props.flatMap fun p => p.2.map fun v => (nm, p.1, v))

section item
variable {k : Item} (L : k.Lawful) (nm : String) (props : List (String × List String)) (hnd : (props.map (·.1)).Nodup)
  (db : Db) (mem : Mem)
include L hnd

lemma _root_.PgVerif.StoreL.Item.exec_rows (n : Nat) (hnm : nm ∈ k.names db) (c : Sql Unit) :
    ∃ n', exec (uploadRows k.types k.setTypes (k.insProp nm) (props.map fun p => (p.1, p.2.map some)) c) ⟨db, mem, n, none⟩ =
      exec c ⟨k.withRows nm props db, mem, n', none⟩ := by
  have hkeys : (props.map fun p => (p.1, p.2.map some)).map (·.1) = props.map (·.1) := by
    rw [List.map_map]; rfl
  obtain ⟨n1, h1⟩ := exec_typeLoop L.typesT ((k.types db).map (·.1)) (props.map fun p => (p.1, p.2.map some))
    (hkeys ▸ hnd) db mem (n + 1) (fun t _ h => h)
  rw [hkeys] at h1
  obtain ⟨n2, h2⟩ := exec_propLoop L.propsT (row := fun t v => (nm, t, v))
    (G := fun (t : String) (d : Db) => nm ∈ k.names d ∧ t ∈ (k.types d).map Prod.fst)
    (fun t d l h => ⟨by rw [L.names_setProps]; exact h.1, by rw [L.types_setProps]; exact h.2⟩)
    (fun t d v h => L.insProp_ok nm t v d h.1 h.2) props
    (k.setTypes db (k.types db ++ newTypes ((k.types db).map (·.1)) (props.map (·.1)))) mem n1
    (fun t ht => ⟨by rw [L.names_setTypes]; exact hnm, by
      rw [L.typesT.get_set, List.map_append, List.mem_append]
      by_cases c : t ∈ (k.types db).map Prod.fst
      · exact Or.inl c
      · right
        unfold newTypes
        rw [List.map_map]
        refine List.mem_map.2 ⟨t, List.mem_filter.2 ⟨ht, ?_⟩, rfl⟩
        rw [Bool.not_eq_true', Bool.eq_false_iff, Ne, List.contains_iff_mem]
        exact c⟩)
  refine ⟨n2, ?_⟩
  unfold uploadRows Item.withRows
  simp only [exec_bind, exec_readStmt_none, h1, h2]

/-- Upload of a new item (not overwriting, name absent, all values non-null, distinct property keys as in a Python dict,
property types auto-inserted): the call succeeds; the name is in its table; the property types not yet known are appended (empty
unit and description), in order; the property rows are exactly the rows of `props` appended in order; every other row of every
table is unchanged. -/
lemma _root_.PgVerif.StoreL.Item.exec_upload (hn : nm ∉ k.names db) :
    ∃ m' n', exec (k.toDb (some nm) (props.map fun p => (p.1, p.2.map some)) true false) ⟨db, mem, 1, none⟩ =
      (.ok (), ⟨k.withRows nm props (k.setNames db (k.names db ++ [nm])), m', n', none⟩) := by
  obtain ⟨n', h⟩ := Item.exec_rows L nm props hnd (k.setNames db (k.names db ++ [nm])) mem (1 + 1)
    (by rw [L.names_setNames]; simp) (modifyMem fun m => k.setList m (k.list m ++ [nm]))
  have e : k.toDb (some nm) (props.map fun p => (p.1, p.2.map some)) true false = (do
      writeStmt (k.insName (some nm))
      uploadRows k.types k.setTypes (k.insProp nm) (props.map fun p => (p.1, p.2.map some))
        (modifyMem fun m => k.setList m (k.list m ++ [nm]))) := rfl
  exact ⟨_, n', by simp only [e, exec_bind, exec_writeStmt_ok (L.insName_ok nm db hn), h, exec_modifyMem]; rfl⟩

/-- Overwrite of a stored item (name present, all values non-null, distinct keys, property types auto-inserted): the call
succeeds; the old property rows of that name disappear, the new ones are appended in order; the name row itself and every other
row are unchanged. -/
lemma _root_.PgVerif.StoreL.Item.exec_overwrite (hn : nm ∈ k.names db) :
    ∃ m' n', exec (k.toDb (some nm) (props.map fun p => (p.1, p.2.map some)) true true) ⟨db, mem, 1, none⟩ =
      (.ok (), ⟨k.withRows nm props (k.setProps db ((k.props db).filter (·.1 != nm))), m', n', none⟩) := by
  obtain ⟨n', h⟩ := Item.exec_rows L nm props hnd (k.setProps db ((k.props db).filter (·.1 != nm))) mem (1 + 1 + 1)
    (by rw [L.names_setProps]; exact hn) (do
      modifyMem fun m => k.setList m ((k.list m).erase nm)
      modifyMem fun m => k.setList m (k.list m ++ [nm]))
  have e : k.toDb (some nm) (props.map fun p => (p.1, p.2.map some)) true true = (do
      let ex ← readStmt fun db => (k.names db).contains nm
      if !ex then raise .integrity
      writeStmt (k.clear nm)
      uploadRows k.types k.setTypes (k.insProp nm) (props.map fun p => (p.1, p.2.map some)) (do
        modifyMem fun m => k.setList m ((k.list m).erase nm)
        modifyMem fun m => k.setList m (k.list m ++ [nm]))) := rfl
  exact ⟨_, n', by
    simp only [e, exec_bind, exec_readStmt_none, exec_writeStmt_none, Item.clear, h, exec_modifyMem, exec_pure,
      List.contains_iff_mem.2 hn, Bool.not_true, Bool.false_eq_true, if_false]
    rfl⟩

end item

lemma runOp_none_of_exec {op : Op} {db d' : Db} {mem m' : Mem} {n' : Nat}
    (h : exec op.body ⟨db, mem, 1, none⟩ = (.ok (), ⟨d', m', n', none⟩)) :
    (runOp db mem op none).out = .ok ∧ (runOp db mem op none).db = d' := by
  rw [(runOp_none _ _ _).1, (runOp_none _ _ _).2, h]
  exact ⟨rfl, rfl⟩

theorem upload_adsorbate_then_present (db : Db) (mem : Mem) (nm : String) (props : List (String × List String))
    (hn : nm ∉ db.ads) (hnd : (props.map (·.1)).Nodup) :
    (runOp db mem (.adsToDb (some nm) (props.map fun p => (p.1, p.2.map some)) true false) none).out = .ok ∧
    (runOp db mem (.adsToDb (some nm) (props.map fun p => (p.1, p.2.map some)) true false) none).db =
      Item.ads.withRows nm props { db with ads := db.ads ++ [nm] } :=
  let ⟨_, _, h⟩ := Item.exec_upload (Item.lawful (k := .ads) (.inl rfl)) nm props hnd db mem hn
  runOp_none_of_exec h

theorem upload_material_then_present (db : Db) (mem : Mem) (nm : String) (props : List (String × List String))
    (hn : nm ∉ db.mats) (hnd : (props.map (·.1)).Nodup) :
    (runOp db mem (.matToDb (some nm) (props.map fun p => (p.1, p.2.map some)) true false) none).out = .ok ∧
    (runOp db mem (.matToDb (some nm) (props.map fun p => (p.1, p.2.map some)) true false) none).db =
      Item.mat.withRows nm props { db with mats := db.mats ++ [nm] } :=
  let ⟨_, _, h⟩ := Item.exec_upload (Item.lawful (k := .mat) (.inr rfl)) nm props hnd db mem hn
  runOp_none_of_exec h


theorem upload_then_present (db : Db) (mem : Mem) (nm : String) (props : List (String × List String))
    (hnd : (props.map (·.1)).Nodup) :
    (nm ∉ db.ads →
      (runOp db mem (.adsToDb (some nm) (props.map fun p => (p.1, p.2.map some)) true false) none).out = .ok ∧
      (runOp db mem (.adsToDb (some nm) (props.map fun p => (p.1, p.2.map some)) true false) none).db =
        { db with
          ads := db.ads ++ [nm]
          adsTypes := db.adsTypes ++
            ((props.map (·.1)).filter fun t => !(db.adsTypes.map (·.1)).contains t).map fun t => (t, "", "")
          adsProps := db.adsProps ++ props.flatMap fun p => p.2.map fun v => (nm, p.1, v) }) ∧
    (nm ∉ db.mats →
      (runOp db mem (.matToDb (some nm) (props.map fun p => (p.1, p.2.map some)) true false) none).out = .ok ∧
      (runOp db mem (.matToDb (some nm) (props.map fun p => (p.1, p.2.map some)) true false) none).db =
        { db with
          mats := db.mats ++ [nm]
          matTypes := db.matTypes ++
            ((props.map (·.1)).filter fun t => !(db.matTypes.map (·.1)).contains t).map fun t => (t, "", "")
          matProps := db.matProps ++ props.flatMap fun p => p.2.map fun v => (nm, p.1, v) }) :=
  ⟨fun h => upload_adsorbate_then_present db mem nm props h hnd,
   fun h => upload_material_then_present db mem nm props h hnd⟩


/-! ### upload of an isotherm whose material and adsorbate are already stored -/

/-- the content after a successful isotherm upload -/
def withIsotherm (db : Db) (i : IsoIn) (m a temp : String) (props : List (String × String)) : Db :=
  { db with
    isos := db.isos ++ [(i.id, i.isoType, m, a, temp)]
    isoProps := db.isoProps ++ props.map fun p => (i.id, p.1, p.2)
    isoData := db.isoData ++ i.data.map fun r => (i.id, r.1, r.2.1, r.2.2) }

lemma exec_isoTail (i : IsoIn) (m a temp : String) (props : List (String × String)) (db : Db) (mem : Mem) (n : Nat)
    (hm : i.material = some m) (ha : i.adsorbate = some a) (ht : i.temperature = some temp)
    (hp : i.props = props.map fun p => (p.1, PVal.val p.2))
    (hmk : m ∈ db.mats) (hak : a ∈ db.ads) (hty : i.isoType ∈ db.isoTypes.map (·.1)) (hid : i.id ∉ db.isos.map (·.1)) :
    ∃ n', exec (isoTail i) ⟨db, mem, n, none⟩ = (.ok (), ⟨withIsotherm db i m a temp props, mem, n', none⟩) := by
  have hins : insIso i.id i.isoType i.material i.adsorbate i.temperature db =
      .ok { db with isos := db.isos ++ [(i.id, i.isoType, m, a, temp)] } := by
    rw [hm, ha, ht]
    simp only [insIso, any_key_false hid, Bool.false_eq_true, ↓reduceIte, any_key_true hty, List.contains_eq_mem,
      hmk, decide_true, Bool.and_self, hak]
  have hid' : i.id ∈ ({ db with isos := db.isos ++ [(i.id, i.isoType, m, a, temp)] } : Db).isos.map (·.1) :=
    List.mem_map.2 ⟨_, List.mem_append_right _ (List.mem_singleton_self _), rfl⟩
  obtain ⟨n1, h1⟩ := exec_insLoop (sel := (·.isoProps)) (upd := fun d l => { d with isoProps := l })
    ⟨fun _ _ => rfl, fun _ _ _ => rfl, fun _ => rfl⟩ (e := fun p : String × String => (p.1, PVal.val p.2))
    (g := fun x => insIsoProp i.id x.1 x.2) (row := fun p => (i.id, p.1, p.2)) (G := fun d => i.id ∈ d.isos.map Prod.fst)
    (fun _ _ h => h) (fun d x h => by simp only [insIsoProp, any_key_true h, ↓reduceIte]) (fun _ _ => rfl) props _ mem (n + 1) hid'
  obtain ⟨n2, h2⟩ := exec_insLoop (sel := (·.isoData)) (upd := fun d l => { d with isoData := l })
    ⟨fun _ _ => rfl, fun _ _ _ => rfl, fun _ => rfl⟩ (e := id)
    (g := fun x => insIsoData i.id x.1 x.2.1 x.2.2) (row := fun r => (i.id, r.1, r.2.1, r.2.2))
    (G := fun d => i.id ∈ d.isos.map Prod.fst) (fun _ _ h => h) (fun d x h => by simp only [insIsoData, any_key_true h, ↓reduceIte, id_eq])
    (fun _ _ => rfl) i.data
    { db with isos := db.isos ++ [(i.id, i.isoType, m, a, temp)],
              isoProps := db.isoProps ++ props.map fun p => (i.id, p.1, p.2) } mem n1 hid'
  rw [List.map_id] at h2
  refine ⟨n2, ?_⟩
  unfold isoTail isoPropLoop isoDataLoop
  rw [hp]
  simp only [exec_bind, exec_writeStmt_ok hins, h1, h2, exec_pure]
  rfl

/-- Upload of an isotherm whose material and adsorbate are already stored, whose type is known, whose id is new and
whose property values are all plain values: the call succeeds for every setting of the auto-insertion flags; the isotherm
row, its property rows and its data rows are appended in order; nothing else changes. -/
theorem upload_isotherm_then_present (db : Db) (mem : Mem) (i : IsoIn) (am aa : Bool) (m a temp : String)
    (props : List (String × String))
    (hm : i.material = some m) (ha : i.adsorbate = some a) (ht : i.temperature = some temp)
    (hp : i.props = props.map fun p => (p.1, PVal.val p.2))
    (hmk : m ∈ db.mats) (hak : a ∈ db.ads) (hty : i.isoType ∈ db.isoTypes.map (·.1)) (hid : i.id ∉ db.isos.map (·.1)) :
    (runOp db mem (.isoToDb i am aa) none).out = .ok ∧
    (runOp db mem (.isoToDb i am aa) none).db = withIsotherm db i m a temp props := by
  have key : ∃ n', exec (isoToDb i am aa) ⟨db, mem, 1, none⟩ =
      (.ok (), ⟨withIsotherm db i m a temp props, mem, n', none⟩) := by
    rw [isoToDb_eq]
    unfold isoAdsPart
    cases am <;> cases aa <;>
      simp only [Bool.false_eq_true, if_false, if_true, exec_bind, exec_readStmt_none, hm, ha, Option.getD_some,
        List.contains_iff_mem.2 hmk, List.contains_iff_mem.2 hak, Bool.not_true] <;>
      exact exec_isoTail i m a temp props db mem _ hm ha ht hp hmk hak hty hid
  obtain ⟨n', hk⟩ := key
  rw [(runOp_none _ _ _).1, (runOp_none _ _ _).2]
  simp only [Op.body, hk]
  exact ⟨rfl, trivial⟩


theorem overwrite_adsorbate_then_present (db : Db) (mem : Mem) (nm : String) (props : List (String × List String))
    (hn : nm ∈ db.ads) (hnd : (props.map (·.1)).Nodup) :
    (runOp db mem (.adsToDb (some nm) (props.map fun p => (p.1, p.2.map some)) true true) none).out = .ok ∧
    (runOp db mem (.adsToDb (some nm) (props.map fun p => (p.1, p.2.map some)) true true) none).db =
      { db with
        adsTypes := db.adsTypes ++
          ((props.map (·.1)).filter fun t => !(db.adsTypes.map (·.1)).contains t).map fun t => (t, "", "")
        adsProps := db.adsProps.filter (·.1 != nm) ++ props.flatMap fun p => p.2.map fun v => (nm, p.1, v) } :=
  let ⟨_, _, h⟩ := Item.exec_overwrite (Item.lawful (k := .ads) (.inl rfl)) nm props hnd db mem hn
  runOp_none_of_exec h

theorem overwrite_material_then_present (db : Db) (mem : Mem) (nm : String) (props : List (String × List String))
    (hn : nm ∈ db.mats) (hnd : (props.map (·.1)).Nodup) :
    (runOp db mem (.matToDb (some nm) (props.map fun p => (p.1, p.2.map some)) true true) none).out = .ok ∧
    (runOp db mem (.matToDb (some nm) (props.map fun p => (p.1, p.2.map some)) true true) none).db =
      { db with
        matTypes := db.matTypes ++
          ((props.map (·.1)).filter fun t => !(db.matTypes.map (·.1)).contains t).map fun t => (t, "", "")
        matProps := db.matProps.filter (·.1 != nm) ++ props.flatMap fun p => p.2.map fun v => (nm, p.1, v) } :=
  let ⟨_, _, h⟩ := Item.exec_overwrite (Item.lawful (k := .mat) (.inr rfl)) nm props hnd db mem hn
  runOp_none_of_exec h


/-! ### every fault-free refusal is a `ParsingError` -/

abbrev noCond : Db → Prop := fun _ => True

/-- the operation hands no unbindable value (dict / list) to sqlite -/
def bindable : Op → Prop
  | .isoToDb i _ _ => ∀ p ∈ i.props, p.2 ≠ .unsupported
  | .isoPropTypeOp _ => False      -- the table these entry points address does not exist (finding S39, `isoPropType_other_error`)
  | _ => True

lemma int_writes {op : Op} {f : Db → Except SqlErr Db} (hw : Writes op f) (hb : bindable op) (d : Db) :
    okP noCond isInt (f d) := by
  induction hw with
  | isoMat _ ih => exact ih trivial
  | isoAds _ ih => exact ih trivial
  | noTable => exact hb.elim
  | @isoProp i _ _ t v hm =>
    have hv : v ≠ .unsupported := hb (t, v) hm
    unfold insIsoProp
    cases v with
    | unsupported => exact absurd rfl hv
    | null => rfl
    | val s => simp only; split <;> first | trivial | rfl
  | ads hk | mat hk | adsDel hk | matDel hk => cases hk <;> stmt_split <;> first | exact trivial | exact rfl
  | @typeAds _ t _ _ o => cases o <;> cases t <;> stmt_split <;> first | exact trivial | exact rfl
  | @typeMat _ t _ _ o => cases o <;> cases t <;> stmt_split <;> first | exact trivial | exact rfl
  | @typeIso _ t _ _ o => cases o <;> cases t <;> stmt_split <;> first | exact trivial | exact rfl
  | _ => stmt_split <;> first | exact trivial | exact rfl

/-- Never any other exception, as long as every isotherm property value can be bound (finding: an unbindable value raises `ProgrammingError`, which `with_connection` does
not translate; see `unbindable_value_other_error`). -/
theorem refusal_is_parsingError (db : Db) (mem : Mem) (op : Op) (hb : bindable op) :
    (runOp db mem op none).out = .ok ∨ (runOp db mem op none).out = .parsingError := by
  rcases (Inv.opBody (E := isInt) (P := noCond) rfl op fun f hf d _ => int_writes hf hb d).call_none db mem trivial with
    ⟨h, _⟩ | ⟨e, he, h, _⟩
  · exact Or.inl h
  · obtain rfl : e = .integrity := he
    exact Or.inr h


/-! ### non-vacuity: concrete instances (kernel evaluation of the executable model) -/

/-- a concrete file: one material, one adsorbate with a property, the three isotherm types, one isotherm -/
def db0 : Db :=
  { Db.empty with
    ads := ["N2"], mats := ["MOF-1"],
    adsTypes := [("formula", "", "")], adsProps := [("N2", "formula", "N2")],
    isoTypes := [("isotherm", ""), ("pointisotherm", ""), ("modelisotherm", "")],
    isos := [("iso1", "pointisotherm", "MOF-1", "N2", "77.0")],
    isoProps := [("iso1", "pressure_unit", "bar")],
    isoData := [("iso1", "pressure", "float", "[1,2]")] }

def mem0 : Mem := ⟨["N2"], ["MOF-1"]⟩

/-- a new isotherm on a new material and a new adsorbate (both auto-inserted) -/
def iso2 : IsoIn :=
  { id := "iso2", isoType := "pointisotherm", material := some "MOF-2", matProps := [("density", [some "1.2"])],
    adsorbate := some "CO2", adsProps := [("formula", [some "CO2"])], temperature := some "298.0",
    props := [("pressure_unit", .val "bar")], data := [("pressure", "float", "[1]")] }

example : db0.wellFormed = true := by decide +kernel

example :
    (runOp db0 mem0 (.adsToDb (some "CO2") [("formula", [some "CO2"]), ("alias", [some "a", some "b"])] true false) none).out = .ok ∧
    (runOp db0 mem0 (.adsToDb (some "CO2") [("formula", [some "CO2"]), ("alias", [some "a", some "b"])] true false) none).db =
      { db0 with ads := ["N2", "CO2"], adsTypes := [("formula", "", ""), ("alias", "", "")],
                 adsProps := [("N2", "formula", "N2"), ("CO2", "formula", "CO2"), ("CO2", "alias", "a"), ("CO2", "alias", "b")] } := by
  decide +kernel

/-- a refused duplicate changes nothing -/
example : (runOp db0 mem0 (.adsToDb (some "N2") [] true false) none).out = .parsingError ∧
          (runOp db0 mem0 (.adsToDb (some "N2") [] true false) none).db = db0 := by decide +kernel

/-- a referenced adsorbate cannot be deleted; the isotherm can, and then the adsorbate can -/
example : (runOp db0 mem0 (.adsDelete "N2") none).out = .parsingError ∧
          (runOp (runOp db0 mem0 (.isoDelete "iso1") none).db mem0 (.adsDelete "N2") none).out = .ok := by decide +kernel

/-- an isotherm upload with both auto-insertions: 13 statements, accepted, the file changes and stays well formed -/
example : (runOp db0 mem0 (.isoToDb iso2 true true) none).out = .ok ∧
          (runOp db0 mem0 (.isoToDb iso2 true true) none).db ≠ db0 ∧
          (runOp db0 mem0 (.isoToDb iso2 true true) none).db.wellFormed = true ∧
          stmtCount db0 mem0 (.isoToDb iso2 true true) = 13 := by decide +kernel

/-- a fault at statement 3 of that upload leaves the file unchanged -/
example : (runOp db0 mem0 (.isoToDb iso2 true true) (some (3, .operational))).out = .otherError ∧
          (runOp db0 mem0 (.isoToDb iso2 true true) (some (3, .operational))).db = db0 := by decide +kernel

/-- **finding** (`unbindable_value_other_error`): a property value sqlite cannot bind (a dict or a list) is NOT refused with a
`ParsingError` — the `ProgrammingError` propagates untranslated (the file is still unchanged); so the hypothesis
`bindable` of `refusal_is_parsingError` cannot be dropped -/
theorem unbindable_value_other_error :
    (runOp db0 mem0 (.isoToDb { iso2 with props := [("x", .unsupported)] } true true) none).out = .otherError ∧
    (runOp db0 mem0 (.isoToDb { iso2 with props := [("x", .unsupported)] } true true) none).db = db0 := by decide +kernel

/-- **finding S39** (`isoPropType_other_error`): the three entry points for *isotherm property types*
(`isotherm_property_type_to_db`, `isotherm_property_types_from_db`, `isotherm_property_type_delete_db`) address a table the schema
does not create; whatever the database content and the arguments, the call ends in an untranslated `OperationalError` (not a
`ParsingError`), and — the part of the property that does hold — the file and the process-global lists are unchanged.  So the
hypothesis `bindable` of `refusal_is_parsingError` cannot be dropped for these operations either. -/
theorem isoPropType_other_error (db : Db) (mem : Mem) (w : String) :
    (runOp db mem (.isoPropTypeOp w) none).out = .otherError ∧
    (runOp db mem (.isoPropTypeOp w) none).db = db ∧
    (runOp db mem (.isoPropTypeOp w) none).mem = mem := by
  refine ⟨?_, ?_, ?_⟩ <;> rfl

/-- an isotherm on the STORED material `MOF-1` and the new adsorbate `CO2` -/
def iso3 : IsoIn := { iso2 with id := "iso3", material := some "MOF-1", matProps := [] }

/-- an isotherm on the new material `MOF-2` and the STORED adsorbate `N2` -/
def iso4 : IsoIn := { iso2 with id := "iso4", adsorbate := some "N2", adsProps := [] }

/-- **the two auto-insertion options are independent and not interchangeable** (witness; every public route to the upload — the
function and the method `isotherm.to_db` — is tied to this one model operation by the harness, each with independent option values):
each option governs its own reference only.  With the material stored and the adsorbate new, `(autoMat, autoAds) = (true, false)` is
refused and changes nothing while `(false, true)` is accepted and inserts exactly the adsorbate; with the adsorbate stored and the
material new it is the other way round.  An entry point that forwards one option in the place of the other is therefore observable on
a well-formed file whenever exactly one of the two references is unknown and the two option values differ. -/
theorem autoinsert_options_independent :
    ((runOp db0 mem0 (.isoToDb iso3 true false) none).out = .parsingError ∧ (runOp db0 mem0 (.isoToDb iso3 true false) none).db = db0 ∧
     (runOp db0 mem0 (.isoToDb iso3 false true) none).out = .ok ∧ (runOp db0 mem0 (.isoToDb iso3 false true) none).db.ads = ["N2", "CO2"] ∧
     (runOp db0 mem0 (.isoToDb iso3 false true) none).db.mats = db0.mats) ∧
    ((runOp db0 mem0 (.isoToDb iso4 false true) none).out = .parsingError ∧ (runOp db0 mem0 (.isoToDb iso4 false true) none).db = db0 ∧
     (runOp db0 mem0 (.isoToDb iso4 true false) none).out = .ok ∧ (runOp db0 mem0 (.isoToDb iso4 true false) none).db.mats = ["MOF-1", "MOF-2"] ∧
     (runOp db0 mem0 (.isoToDb iso4 true false) none).db.ads = db0.ads) := by decide +kernel

end PgVerif.C08
