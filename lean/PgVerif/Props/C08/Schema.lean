/-
C08 — tie of the hand-written store model to the database schema of the CURRENT source.

`PgVerif.Gen.Schema` is regenerated on every run from utilities/sqlite_db_pragmas.py (the CREATE statements, executed by SQLite and
read back through its introspection pragmas) and from parsing/sqlite.py (the connection pragma of `with_connection`, the table names
in the statements of every public entry point).  `PgVerif.Spec.Schema` is the constraint set `PgVerif.Model.Store` relies on, written
by hand from the model.  Everything below is decided by kernel evaluation on the generated data, so any schema edit — a dropped
UNIQUE / NOT NULL / REFERENCES, a renamed table or column, another declared type, a DEFAULT, an ON DELETE / ON UPDATE action, a new
constraint, CHECK, trigger or index — makes a theorem of this file fail to compile.

No Mathlib.
-/
import PgVerif.Lemmas.SchemaFacts

namespace PgVerif.C08
open PgVerif.Spec.Schema (Constraint Relied relied notModelled)
open SchemaTie

/-- The one comparison behind `model_constraints_in_schema`, `schema_constraints_modelled`, `not_modelled_in_schema` and
`schema_constraints_exactly`: the constraints of the generated schema are a rearrangement of the
constraints the model enforces followed by the excused ones (so nothing is missing, nothing is unaccounted for, and each is counted
as often as the schema declares it). -/
private theorem schema_perm : schemaConstraints.Perm (reliedCs ++ notModelledCs) := by decide +kernel

/-- Every constraint the store model relies on is in the schema of the current source: each NOT NULL / UNIQUE / FOREIGN KEY whose
violation a model statement (`insName`, `insAdsProp`, `insMatProp`, `insType3`, `insIsoType`, `insIso`, `insIsoProp`, `insIsoData`,
`delAds`, `delMat`, `delAdsType`, `delMatType`, `delIsoType`) answers with an IntegrityError is declared by the CREATE statements. -/
theorem model_constraints_in_schema : ∀ r ∈ relied, r.c ∈ schemaConstraints :=
  fun _ hr => schema_perm.mem_iff.mpr (List.mem_append_left _ (List.mem_map_of_mem hr))

/-- Every constraint of the schema is accounted for: each NOT NULL / UNIQUE / PRIMARY KEY / FOREIGN KEY of the generated schema is
either enforced by the model or listed in `Spec.Schema.notModelled` with the reason why no modelled operation can violate it.  A constraint
ADDED to the schema therefore breaks the tie as well. -/
theorem schema_constraints_modelled : ∀ c ∈ schemaConstraints, c ∈ reliedCs ∨ c ∈ notModelledCs :=
  fun _ hc => List.mem_append.mp (schema_perm.mem_iff.mp hc)

/-- the "not modelled" list has no stale entry -/
theorem not_modelled_in_schema : ∀ c ∈ notModelledCs, c ∈ schemaConstraints :=
  fun _ hc => schema_perm.mem_iff.mpr (List.mem_append_right _ hc)

/-- the two lists do not overlap: a constraint is either enforced by the model or excused, never both -/
theorem relied_not_excused : ∀ c ∈ reliedCs, c ∉ notModelledCs := by decide +kernel

/-- the comparison as one statement: the constraints of the schema are, up to order, exactly the constraints the model enforces
plus the explicitly excused ones -/
theorem schema_constraints_exactly (c : Constraint) : c ∈ schemaConstraints ↔ (c ∈ reliedCs ∨ c ∈ notModelledCs) :=
  schema_perm.mem_iff.trans List.mem_append

/-- Tables and columns: the generated schema has exactly the tables the model's `Db` stands for, each with exactly the expected
columns in the expected order: name, declared type (affinity), NOT NULL flag, primary-key position and no DEFAULT. -/
theorem schema_columns_as_modelled :
    Gen.Schema.tables.map (fun t => (t.name, columnsOf t)) = Spec.Schema.tables := rfl

/-- every `Db` field of the model is the content of an existing table and of existing columns of that table -/
theorem model_fields_in_schema :
    ∀ f ∈ Spec.Schema.fields, ∃ t ∈ Gen.Schema.tables, t.name = f.2.1 ∧ ∀ c ∈ f.2.2, c ∈ t.columns.map (·.name) := by decide +kernel

/-- No further constraint machinery: apart from AUTOINCREMENT on the surrogate keys the CREATE statements carry no CHECK, COLLATE,
GENERATED, ON CONFLICT, DEFERRABLE, WITHOUT ROWID, STRICT, TEMP or VIRTUAL clause, and the schema has no trigger, view or explicit index. -/
theorem schema_no_other_constraints :
    Gen.Schema.tables.map (fun t => (t.name, t.extras)) = Spec.Schema.extras ∧ Gen.Schema.otherObjects = [] := extras_as_modelled

/-- Foreign keys are enforced and never cascade: `with_connection` switches enforcement on for every connection (the first
statement of the model's `runOp`), and every foreign key of the schema has ON DELETE NO ACTION and ON UPDATE NO ACTION — so deleting
(or re-keying) a row that is still referenced is refused, as `delAds`, `delMat`, `delAdsType`, `delMatType`, `delIsoType` say, and
never removes or rewrites the referencing rows. -/
theorem foreign_keys_enforced_not_cascaded :
    Spec.Schema.connPragma ∈ Gen.Schema.connPragmas ∧
    ∀ t ∈ Gen.Schema.tables, ∀ f ∈ t.fks, f.onDelete = "NO ACTION" ∧ f.onUpdate = "NO ACTION" :=
  ⟨connPragma_issued, by decide +kernel⟩

/-- every foreign key refers to an existing table and to a column list that is a key (PRIMARY KEY or UNIQUE) of that table — otherwise
SQLite answers every write on the child table with "foreign key mismatch" (an OperationalError) instead of checking the reference -/
theorem foreign_key_targets_are_keys :
    ∀ t ∈ Gen.Schema.tables, ∀ f ∈ t.fks, ∃ p ∈ Gen.Schema.tables, p.name = f.refTable ∧ f.refCols ∈ p.uniques := by decide +kernel

/-- the referential-integrity invariant of the model (`Db.wellFormed`, the "no orphans" clauses) is, clause by clause, a foreign key
of the schema without cascading action -/
theorem wellFormed_refs_are_foreign_keys :
    ∀ r ∈ Spec.Schema.wellFormedRefs, hasPlainFk r.1 r.2.1 r.2.2.1 r.2.2.2 = true := wellFormedRefs_plainFk

/-- The statements of every public entry point address the tables the model says: for each `*_to_db / *_from_db / *_delete_db`
function of parsing/sqlite.py the table names in its statements (including the entry points it calls on the shared cursor) are the
ones of the model operation that mirrors it — and there is no public entry point the model does not know. -/
theorem op_tables_as_modelled :
    Gen.Schema.opTables = Spec.Schema.opTables.map (fun e => (e.1, e.2.2)) := rfl

/-- every table an entry point addresses exists in the schema, except for the isotherm-property-type entry points -/
theorem op_tables_exist :
    ∀ e ∈ Gen.Schema.opTables, ∀ t ∈ e.2,
      t ∈ tableNames ∨ (e.1 ∈ Spec.Schema.isoPropTypeEntryPoints ∧ t = "isotherm_properties_type") := opTables_exist

/-- finding S39, from the source: the three entry points for isotherm property types address the table `isotherm_properties_type`
and nothing else, and the schema creates no such table — every call is answered by SQLite with `OperationalError: no such table`.
This is what justifies modelling them as `Op.isoPropTypeOp`, a statement that always fails (`isoPropType_other_error`). -/
theorem isoPropType_table_absent :
    "isotherm_properties_type" ∉ tableNames ∧
    Spec.Schema.isoPropTypeEntryPoints =
      ["isotherm_property_type_delete_db", "isotherm_property_type_to_db", "isotherm_property_types_from_db"] ∧
    ∀ fn ∈ Spec.Schema.isoPropTypeEntryPoints, Gen.Schema.opTables.lookup fn = some ["isotherm_properties_type"] := by decide +kernel

/-! non-vacuity: the lists compared above are the full ones -/
example : relied.length = 26 ∧ notModelled.length = 30 ∧ schemaConstraints.length = 56 := by decide +kernel
example : Gen.Schema.tables.length = 10 ∧ Gen.Schema.opTables.length = 21 := by decide +kernel
example : Constraint.unique "adsorbates" ["name"] ∈ schemaConstraints := by decide +kernel
example : Constraint.foreignKey "isotherms" ["material"] "materials" ["name"] ∈ schemaConstraints := by decide +kernel

end PgVerif.C08
