/-
C07 — CSV, Excel and AIF round trips preserve the isotherm: the part that is pyGAPS's own logic.

Statements are about the executable model `PgVerif.Model.TextCodec`: `castString` (= `cast_string`, the reader of every metadata
value in the three text formats) and the CSV metadata line codec `encodeLine`/`decodeLine`.  First the list facts the rest needs
(digit strings, `strip`, `split`/`join`); then the decision table of `castString` with the exact guard of each class in Python's
order, what `str()` writes and how it is read back (a negative integer comes back as a float: finding S18 negint) and out-of-domain
witnesses; then the line codec (which lines are accepted, the round trip on the domain, refusal of a value containing the
separator) and the reader's loop `readMeta` over the lines the writer produces.
-/
import Mathlib.Tactic
import PgVerif.Model.TextCodec

namespace PgVerif.C07
open PgVerif.Model.TextCodec

/-! ### strings of digits -/

lemma isDigitC_eq (c : Char) : isDigitC c = c.isDigit := rfl

private lemma digit_ne {c d : Char} (hc : isDigitC c = true) (hd : isDigitC d = false) : c ≠ d := by
  intro h; rw [h, hd] at hc; exact Bool.false_ne_true hc

private lemma digit_lower {c : Char} (hc : isDigitC c = true) : lowerC c = c := by
  unfold lowerC
  rw [if_neg]
  rintro ⟨h1, -⟩
  simp only [isDigitC, Bool.and_eq_true, decide_eq_true_eq] at hc
  exact absurd (Char.le_trans h1 hc.2) (by decide)

private lemma digit_not_space {c : Char} (hc : isDigitC c = true) : isSpaceC c = false := by
  by_contra h
  rw [Bool.not_eq_false] at h
  simp only [isSpaceC, Bool.or_eq_true, beq_iff_eq] at h
  rcases h with ((((h | h) | h) | h) | h) | h <;> exact digit_ne hc (by decide) h

def Digits (s : Str) : Prop := s ≠ [] ∧ ∀ c ∈ s, isDigitC c = true

private lemma digits_lower {s : Str} (h : ∀ c ∈ s, isDigitC c = true) : lower s = s := by
  unfold lower
  conv_rhs => rw [← List.map_id s]
  exact List.map_congr_left (fun c hc => digit_lower (h c hc))

private lemma isNumeric_iff_digits {s : Str} : isNumeric s = true ↔ Digits s := by
  unfold isNumeric Digits
  rw [Bool.and_eq_true, Bool.not_eq_true', List.isEmpty_eq_false_iff, List.all_eq_true]

/-- a string of digits is none of the words the recognisers look for: each of those has a letter in it -/
private lemma digits_ne_word {s : Str} (h : Digits s) (w : Str) (hw : w.all isDigitC = false) : (lower s == w) = false := by
  rw [digits_lower h.2, beq_eq_false_iff_ne]
  rintro rfl
  rw [List.all_eq_true.2 h.2] at hw
  exact Bool.noConfusion hw

private lemma digits_not_none {s : Str} (h : Digits s) : isNone s = false := by
  unfold isNone
  rw [Bool.or_eq_false_iff, List.isEmpty_eq_false_iff]
  exact ⟨h.1, digits_ne_word h _ (by decide +kernel)⟩

private lemma digits_not_bool {s : Str} (h : Digits s) : isBool s = false := by
  unfold isBool
  rw [Bool.or_eq_false_iff]
  exact ⟨digits_ne_word h _ (by decide +kernel), digits_ne_word h _ (by decide +kernel)⟩

private lemma digits_digitsU : ∀ {s : Str}, Digits s → digitsU s = true
  | [], h => absurd rfl h.1
  | [c], h => h.2 c (List.mem_singleton_self c)
  | c :: d :: t, h => by
    have hd := h.2 d (List.mem_cons_of_mem c List.mem_cons_self)
    rw [digitsU.eq_4 c d t fun _ _ e _ => digit_ne hd (by decide) e, h.2 c List.mem_cons_self,
      digits_digitsU ⟨List.cons_ne_nil d t, fun x hx => h.2 x (List.mem_cons_of_mem c hx)⟩]
    rfl

private lemma splitAt1_none (p : Char → Bool) (s : Str) (h : ∀ c ∈ s, p c = false) : splitAt1 p s = none := by
  induction s with
  | nil => rfl
  | cons c t ih =>
    rw [List.forall_mem_cons] at h
    rw [splitAt1, h.1, ih h.2]
    rfl

/-- what `str(n)` produces for a natural number: a non-empty string of ASCII digits -/
lemma nat_digits (n : Nat) : Digits (toString n).toList := by
  rw [Nat.toString_eq_repr, Nat.toList_repr]
  refine ⟨Nat.toDigits_ne_nil, fun c hc => ?_⟩
  rw [isDigitC_eq]
  exact Nat.isDigit_of_mem_toDigits (by decide) (by decide) hc

/-! ### dropping a class of characters from the ends

`str.strip()` (blanks) and `str.strip(q)` (one character) are the same function of the class `p` of characters dropped. -/

def stripBy (p : Char → Bool) (s : Str) : Str := ((s.dropWhile p).reverse.dropWhile p).reverse

lemma dropWhile_eq_self_iff (p : Char → Bool) (s : Str) : s.dropWhile p = s ↔ ∀ c, s.head? = some c → p c = false := by
  constructor
  · intro h c hc
    -- what `dropWhile` leaves does not begin with a character of `p`
    have hd := List.head?_dropWhile_not p s
    rwa [h, hc] at hd
  · intro h
    cases s with
    | nil => rfl
    | cons d t => exact List.dropWhile_cons_of_neg (Bool.eq_false_iff.1 (h d rfl))

lemma rdropWhile_eq_self_iff (p : Char → Bool) (s : Str) :
    (s.reverse.dropWhile p).reverse = s ↔ ∀ c, s.getLast? = some c → p c = false := by
  rw [← List.head?_reverse, ← dropWhile_eq_self_iff]
  exact List.reverse_eq_iff

lemma stripBy_eq_self_iff (p : Char → Bool) (s : Str) :
    stripBy p s = s ↔ (∀ c, s.head? = some c → p c = false) ∧ (∀ c, s.getLast? = some c → p c = false) := by
  rw [← dropWhile_eq_self_iff, ← rdropWhile_eq_self_iff]
  unfold stripBy
  constructor
  · intro h
    -- the result is a prefix of a suffix of `s`: if it is all of `s`, nothing was dropped in front
    have hlen := (List.dropWhile_suffix p (l := (s.dropWhile p).reverse)).length_le
    rw [← List.length_reverse, h, List.length_reverse] at hlen
    have hL := (List.dropWhile_suffix p).eq_of_length_le hlen
    rw [hL] at h
    exact ⟨hL, h⟩
  · rintro ⟨hL, hR⟩
    rw [hL, hR]

lemma stripBy_wrap (p : Char → Bool) {c : Char} (hc : p c = true) (v : Str) : stripBy p (c :: (v ++ [c])) = stripBy p v := by
  unfold stripBy
  rw [List.dropWhile_cons_of_pos hc, List.dropWhile_append]
  split_ifs with he
  · rw [List.isEmpty_iff.1 he, List.dropWhile_cons_of_pos hc]
    rfl
  · rw [List.reverse_append, List.reverse_singleton, List.singleton_append, List.dropWhile_cons_of_pos hc]

/-! ### `lstrip`, `rstrip`, `strip` -/

lemma stripL_cons_space {c : Char} (t : Str) (h : isSpaceC c = true) : stripL (c :: t) = stripL t :=
  if_pos h

lemma stripL_cons_nonspace {c : Char} (t : Str) (h : isSpaceC c = false) : stripL (c :: t) = c :: t :=
  if_neg (Bool.eq_false_iff.1 h)

lemma stripL_eq_dropWhile (s : Str) : stripL s = s.dropWhile isSpaceC := by
  induction s with
  | nil => rfl
  | cons c t ih => rw [stripL, List.dropWhile_cons, ih]

lemma strip_eq_stripR_stripL (s : Str) : strip s = stripR (stripL s) := rfl

lemma strip_eq_stripBy (s : Str) : strip s = stripBy isSpaceC s := by
  unfold strip stripBy
  rw [stripL_eq_dropWhile, stripL_eq_dropWhile]

lemma stripL_eq_self_iff (s : Str) : stripL s = s ↔ ∀ c, s.head? = some c → isSpaceC c = false := by
  rw [stripL_eq_dropWhile]
  exact dropWhile_eq_self_iff isSpaceC s

lemma stripR_eq_self_iff (s : Str) : stripR s = s ↔ ∀ c, s.getLast? = some c → isSpaceC c = false := by
  unfold stripR
  rw [stripL_eq_dropWhile]
  exact rdropWhile_eq_self_iff isSpaceC s

lemma strip_eq_self_iff (s : Str) :
    strip s = s ↔ (∀ c, s.head? = some c → isSpaceC c = false) ∧ (∀ c, s.getLast? = some c → isSpaceC c = false) := by
  rw [strip_eq_stripBy]
  exact stripBy_eq_self_iff isSpaceC s

lemma stripL_append_nonspace (sep : Char) (hsep : isSpaceC sep = false) (k v : Str) :
    stripL (k ++ [sep] ++ v) = stripL k ++ [sep] ++ v := by
  rw [List.append_assoc, List.append_assoc, stripL_eq_dropWhile, stripL_eq_dropWhile, List.dropWhile_append, List.singleton_append,
    List.dropWhile_cons_of_neg (Bool.eq_false_iff.1 hsep)]
  split_ifs with h
  · rw [List.isEmpty_iff.1 h]
    rfl
  · rfl

lemma stripR_append_nonspace (sep : Char) (hsep : isSpaceC sep = false) (k v : Str) :
    stripR (k ++ [sep] ++ v) = k ++ [sep] ++ stripR v := by
  unfold stripR
  rw [List.reverse_append, List.reverse_append, List.reverse_singleton, ← List.append_assoc, stripL_append_nonspace sep hsep,
    List.reverse_append, List.reverse_append, List.reverse_singleton, List.reverse_reverse, List.append_assoc]

lemma mem_stripL_iff (c : Char) (hc : isSpaceC c = false) (s : Str) : c ∈ stripL s ↔ c ∈ s := by
  induction s with
  | nil => rfl
  | cons d t ih =>
    cases hd : isSpaceC d
    · rw [stripL_cons_nonspace t hd]
    · rw [stripL_cons_space t hd, ih, List.mem_cons, or_iff_right]
      rintro rfl
      rw [hc] at hd
      exact Bool.noConfusion hd

lemma mem_stripR_iff (c : Char) (hc : isSpaceC c = false) (s : Str) : c ∈ stripR s ↔ c ∈ s := by
  unfold stripR
  rw [List.mem_reverse, mem_stripL_iff c hc, List.mem_reverse]

lemma stripL_idem (s : Str) : stripL (stripL s) = stripL s :=
  (stripL_eq_self_iff _).2 fun c hc => by
    have hd := List.head?_dropWhile_not isSpaceC s
    rwa [← stripL_eq_dropWhile, hc] at hd

lemma stripR_idem (s : Str) : stripR (stripR s) = stripR s := by
  unfold stripR
  rw [List.reverse_reverse, stripL_idem]

/-! ### `split` and `join` -/

private lemma splitOn_exists (sep : Char) (s : Str) : ∃ h r, splitOn sep s = h :: r := by
  induction s with
  | nil => exact ⟨[], [], rfl⟩
  | cons c t ih =>
    obtain ⟨h, r, e⟩ := ih
    by_cases hc : c = sep
    · exact ⟨[], h :: r, by simp only [splitOn, e, hc, beq_self_eq_true, if_true]⟩
    · exact ⟨c :: h, r, by simp only [splitOn, e, beq_iff_eq, hc, if_false]⟩

lemma splitOn_cons_sep (sep : Char) (t : Str) : splitOn sep (sep :: t) = [] :: splitOn sep t := by
  obtain ⟨h, r, e⟩ := splitOn_exists sep t
  simp only [splitOn, e, beq_self_eq_true, if_true]

lemma splitOn_cons_ne {sep c : Char} (hc : c ≠ sep) {t h : Str} {r : List Str} (e : splitOn sep t = h :: r) :
    splitOn sep (c :: t) = (c :: h) :: r := by
  simp only [splitOn, e, beq_iff_eq, hc, if_false]

lemma splitOn_length (sep : Char) (s : Str) : (splitOn sep s).length = s.count sep + 1 := by
  induction s with
  | nil => rfl
  | cons c t ih =>
    by_cases hc : c = sep
    · subst hc
      rw [splitOn_cons_sep, List.length_cons, ih, List.count_cons_self]
    · obtain ⟨h, r, e⟩ := splitOn_exists sep t
      rw [splitOn_cons_ne hc e, List.count_cons_of_ne hc, ← ih, e]
      rfl

lemma splitOn_nosep (sep : Char) (a : Str) (h : sep ∉ a) : splitOn sep a = [a] := by
  induction a with
  | nil => rfl
  | cons c t ih =>
    rw [List.mem_cons, not_or] at h
    exact splitOn_cons_ne (Ne.symm h.1) (ih h.2)

lemma splitOn_append (sep : Char) (a b : Str) (h : sep ∉ a) : splitOn sep (a ++ sep :: b) = a :: splitOn sep b := by
  induction a with
  | nil => exact splitOn_cons_sep sep b
  | cons c t ih =>
    rw [List.mem_cons, not_or] at h
    exact splitOn_cons_ne (Ne.symm h.1) (ih h.2)

private lemma joinWith_cons_cons (sep c : Char) (h : Str) (r : List Str) :
    joinWith sep ((c :: h) :: r) = c :: joinWith sep (h :: r) := by
  cases r <;> rfl

/-- `split` and `join` are inverse to each other: joining the fields gives the text back and no field contains the separator, ... -/
lemma splitOn_spec (sep : Char) (s : Str) : joinWith sep (splitOn sep s) = s ∧ ∀ f ∈ splitOn sep s, sep ∉ f := by
  induction s with
  | nil => exact ⟨rfl, by simp [splitOn]⟩
  | cons c t ih =>
    obtain ⟨h, r, e⟩ := splitOn_exists sep t
    rw [e, List.forall_mem_cons] at ih
    by_cases hc : c = sep
    · subst hc
      rw [splitOn_cons_sep, e, List.forall_mem_cons, List.forall_mem_cons]
      exact ⟨congrArg (c :: ·) ih.1, List.not_mem_nil, ih.2⟩
    · rw [splitOn_cons_ne hc e, joinWith_cons_cons, List.forall_mem_cons, ih.1]
      exact ⟨rfl, fun hm => (List.mem_cons.1 hm).elim (Ne.symm hc) ih.2.1, ih.2.2⟩

/-- ... and splitting the joined text of separator-free fields gives the fields back -/
lemma splitOn_joinWith (sep : Char) (items : List Str) (hne : items ≠ []) (h : ∀ t ∈ items, sep ∉ t) :
    splitOn sep (joinWith sep items) = items := by
  induction items with
  | nil => exact absurd rfl hne
  | cons a rest ih =>
    cases rest with
    | nil => exact splitOn_nosep sep a (h a List.mem_cons_self)
    | cons b t =>
      rw [joinWith, splitOn_append sep a _ (h a List.mem_cons_self),
        ih (List.cons_ne_nil b t) (fun x hx => h x (List.mem_cons_of_mem a hx))]

lemma splitOn_pair_iff (sep : Char) (s a b : Str) : splitOn sep s = [a, b] ↔ s = a ++ [sep] ++ b ∧ sep ∉ a ∧ sep ∉ b := by
  constructor
  · intro h
    obtain ⟨hj, hm⟩ := splitOn_spec sep s
    rw [h] at hj hm
    refine ⟨?_, hm a List.mem_cons_self, hm b (List.mem_cons_of_mem a List.mem_cons_self)⟩
    rw [← hj, List.append_assoc, List.singleton_append]
    rfl
  · rintro ⟨rfl, ha, hb⟩
    rw [List.append_assoc, List.singleton_append, splitOn_append sep a b ha, splitOn_nosep sep b hb]

/-! ### the classes of `cast_string` -/

inductive Class
  | none | bool | int | float | list | str
  deriving DecidableEq, Repr

def classOf : Cast → Class
  | .none => .none | .bool _ => .bool | .int _ => .int | .float _ => .float | .list _ => .list | .str _ => .str

/-- the exact guard of each class, in Python's order of tests -/
def Guard : Class → Str → Prop
  | .none, s => isNone s = true
  | .bool, s => isNone s = false ∧ isBool s = true
  | .int, s => isNone s = false ∧ isBool s = false ∧ isNumeric s = true
  | .float, s => isNone s = false ∧ isBool s = false ∧ isNumeric s = false ∧ isFloat s = true
  | .list, s => isNone s = false ∧ isBool s = false ∧ isNumeric s = false ∧ isFloat s = false ∧ isList s = true
  | .str, s => isNone s = false ∧ isBool s = false ∧ isNumeric s = false ∧ isFloat s = false ∧ isList s = false

/-- the value `cast_string` returns in each class: the text itself, except that a boolean is decoded -/
def valueOf (s : Str) : Class → Cast
  | .none => .none | .bool => .bool (lower s == "true".toList) | .int => .int s | .float => .float s | .list => .list s | .str => .str s

lemma classOf_valueOf (s : Str) (c : Class) : classOf (valueOf s c) = c := by
  cases c <;> rfl

/-- following Python's order of tests, the first recogniser that fires names a class whose guard holds -/
lemma guard_exists (s : Str) : ∃ c, Guard c s := by
  cases h1 : isNone s
  · cases h2 : isBool s
    · cases h3 : isNumeric s
      · cases h4 : isFloat s
        · cases h5 : isList s
          · exact ⟨.str, h1, h2, h3, h4, h5⟩
          · exact ⟨.list, h1, h2, h3, h4, h5⟩
        · exact ⟨.float, h1, h2, h3, h4⟩
      · exact ⟨.int, h1, h2, h3⟩
    · exact ⟨.bool, h1, h2⟩
  · exact ⟨.none, h1⟩

lemma cast_of_guard (s : Str) (c : Class) (h : Guard c s) : castString s = valueOf s c := by
  cases c <;> simp only [Guard] at h <;> simp only [castString, valueOf, h, Bool.false_eq_true, if_false, if_true]

/-! #### the decision table -/

theorem cast_class (s : Str) (c : Class) : classOf (castString s) = c ↔ Guard c s := by
  constructor
  · rintro rfl
    obtain ⟨c, hc⟩ := guard_exists s
    rwa [cast_of_guard s c hc, classOf_valueOf]
  · intro h
    rw [cast_of_guard s c h, classOf_valueOf]

theorem cast_total (s : Str) : ∃! c, Guard c s :=
  ⟨classOf (castString s), (cast_class s _).1 rfl, fun c hc => ((cast_class s c).2 hc).symm⟩

/-- the whole table in one line: the value of class `c` comes back exactly under the guard of `c` -/
lemma cast_eq_valueOf_iff (s : Str) (c : Class) : castString s = valueOf s c ↔ Guard c s :=
  ⟨fun h => (cast_class s c).1 (by rw [h, classOf_valueOf]), cast_of_guard s c⟩

theorem cast_none_iff (s : Str) : castString s = .none ↔ isNone s = true :=
  cast_eq_valueOf_iff s .none

theorem cast_bool_iff (s : Str) (b : Bool) :
    castString s = .bool b ↔ isNone s = false ∧ isBool s = true ∧ b = (lower s == "true".toList) := by
  constructor
  · intro h
    have hg : Guard .bool s := (cast_class s .bool).1 (by rw [h]; rfl)
    rw [cast_of_guard s .bool hg] at h
    exact ⟨hg.1, hg.2, (Cast.bool.inj h).symm⟩
  · rintro ⟨h1, h2, rfl⟩
    exact cast_of_guard s .bool ⟨h1, h2⟩

theorem cast_int_iff (s : Str) :
    castString s = .int s ↔ isNone s = false ∧ isBool s = false ∧ isNumeric s = true :=
  cast_eq_valueOf_iff s .int

theorem cast_float_iff (s : Str) :
    castString s = .float s ↔ isNone s = false ∧ isBool s = false ∧ isNumeric s = false ∧ isFloat s = true :=
  cast_eq_valueOf_iff s .float

theorem cast_list_iff (s : Str) :
    castString s = .list s ↔
      isNone s = false ∧ isBool s = false ∧ isNumeric s = false ∧ isFloat s = false ∧ isList s = true :=
  cast_eq_valueOf_iff s .list

theorem cast_str_iff (s : Str) :
    castString s = .str s ↔
      isNone s = false ∧ isBool s = false ∧ isNumeric s = false ∧ isFloat s = false ∧ isList s = false :=
  cast_eq_valueOf_iff s .str

lemma inCsvDomain_iff (sep : Char) (s : Str) :
    inCsvDomain sep s = true ↔ Guard .str s ∧ sep ∉ s ∧ '\n' ∉ s ∧ '\r' ∉ s ∧ strip s = s := by
  simp only [inCsvDomain, Guard, List.contains_eq_mem, Bool.and_eq_true, Bool.not_eq_eq_eq_not, Bool.not_true, and_assoc,
    decide_eq_false_iff_not, beq_iff_eq]

theorem cast_text_identity (sep : Char) (s : Str) (h : inCsvDomain sep s = true) : castString s = .str s :=
  cast_of_guard s .str ((inCsvDomain_iff sep s).1 h).1

theorem cast_carries_text (s t : Str)
    (h : castString s = .int t ∨ castString s = .float t ∨ castString s = .list t ∨ castString s = .str t) : t = s := by
  obtain ⟨c, hc⟩ := guard_exists s
  rw [cast_of_guard s c hc] at h
  cases c <;> simp [valueOf] at h <;> exact h.symm

/-- the recognisers overlap less than the order of tests suggests: a numeric string is never `none` nor a boolean, so
`isNumeric` alone decides the integer class -/
theorem cast_int_iff_numeric (s : Str) : castString s = .int s ↔ isNumeric s = true := by
  rw [cast_int_iff]
  exact ⟨fun h => h.2.2, fun h => ⟨digits_not_none (isNumeric_iff_digits.1 h), digits_not_bool (isNumeric_iff_digits.1 h), h⟩⟩

/-! #### what `str()` writes is read back -/

theorem cast_bool_roundtrip :
    castString "True".toList = .bool true ∧ castString "False".toList = .bool false := by decide +kernel

theorem cast_none_roundtrip : castString "None".toList = .none := by decide +kernel

theorem cast_digits (s : Str) (h : Digits s) : castString s = .int s :=
  cast_of_guard s .int ⟨digits_not_none h, digits_not_bool h, isNumeric_iff_digits.2 h⟩

theorem cast_nat_roundtrip (n : Nat) : castString (toString n).toList = .int (toString n).toList :=
  cast_digits _ (nat_digits n)

/-- finding S18 (negint), general form: a minus sign followed by digits is not `isnumeric`, and is in the float grammar -/
theorem cast_neg_digits (s : Str) (h : Digits s) : castString ('-' :: s) = .float ('-' :: s) := by
  -- the sign alone settles the first three tests
  refine cast_of_guard _ .float ⟨rfl, rfl, rfl, ?_⟩
  have hstrip : strip ('-' :: s) = '-' :: s := by
    rw [strip_eq_self_iff, List.getLast?_cons_of_ne_nil h.1]
    refine ⟨fun c hc => ?_, fun c hc => digit_not_space (h.2 c (List.mem_of_getLast? hc))⟩
    rw [← Option.some.inj hc]
    rfl
  -- what is left after the sign is no special word and has neither exponent nor point: a mantissa of digits
  unfold isFloat
  simp only [hstrip, unsigned]
  rw [digits_ne_word h _ (by decide +kernel), digits_ne_word h _ (by decide +kernel), digits_ne_word h _ (by decide +kernel),
    splitAt1_none _ s fun c hc => by
      rw [Bool.or_eq_false_iff, beq_eq_false_iff_ne, beq_eq_false_iff_ne]
      exact ⟨digit_ne (h.2 c hc) (by decide), digit_ne (h.2 c hc) (by decide)⟩]
  simp only [Bool.or_self, Bool.false_eq_true, if_false]
  unfold isMantissa
  rw [splitAt1_none _ s fun c hc => beq_eq_false_iff_ne.2 (digit_ne (h.2 c hc) (by decide))]
  exact digits_digitsU h

/-- finding S18 (negint): the text of a negative integer is read back as a float, not an integer.
(`0 < n` is only there because python never writes `-0` for an int; the statement holds for `n = 0` too.) -/
theorem negative_int_becomes_float (n : Nat) (_hn : 0 < n) :
    castString ('-' :: (toString n).toList) = .float ('-' :: (toString n).toList) :=
  cast_neg_digits _ (nat_digits n)

/-- the same on Lean's own `Int` printing, which coincides with python's `str` on integers -/
theorem negative_int_becomes_float' (z : Int) (hz : z < 0) :
    castString (toString z).toList = .float (toString z).toList := by
  have e : (toString z).toList = '-' :: (toString (-z).toNat).toList := by
    rw [Int.toString_eq_repr, Int.repr_eq_if, if_neg (not_le.2 hz), String.toList_append, Nat.toString_eq_repr]
    rfl
  rw [e]
  exact cast_neg_digits _ (nat_digits _)

theorem cast_nonneg_int_roundtrip (z : Int) (hz : 0 ≤ z) :
    castString (toString z).toList = .int (toString z).toList := by
  have e : (toString z).toList = (toString z.toNat).toList := by
    rw [Int.toString_eq_repr, Int.repr_eq_if, if_pos hz, Nat.toString_eq_repr]
  rw [e]
  exact cast_nat_roundtrip _

theorem negative_int_becomes_float_3 : castString "-3".toList = .float "-3".toList := by decide +kernel

theorem negative_int_becomes_float_31 : castString "-31".toList = .float "-31".toList := by decide +kernel

/-! #### out-of-domain witnesses -/

theorem witness_exponent : castString "1e5".toList = .float "1e5".toList := by decide +kernel
theorem witness_empty : castString "".toList = .none := by decide +kernel
theorem witness_leading_blank : castString " none".toList ≠ .none := by decide +kernel
theorem witness_leading_blank_value : castString " none".toList = .str " none".toList := by decide +kernel
theorem witness_list : castString "[1 2]".toList = .list "[1 2]".toList := by decide +kernel
theorem witness_grouping : castString "1_000".toList = .float "1_000".toList := by decide +kernel
theorem witness_blank_number : castString " 12".toList = .float " 12".toList := by decide +kernel
theorem witness_nan_word : castString "NaN".toList = .float "NaN".toList := by decide +kernel
theorem witness_bool_case : castString "TRUE".toList = .bool true := by decide +kernel

/-! #### the metadata line codec -/

lemma decodeLine_eq_some_iff_splitOn (sep : Char) (line k v : Str) :
    decodeLine sep line = some (k, v) ↔ splitOn sep (strip line) = [k, v] := by
  unfold decodeLine
  split
  · rename_i h
    rw [h]
    simp
  · rename_i h
    exact ⟨fun h' => absurd h' (by simp), fun h' => absurd h' (h k v)⟩

theorem decodeLine_eq_some_iff (sep : Char) (line k v : Str) :
    decodeLine sep line = some (k, v) ↔ strip line = k ++ [sep] ++ v ∧ sep ∉ k ∧ sep ∉ v := by
  rw [decodeLine_eq_some_iff_splitOn, splitOn_pair_iff]

theorem decodeLine_eq_none_iff (sep : Char) (line : Str) :
    decodeLine sep line = none ↔ (strip line).count sep ≠ 1 := by
  -- refused iff there are not exactly two fields, and the fields are one more than the separators
  rw [Option.eq_none_iff_forall_ne_some, Prod.forall]
  simp only [Ne, decodeLine_eq_some_iff_splitOn, ← not_exists, ← List.length_eq_two, splitOn_length]
  omega

theorem decodeLine_encodeLine' (sep : Char) (k v : Str) (hk : sep ∉ k) (hv : sep ∉ v)
    (hs : strip (k ++ [sep] ++ v) = k ++ [sep] ++ v) : decodeLine sep (encodeLine sep k v) = some (k, v) := by
  rw [decodeLine_eq_some_iff]
  exact ⟨hs, hk, hv⟩

/-- the whole stated domain (no separator, newline or carriage return in key or value): the newline clauses are what makes the line
a line and are not used by the per-line reader -/
theorem decodeLine_encodeLine (sep : Char) (k v : Str) (hk : sep ∉ k) (hv : sep ∉ v)
    (_hk_nl : '\n' ∉ k ∧ '\r' ∉ k) (_hv_nl : '\n' ∉ v ∧ '\r' ∉ v)
    (hs : strip (k ++ [sep] ++ v) = k ++ [sep] ++ v) : decodeLine sep (encodeLine sep k v) = some (k, v) :=
  decodeLine_encodeLine' sep k v hk hv hs

/-- a value the format cannot carry (it contains the separator) is refused -/
theorem decodeLine_three_fields_refused (sep : Char) (k v : Str) (hv : sep ∈ v)
    (hs : strip (k ++ [sep] ++ v) = k ++ [sep] ++ v) : decodeLine sep (encodeLine sep k v) = none := by
  rw [decodeLine_eq_none_iff]
  unfold encodeLine
  rw [hs, List.count_append, List.count_append, List.count_singleton_self]
  have : 0 < v.count sep := List.count_pos_iff.2 hv
  omega

/-- the hypothesis `strip line = line` of the refusal theorem is needed: with a blank separator (tab) a trailing separator in the
value is stripped away and the line is ACCEPTED with an altered value (out of domain: the value ends in a blank) -/
theorem decodeLine_blank_sep_value_altered :
    decodeLine '\t' (encodeLine '\t' "a".toList "b\t".toList) = some ("a".toList, "b".toList) := by decide +kernel

/-! #### a separator that is not a blank: the complete behaviour of the line codec

`decodeLine_three_fields_refused` needs `strip line = line`.  For the separators pyGAPS is used with (`,` `;` `|` — anything that
`str.strip()` does not remove) that hypothesis can be dropped: `strip` removes blanks only, so it can neither remove a separator at
the very end of the value (`'see notes,'`, `'batch 7,,'`) nor one at the very start of the key.  What the reader returns for a
written line is then known for every key and value: refused iff key or value contains the separator (at any position), else the key
without its leading blanks and the value without its trailing blanks. -/

lemma strip_encodeLine (sep : Char) (hsep : isSpaceC sep = false) (k v : Str) :
    strip (k ++ [sep] ++ v) = stripL k ++ [sep] ++ stripR v := by
  rw [strip_eq_stripR_stripL, stripL_append_nonspace sep hsep, stripR_append_nonspace sep hsep]

/-- for every key and value, also outside the stated domain: nothing else can come back -/
theorem decodeLine_encodeLine_eq (sep : Char) (hsep : isSpaceC sep = false) (k v : Str) :
    decodeLine sep (encodeLine sep k v) = if sep ∈ k ∨ sep ∈ v then none else some (stripL k, stripR v) := by
  unfold encodeLine
  split_ifs with h <;> rw [← mem_stripL_iff sep hsep k, ← mem_stripR_iff sep hsep v] at h
  · rw [← List.count_pos_iff, ← List.count_pos_iff] at h
    rw [decodeLine_eq_none_iff, strip_encodeLine sep hsep, List.count_append, List.count_append, List.count_singleton_self]
    omega
  · rw [decodeLine_eq_some_iff]
    exact ⟨strip_encodeLine sep hsep k v, not_or.1 h⟩

/-- a value the format cannot carry is refused — no side condition on blanks -/
theorem decodeLine_sep_in_value_refused (sep : Char) (hsep : isSpaceC sep = false) (k v : Str) (hv : sep ∈ v) :
    decodeLine sep (encodeLine sep k v) = none := by
  rw [decodeLine_encodeLine_eq sep hsep, if_pos (Or.inr hv)]

theorem decodeLine_sep_in_key_refused (sep : Char) (hsep : isSpaceC sep = false) (k v : Str) (hk : sep ∈ k) :
    decodeLine sep (encodeLine sep k v) = none := by
  rw [decodeLine_encodeLine_eq sep hsep, if_pos (Or.inl hk)]

/-- the position the repository's tests never try: the separator at the very END of the value, once or repeated
(`'see notes,'`, `'batch 7,,'`).  The line then ends in empty fields; a reader that drops trailing empty fields would accept it
and hand back the value WITHOUT its last characters. -/
theorem decodeLine_trailing_sep_refused (sep : Char) (hsep : isSpaceC sep = false) (k v : Str) (n : Nat) :
    decodeLine sep (encodeLine sep k (v ++ List.replicate (n + 1) sep)) = none :=
  decodeLine_sep_in_value_refused sep hsep k _ (List.mem_append_right _ (by simp))

theorem decodeLine_leading_sep_refused (sep : Char) (hsep : isSpaceC sep = false) (k v : Str) :
    decodeLine sep (encodeLine sep k (sep :: v)) = none :=
  decodeLine_sep_in_value_refused sep hsep k _ (by simp)

example : decodeLine ',' (encodeLine ',' "comment".toList "see notes,".toList) = none ∧
    decodeLine ',' (encodeLine ',' "comment".toList "batch 7,,".toList) = none ∧
    decodeLine ';' (encodeLine ';' "comment".toList "a;".toList) = none ∧
    decodeLine ',' (encodeLine ',' "comment".toList ",".toList) = none ∧
    decodeLine ',' (encodeLine ',' "comment".toList ",a".toList) = none := by decide +kernel

/-- "refused or unchanged" — the last sentence of the property for one metadata line — holds EXACTLY when the key does not begin
and the value does not end with a blank (or the line is refused anyway).  The remaining region is finding S18-csv-padded. -/
theorem decodeLine_refused_or_unchanged_iff (sep : Char) (hsep : isSpaceC sep = false) (k v : Str) :
    (decodeLine sep (encodeLine sep k v) = none ∨ decodeLine sep (encodeLine sep k v) = some (k, v)) ↔
      (sep ∈ k ∨ sep ∈ v) ∨
        ((∀ c, k.head? = some c → isSpaceC c = false) ∧ (∀ c, v.getLast? = some c → isSpaceC c = false)) := by
  rw [decodeLine_encodeLine_eq sep hsep, ← stripL_eq_self_iff, ← stripR_eq_self_iff]
  split_ifs with h
  · simp [h]
  · simp [h]

theorem decodeLine_never_silently_changed (sep : Char) (hsep : isSpaceC sep = false) (k v : Str)
    (hk : ∀ c, k.head? = some c → isSpaceC c = false) (hv : ∀ c, v.getLast? = some c → isSpaceC c = false) :
    decodeLine sep (encodeLine sep k v) = none ∨ decodeLine sep (encodeLine sep k v) = some (k, v) :=
  (decodeLine_refused_or_unchanged_iff sep hsep k v).2 (Or.inr ⟨hk, hv⟩)

example : (∀ c, "comment".toList.head? = some c → isSpaceC c = false) ∧
    (∀ c, "see notes,".toList.getLast? = some c → isSpaceC c = false) := by decide +kernel

/-- finding S18-csv-padded in the model: a value that ends in a blank is accepted and comes back without it -/
theorem decodeLine_trailing_blank_value_altered :
    decodeLine ',' (encodeLine ',' "k".toList "padded ".toList) = some ("k".toList, "padded".toList) := by decide +kernel

/-- finding S55-C07a (tab, carriage return at the end of a value: the same `strip`) -/
theorem decodeLine_trailing_tab_value_altered :
    decodeLine ',' (encodeLine ',' "k".toList "ab\t".toList) = some ("k".toList, "ab".toList) ∧
    decodeLine ',' (encodeLine ',' "k".toList "ab\r".toList) = some ("k".toList, "ab".toList) := by decide +kernel

theorem decodeLine_encodeLine_inCsvDomain (sep : Char) (k v : Str) (hk : inCsvDomain sep k = true)
    (hv : inCsvDomain sep v = true) : decodeLine sep (encodeLine sep k v) = some (k, v) := by
  obtain ⟨gk, hks, -, -, hk9⟩ := (inCsvDomain_iff sep k).1 hk
  obtain ⟨gv, hvs, -, -, hv9⟩ := (inCsvDomain_iff sep v).1 hv
  have hne : ∀ s : Str, isNone s = false → s ≠ [] := fun s h e => by rw [e] at h; exact Bool.noConfusion h
  refine decodeLine_encodeLine' sep k v hks hvs ?_
  -- key and value are non-empty and have no blank at their ends: nor has the line
  rw [strip_eq_self_iff] at hk9 hv9 ⊢
  rw [List.getLast?_append_of_ne_nil _ (hne v gv.1), List.append_assoc, List.head?_append_of_ne_nil _ (hne k gk.1)]
  exact ⟨hk9.1, hv9.2⟩

/-- the whole path of a text metadata entry through a CSV line -/
theorem csv_text_metadata_roundtrip (sep : Char) (k v : Str) (hk : inCsvDomain sep k = true)
    (hv : inCsvDomain sep v = true) :
    (decodeLine sep (encodeLine sep k v)).map (fun kv => (kv.1, castString kv.2)) = some (k, .str v) := by
  rw [decodeLine_encodeLine_inCsvDomain sep k v hk hv, Option.map_some, cast_text_identity sep v hv]

/-! #### the metadata block: the reader's loop over the lines of a document (`readMeta`) -/

lemma stripR_encodeLine (sep : Char) (hsep : isSpaceC sep = false) (k v : Str) :
    stripR (encodeLine sep k v) = encodeLine sep k (stripR v) :=
  stripR_append_nonspace sep hsep k v

lemma stopsAt_stripR (stops : List Str) (h : ∀ p ∈ stops, ∀ c, p.getLast? = some c → isSpaceC c = false) (l : Str)
    (hl : stopsAt stops l = true) : stopsAt stops (stripR l) = true := by
  unfold stopsAt at hl ⊢
  rw [Bool.or_eq_true, List.any_eq_true] at hl ⊢
  rcases hl with ⟨p, hp, hpl⟩ | hl
  · obtain ⟨r, rfl⟩ := List.isPrefixOf_iff_prefix.1 hpl
    refine Or.inl ⟨p, hp, List.isPrefixOf_iff_prefix.2 ?_⟩
    rcases p.eq_nil_or_concat' with rfl | ⟨p', c, rfl⟩
    · exact List.nil_prefix
    · rw [stripR_append_nonspace c (h _ hp c List.getLast?_concat) p' r]
      exact List.prefix_append _ _
  · rw [List.isEmpty_iff.1 hl]
    exact Or.inr rfl

theorem readMeta_written_line (sep : Char) (hsep : isSpaceC sep = false) (stops : List Str) (k v : Str) (ls : List Str)
    (hstop : stopsAt stops (stripR (encodeLine sep k v)) = false) :
    readMeta sep stops (encodeLine sep k v :: ls) =
      if sep ∈ k ∨ sep ∈ v then .refused
      else match readMeta sep stops ls with
        | .refused => .refused
        | .read es rest => .read ((stripL k, stripR v) :: es) rest := by
  rw [readMeta, if_neg (by rw [hstop]; exact Bool.false_ne_true), stripR_encodeLine sep hsep, decodeLine_encodeLine_eq sep hsep,
    stripR_idem]
  simp only [mem_stripR_iff sep hsep]
  split_ifs with h <;> rfl

/-- an entry whose written line the loop reads back exactly -/
def CleanEntry (sep : Char) (stops : List Str) (kv : Str × Str) : Prop :=
  sep ∉ kv.1 ∧ sep ∉ kv.2 ∧ (∀ c, kv.1.head? = some c → isSpaceC c = false) ∧ (∀ c, kv.2.getLast? = some c → isSpaceC c = false) ∧
    stopsAt stops (encodeLine sep kv.1 kv.2) = false

lemma readMeta_clean_prefix (sep : Char) (hsep : isSpaceC sep = false) (stops : List Str) (entries : List (Str × Str))
    (ls : List Str) (h : ∀ kv ∈ entries, CleanEntry sep stops kv) :
    readMeta sep stops (entries.map (fun kv => encodeLine sep kv.1 kv.2) ++ ls) =
      match readMeta sep stops ls with
      | .refused => .refused
      | .read es rest => .read (entries ++ es) rest := by
  induction entries with
  | nil =>
    show readMeta sep stops ls = _
    cases readMeta sep stops ls <;> rfl
  | cons kv es ih =>
    obtain ⟨hk1, hv1, hk, hv, hs⟩ := h kv List.mem_cons_self
    have hv' := (stripR_eq_self_iff _).2 hv
    rw [List.map_cons, List.cons_append, readMeta_written_line sep hsep stops kv.1 kv.2 _
        (by rw [stripR_encodeLine sep hsep, hv']; exact hs),
      if_neg (not_or.2 ⟨hk1, hv1⟩), ih fun x hx => h x (List.mem_cons_of_mem kv hx), (stripL_eq_self_iff _).2 hk, hv']
    cases readMeta sep stops ls <;> rfl

theorem readMeta_written (sep : Char) (hsep : isSpaceC sep = false) (stops : List Str) (entries : List (Str × Str)) (tail : List Str)
    (h : ∀ kv ∈ entries, CleanEntry sep stops kv)
    (htail : tail = [] ∨ ∃ l ls, tail = l :: ls ∧ stopsAt stops (stripR l) = true) :
    readMeta sep stops (entries.map (fun kv => encodeLine sep kv.1 kv.2) ++ tail) = .read entries tail := by
  have ht : readMeta sep stops tail = .read [] tail := by
    rcases htail with rfl | ⟨l, ls, rfl, hl⟩
    · rfl
    · rw [readMeta, if_pos hl]
  rw [readMeta_clean_prefix sep hsep stops entries tail h, ht]
  simp only [List.append_nil]

/-- a value (or key) the format cannot carry is refused by the whole reader, not only by the line codec -/
theorem readMeta_refuses_separator (sep : Char) (hsep : isSpaceC sep = false) (stops : List Str) (entries : List (Str × Str))
    (k v : Str) (more : List Str) (h : ∀ kv ∈ entries, CleanEntry sep stops kv)
    (hstop : stopsAt stops (stripR (encodeLine sep k v)) = false) (hbad : sep ∈ k ∨ sep ∈ v) :
    readMeta sep stops (entries.map (fun kv => encodeLine sep kv.1 kv.2) ++ encodeLine sep k v :: more) = .refused := by
  rw [readMeta_clean_prefix sep hsep stops entries _ h, readMeta_written_line sep hsep stops k v more hstop, if_pos hbad]

/-- the entries of an ordinary document are clean; `comment,see notes,` after them is refused -/
example : CleanEntry ',' ["data".toList, "model".toList] ("material".toList, "m1".toList) ∧
    CleanEntry ',' ["data".toList, "model".toList] ("temperature".toList, "77.0".toList) := by
  unfold CleanEntry
  decide +kernel

example : readMeta ',' ["data".toList, "model".toList]
    ["material,m1".toList, "comment,see notes,".toList, "data:[pressure,loading,branch,(otherdata)]".toList] = .refused := by decide +kernel

/-- finding S55-C07b in the model: a value that ENDS in a line break is not refused — the empty line it leaves ends the block, so
the reader never reaches the data header: the value comes back without the line break and the rest of the document is dropped -/
theorem readMeta_trailing_newline_cuts_document :
    readMeta ',' ["data".toList, "model".toList]
        (docLines (writeMeta ',' [("material".toList, "m1".toList), ("comment".toList, "ab\n".toList)] ++ "data:[pressure]\n1.0\n".toList)) =
      .read [("material".toList, "m1".toList), ("comment".toList, "ab".toList)] ["".toList, "data:[pressure]".toList, "1.0".toList, "".toList] := by
  decide +kernel

/-- ... while a line break INSIDE a value leaves a line without separator, which is refused -/
theorem readMeta_inner_newline_refused :
    readMeta ',' ["data".toList, "model".toList]
        (docLines (writeMeta ',' [("material".toList, "m1".toList), ("comment".toList, "ab\ncd".toList)] ++ "data:[pressure]\n1.0\n".toList)) = .refused := by
  decide +kernel

end PgVerif.C07
