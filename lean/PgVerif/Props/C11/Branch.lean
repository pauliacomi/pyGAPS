/-
C11 on the DESORPTION branch of a point isotherm.  A hysteretic isotherm stores its desorption rows after the adsorption
rows, in order of DECREASING pressure.  `PointIsotherm.spreading_pressure_at(branch='des')` brings the rows of the branch
into increasing order (`PgVerif.Model.Iast.orient`: reversed when the first pressure exceeds the last) and then runs the
same fold as on the adsorption branch (`PgVerif.Model.spreadPoint`).  The harness feeds the exact-rational fold
(`Drv/SpreadPoint.lean`) with the REVERSED stored desorption rows; this file makes that legitimate:

  A. (any linear order) `orient` reverses strictly decreasing rows and leaves strictly increasing rows alone; in both cases the
     oriented rows are the rows of the branch sorted by increasing pressure, and they meet the hypotheses of the fold theorems
     of `Props/C11/Point.lean` (strictly increasing, positive).
  B. (ℝ) the spreading pressure of a branch, `spreadStored` = the fold on the oriented rows, is `∫₀ᵖ q(x)/x dx` of the
     Henry-continued piecewise-linear interpolant through the rows of that branch; for desorption rows it is the fold on the
     reversed stored rows; zero at zero, additive, non-decreasing.
  C. non-vacuity; the fold run over desorption rows in STORED order (the defect repaired by repository commit 208858a) gives
     another number.
-/
import PgVerif.Props.C11.Point
import PgVerif.Model.IastPoint
import Mathlib.Data.List.Sort

namespace PgVerif.C11
open PgVerif.Model PgVerif.Model.Iast

/-! ## A. orientation of the rows of a branch (any linear order) -/

section A
variable {α : Type} [LinearOrder α]

/-- rows of a branch in a strictly monotone order of pressure: increasing (adsorption) or decreasing (desorption) -/
def StoredMonotone (ps : List α) : Prop := ps.Pairwise (· < ·) ∨ (2 ≤ ps.length ∧ ps.Pairwise (· > ·))

theorem reverse_increasing_of_decreasing (ps : List α) (h : ps.Pairwise (· > ·)) : ps.reverse.Pairwise (· < ·) :=
  List.pairwise_reverse.mpr h

theorem orient_of_increasing (ps ls : List α) (h : ps.Pairwise (· < ·)) : orient ps ls = (ps, ls) := by
  unfold orient
  rcases ps with _ | ⟨a, t⟩
  · rfl
  · have hne : a :: t ≠ [] := by simp
    rw [List.head?_cons, List.getLast?_eq_some_getLast hne]
    have hle : a ≤ (a :: t).getLast hne := by
      rcases List.mem_cons.mp (List.getLast_mem hne) with e | m
      · exact e.ge
      · exact (List.rel_of_pairwise_cons h m).le
    simp only [not_lt.mpr hle, if_false]

theorem orient_of_decreasing (ps ls : List α) (hlen : 2 ≤ ps.length) (h : ps.Pairwise (· > ·)) :
    orient ps ls = (ps.reverse, ls.reverse) := by
  unfold orient
  rcases ps with _ | ⟨a, _ | ⟨b, t⟩⟩
  · simp at hlen
  · simp at hlen
  · have hne : a :: b :: t ≠ [] := by simp
    rw [List.head?_cons, List.getLast?_eq_some_getLast hne]
    have hlt : (a :: b :: t).getLast hne < a := by
      rw [List.getLast_cons (by simp : b :: t ≠ [])]
      exact List.rel_of_pairwise_cons h (List.getLast_mem _)
    simp only [hlt, if_true]

theorem orient_increasing (ps ls : List α) (h : StoredMonotone ps) : (orient ps ls).1.Pairwise (· < ·) := by
  rcases h with h | ⟨hlen, h⟩
  · rw [orient_of_increasing ps ls h]; exact h
  · rw [orient_of_decreasing ps ls hlen h]; exact reverse_increasing_of_decreasing ps h

theorem orient_perm (ps ls : List α) : ((orient ps ls).1.Perm ps) ∧ ((orient ps ls).2.Perm ls) := by
  unfold orient
  split
  · split_ifs
    · exact ⟨List.reverse_perm _, List.reverse_perm _⟩
    · exact ⟨List.Perm.refl _, List.Perm.refl _⟩
  · exact ⟨List.Perm.refl _, List.Perm.refl _⟩

theorem orient_length (ps ls : List α) :
    (orient ps ls).1.length = ps.length ∧ (orient ps ls).2.length = ls.length :=
  ⟨(orient_perm ps ls).1.length_eq, (orient_perm ps ls).2.length_eq⟩

/-- the rows stay paired: row `i` of the oriented data is a stored row -/
theorem orient_zip (ps ls : List α) (hlen : ps.length = ls.length) :
    ((orient ps ls).1.zip (orient ps ls).2).Perm (ps.zip ls) := by
  unfold orient
  split
  · split_ifs
    · simp only [List.zip]
      rw [← List.reverse_zipWith hlen]
      exact List.reverse_perm _
    · exact List.Perm.refl _
  · exact List.Perm.refl _

theorem orient_fst_eq_mergeSort (ps ls : List α) (h : StoredMonotone ps) :
    (orient ps ls).1 = ps.mergeSort (fun a b => decide (a ≤ b)) := by
  have hs : (orient ps ls).1.Pairwise (· ≤ ·) := (orient_increasing ps ls h).imp le_of_lt
  have hm : (ps.mergeSort (fun a b => decide (a ≤ b))).Pairwise (· ≤ ·) := List.pairwise_mergeSort' (· ≤ ·) ps
  exact List.Perm.eq_of_pairwise' hs hm ((orient_perm ps ls).1.trans (List.mergeSort_perm ps _).symm)

/-- the oriented rows are the rows of the branch sorted by increasing pressure (rows = (pressure, loading) pairs) -/
theorem orient_eq_sorted_rows (ps ls : List α) (hlen : ps.length = ls.length) (h : StoredMonotone ps) :
    (orient ps ls).1.zip (orient ps ls).2 = (ps.zip ls).mergeSort (fun a b => decide (a.1 ≤ b.1)) := by
  set o := (orient ps ls).1.zip (orient ps ls).2 with ho
  have hperm := (orient_zip ps ls hlen).trans (List.mergeSort_perm (ps.zip ls) fun a b => decide (a.1 ≤ b.1)).symm
  -- the oriented rows have strictly increasing pressures: sorted, and no two rows share a pressure
  have h1 : (o.map Prod.fst).Pairwise (· < ·) := by
    rw [ho, List.map_fst_zip (by rw [(orient_length ps ls).1, (orient_length ps ls).2, hlen])]
    exact orient_increasing ps ls h
  have hso : o.Pairwise (fun a b => decide (a.1 ≤ b.1) = true) :=
    (List.pairwise_map.mp h1).imp fun hab => by simpa using hab.le
  refine List.Perm.eq_of_pairwise (fun a b ha hb hab hba => ?_) hso ?_ hperm
  · simp only [decide_eq_true_eq] at hab hba
    exact List.inj_on_of_nodup_map (h1.imp ne_of_lt) ha (hperm.symm.subset hb) (le_antisymm hab hba)
  · apply List.pairwise_mergeSort
    · intro a b c hab hbc
      simp only [decide_eq_true_eq] at hab hbc ⊢
      exact hab.trans hbc
    · intro a b
      simp only [Bool.or_eq_true, decide_eq_true_eq]
      exact le_total _ _

end A

/-! ## B. the spreading pressure of a branch (ℝ) -/

noncomputable section

/-- positive pressures stored in a strictly monotone order: the oriented rows meet the hypotheses of the fold theorems of
`Props/C11/Point.lean` (non-empty, positive first pressure, strictly increasing, as many loadings as pressures) -/
theorem orient_admissible (ps ls : List ℝ) (hne : ps ≠ []) (hpos : ∀ x ∈ ps, 0 < x) (hlen : ps.length = ls.length)
    (hm : StoredMonotone ps) :
    ∃ hne' : (orient ps ls).1 ≠ [], 0 < (orient ps ls).1.head hne' ∧
      (orient ps ls).1.length = (orient ps ls).2.length ∧ (orient ps ls).1.Pairwise (· < ·) := by
  have hl := orient_length ps ls
  have hne' : (orient ps ls).1 ≠ [] := by
    intro h0
    have : ps.length = 0 := by rw [← hl.1, h0]; rfl
    exact hne (List.eq_nil_of_length_eq_zero this)
  refine ⟨hne', ?_, by rw [hl.1, hl.2, hlen], orient_increasing ps ls hm⟩
  exact hpos _ ((orient_perm ps ls).1.subset (List.head_mem hne'))

/-- `spreading_pressure_at(p, branch)` as a function of the rows of the branch AS STORED: orientation, then the fold
(`spreadFun` of `Props/C11/Point.lean`) -/
def spreadStored (ps ls : List ℝ) (p : ℝ) : ℝ := spreadFun (orient ps ls).1 (orient ps ls).2 p

/-- the highest pressure of the branch, whichever way it is stored -/
def storedMax (ps ls : List ℝ) (hne : (orient ps ls).1 ≠ []) : ℝ := (orient ps ls).1.getLast hne

theorem spreadStored_des (ps ls : List ℝ) (p : ℝ) (hlen2 : 2 ≤ ps.length) (hd : ps.Pairwise (· > ·)) :
    spreadStored ps ls p = spreadFun ps.reverse ls.reverse p := by
  unfold spreadStored
  rw [orient_of_decreasing ps ls hlen2 hd]

theorem spreadStored_ads (ps ls : List ℝ) (p : ℝ) (hi : ps.Pairwise (· < ·)) :
    spreadStored ps ls p = spreadFun ps ls p := by
  unfold spreadStored
  rw [orient_of_increasing ps ls hi]

/-- **C11 on the desorption branch.**  Stored rows `ps`, `ls` with strictly decreasing positive pressures, `0 ≤ p`, `lq` the
linear interpolation of the branch at `p`: the exact fold run on the reversed rows is `∫₀ᵖ q(x)/x dx`, `q` the
Henry-continued piecewise-linear interpolant through the points of the desorption branch. -/
theorem spreadPoint_des_eq_integral (ps ls : List ℝ) (p lq : ℝ) (hne : ps ≠ []) (hpos : ∀ x ∈ ps, 0 < x)
    (hlen : ps.length = ls.length) (hd : ps.Pairwise (· > ·)) (hp0 : 0 ≤ p)
    (hlq : ps.getLast hne < p → interpLin ps.reverse ls.reverse p = some lq) :
    spreadPoint ps.reverse ls.reverse (realLogs ps.reverse) p lq (lastLog ps.reverse p) =
      some (∫ x in (0:ℝ)..p, qInterp ps.reverse ls.reverse x / x) := by
  have hne' : ps.reverse ≠ [] := by simpa using hne
  have hhead : ps.reverse.head hne' = ps.getLast hne := by simp
  refine spreadPoint_eq_integral ps.reverse ls.reverse p lq hne' ?_ (by simp [hlen])
    (reverse_increasing_of_decreasing ps hd) hp0 ?_
  · rw [hhead]; exact hpos _ (List.getLast_mem hne)
  · rw [hhead]; exact hlq

/-- the spreading pressure of a branch is the integral of the interpolant through the rows of that branch sorted by
increasing pressure, on the whole measured range of the branch -/
theorem spreadStored_eq_integral (ps ls : List ℝ) (p : ℝ) (hne : ps ≠ []) (hpos : ∀ x ∈ ps, 0 < x)
    (hlen : ps.length = ls.length) (hm : StoredMonotone ps) (hp0 : 0 ≤ p)
    (hpl : p ≤ storedMax ps ls (orient_admissible ps ls hne hpos hlen hm).1) :
    spreadStored ps ls p = ∫ x in (0:ℝ)..p, qInterp (orient ps ls).1 (orient ps ls).2 x / x := by
  obtain ⟨hne', hp, hl, hs⟩ := orient_admissible ps ls hne hpos hlen hm
  exact spreadFun_eq_integral _ _ p hne' hp hl hs hp0 hpl

theorem spreadStored_zero (ps ls : List ℝ) (hne : ps ≠ []) (hpos : ∀ x ∈ ps, 0 < x) (hlen : ps.length = ls.length)
    (hm : StoredMonotone ps) : spreadStored ps ls 0 = 0 := by
  obtain ⟨hne', hp, hl, hs⟩ := orient_admissible ps ls hne hpos hlen hm
  unfold spreadStored spreadFun
  rw [spreadPoint_zero _ _ _ _ _ hne' hp hl hs]
  rfl

theorem spreadStored_additive (ps ls : List ℝ) (a b : ℝ) (hne : ps ≠ []) (hpos : ∀ x ∈ ps, 0 < x)
    (hlen : ps.length = ls.length) (hm : StoredMonotone ps) (ha0 : 0 ≤ a) (hab : a ≤ b)
    (hbl : b ≤ storedMax ps ls (orient_admissible ps ls hne hpos hlen hm).1) :
    spreadStored ps ls b - spreadStored ps ls a = ∫ x in a..b, qInterp (orient ps ls).1 (orient ps ls).2 x / x := by
  obtain ⟨hne', hp, hl, hs⟩ := orient_admissible ps ls hne hpos hlen hm
  exact spreadPoint_additive _ _ a b hne' hp hl hs ha0 hab hbl

theorem spreadStored_mono (ps ls : List ℝ) (a b : ℝ) (hne : ps ≠ []) (hpos : ∀ x ∈ ps, 0 < x)
    (hlen : ps.length = ls.length) (hm : StoredMonotone ps) (hl0 : ∀ l ∈ ls, 0 ≤ l) (ha0 : 0 ≤ a) (hab : a ≤ b)
    (hbl : b ≤ storedMax ps ls (orient_admissible ps ls hne hpos hlen hm).1) :
    spreadStored ps ls a ≤ spreadStored ps ls b := by
  obtain ⟨hne', hp, hl, hs⟩ := orient_admissible ps ls hne hpos hlen hm
  exact spreadPoint_mono _ _ a b hne' hp hl hs
    (fun l hl' => hl0 l ((orient_perm ps ls).2.subset hl')) ha0 hab hbl

end

/-! ## C. non-vacuity -/

/-- desorption rows `(4, 2), (2, 3/2), (1, 1)` as stored: strictly decreasing, reversed by `orient` -/
example : StoredMonotone [(4 : ℚ), 2, 1] ∧ orient [(4 : ℚ), 2, 1] [2, 3 / 2, 1] = ([1, 2, 4], [1, 3 / 2, 2]) := by
  refine ⟨Or.inr ⟨by decide, by decide⟩, by decide +kernel⟩

example : StoredMonotone [(1 : ℚ), 2, 4] ∧ orient [(1 : ℚ), 2, 4] [1, 3 / 2, 2] = ([1, 2, 4], [1, 3 / 2, 2]) := by
  refine ⟨Or.inl (by decide), by decide +kernel⟩

example : ([4, 2, 1] : List ℝ) ≠ [] ∧ (∀ x ∈ ([4, 2, 1] : List ℝ), 0 < x) ∧
    ([4, 2, 1] : List ℝ).Pairwise (· > ·) := by
  refine ⟨by simp, ?_, ?_⟩
  · intro x hx; simp at hx; rcases hx with rfl | rfl | rfl <;> norm_num
  · simp only [List.pairwise_cons, List.mem_cons, List.not_mem_nil, or_false, forall_eq_or_imp, forall_eq,
      IsEmpty.forall_iff, implies_true, List.Pairwise.nil, and_true]
    norm_num

/-- the fold on the reversed desorption rows at `p = 3` (logarithm inputs `7/10`, `2/5`): `5/2` … -/
example : spreadPoint [(1 : ℚ), 2, 4] [1, 3 / 2, 2] [7 / 10, 7 / 10] 3 (7 / 4) (2 / 5) = some (5 / 2) := by
  decide +kernel

/-- … the same fold over the rows in STORED order (decreasing pressures; logarithms of the stored neighbours `-7/10`) — what
`spreading_pressure_at(branch='des')` did before repository commit 208858a — is another number -/
theorem unoriented_fold_differs :
    spreadPoint [(4 : ℚ), 2, 1] [2, 3 / 2, 1] [-7 / 10, -7 / 10] 3 (7 / 4) (2 / 5) ≠
      spreadPoint [(1 : ℚ), 2, 4] [1, 3 / 2, 2] [7 / 10, 7 / 10] 3 (7 / 4) (2 / 5) := by
  decide +kernel

end PgVerif.C11
