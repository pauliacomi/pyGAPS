/-
C11 — the spreading pressure is anchored AT THE ORIGIN ("the integral from 0 to p … therefore zero in the limit of zero pressure").

For Toth and Jensen–Seaton the library computes `scipy.integrate.quad(loading(x)/x, 0, p)`, for DR and DA the same integral over the scaled
logarithm (`Props/C11/LogScale.lean`); the model of these calls is the integral itself, so what has to be checked on the real code is that
the value IS the origin-anchored integral.  This file says what that means and what the harness compares with:

* `∫ₐᵇ n(x)/x dx = ∫_{ln a}^{ln b} n(eᵘ) du`: the reference quadrature of the harness (Gauss–Legendre in `u = ln x`, panels running down
  from `ln p`) integrates the same function; no singular weight is left.
* Among all functions with the right increments `F b − F a = ∫ₐᵇ n/x` (equivalently the right derivative `p·F' = n`) exactly one tends
  to 0 at zero pressure: "additive + derivative" does not fix the constant, the zero limit does.
* A primitive anchored at some `ε > 0` instead (the integral started "just above the origin") has the right increments, but is negative
  below `ε`, misses the constant `∫₀^ε n/x` everywhere, and does not tend to 0: the three observations (sign at very small `p`, comparison
  with the origin-anchored integral, limit) by which the harness finds it.
* At the lower bound `m = 1` of its exponent the Dubinin–Astakhov loading is the power law `n_m·p^a`, `a = RT/e`, and its origin-anchored
  spreading pressure is `n_m·p^a / a` in closed form: an exact corner of the parameter box against which both the library and the
  reference quadrature are run.
-/
import Mathlib.Analysis.SpecialFunctions.Integrals.Basic
import Mathlib.Analysis.SpecialFunctions.Log.Deriv
import Mathlib.Analysis.SpecialFunctions.Pow.Deriv
import Mathlib.MeasureTheory.Integral.IntervalIntegral.IntegrationByParts
import Mathlib.Tactic
import PgVerif.Tie.Models
import PgVerif.Props.C11.Analytic

namespace PgVerif.C11
open PgVerif.Gen.R Filter Topology MeasureTheory

/-! ### the reference integral of the harness -/

theorem integral_div_eq_integral_comp_exp (n : ℝ → ℝ) (a b : ℝ) (ha : 0 < a) (hab : a ≤ b) (hn : ContinuousOn n (Set.Icc a b)) :
    ∫ x in a..b, n x / x = ∫ u in Real.log a..Real.log b, n (Real.exp u) := by
  have hb : 0 < b := ha.trans_le hab
  have hlog : Real.log a ≤ Real.log b := Real.log_le_log ha hab
  have himg : Real.exp '' Set.uIcc (Real.log a) (Real.log b) ⊆ Set.Icc a b := by
    rw [Set.uIcc_of_le hlog]
    rintro _ ⟨u, ⟨hu1, hu2⟩, rfl⟩
    constructor
    · calc a = Real.exp (Real.log a) := (Real.exp_log ha).symm
        _ ≤ Real.exp u := Real.exp_le_exp.mpr hu1
    · calc Real.exp u ≤ Real.exp (Real.log b) := Real.exp_le_exp.mpr hu2
        _ = b := Real.exp_log hb
  have hg : ContinuousOn (fun x => n x / x) (Real.exp '' Set.uIcc (Real.log a) (Real.log b)) := by
    apply ContinuousOn.mono _ himg
    apply hn.div continuousOn_id
    intro x hx
    exact (ha.trans_le hx.1).ne'
  have key := intervalIntegral.integral_comp_mul_deriv' (a := Real.log a) (b := Real.log b) (f := Real.exp) (f' := Real.exp)
    (g := fun x => n x / x) (fun x _ => Real.hasDerivAt_exp x) Real.continuous_exp.continuousOn hg
  rw [Real.exp_log ha, Real.exp_log hb] at key
  rw [← key]
  apply intervalIntegral.integral_congr
  intro u _
  simp only [Function.comp]
  rw [div_mul_cancel₀ _ (Real.exp_pos u).ne']

example : ∫ x in (1:ℝ)..2, (x / (1 + x)) / x = ∫ u in Real.log 1..Real.log 2, Real.exp u / (1 + Real.exp u) := by
  apply integral_div_eq_integral_comp_exp (fun x => x / (1 + x)) 1 2 one_pos one_le_two
  apply ContinuousOn.div continuousOn_id (continuousOn_const.add continuousOn_id)
  intro x hx
  have : (0:ℝ) < 1 + x := by linarith [hx.1]
  exact this.ne'

/-! ### the anchor -/

/-- two functions with the same increments on `(0, P]` that both tend to 0 at zero pressure agree on `(0, P]`: the zero limit is what
fixes the constant of integration -/
theorem anchored_primitive_unique {F G : ℝ → ℝ} {P : ℝ}
    (hinc : ∀ a b, 0 < a → a ≤ b → b ≤ P → F b - F a = G b - G a)
    (hF : Tendsto F (𝓝[>] 0) (𝓝 0)) (hG : Tendsto G (𝓝[>] 0) (𝓝 0)) {p : ℝ} (hp : 0 < p) (hpP : p ≤ P) :
    F p = G p := by
  -- F - G is constant on (0, p], and tends to 0
  have hconst : ∀ᶠ a in 𝓝[>] (0:ℝ), F a - G a = F p - G p := by
    have hmem : Set.Ioc (0:ℝ) p ∈ 𝓝[>] (0:ℝ) := Ioc_mem_nhdsGT hp
    filter_upwards [hmem] with a ha
    have := hinc a p ha.1 ha.2 hpP
    linarith
  have hlim : Tendsto (fun a => F a - G a) (𝓝[>] 0) (𝓝 (0 - 0)) := hF.sub hG
  have hlim' : Tendsto (fun _ : ℝ => F p - G p) (𝓝[>] (0:ℝ)) (𝓝 (0 - 0)) := hlim.congr' hconst
  have : F p - G p = 0 - 0 := tendsto_nhds_unique tendsto_const_nhds hlim'
  linarith

/-- a primitive anchored at `ε` instead of the origin differs from any other primitive by a constant: increments and derivative are right -/
theorem primitive_anchored_at_eps_offset {f : ℝ → ℝ} {a ε p : ℝ} (h1 : IntervalIntegrable f volume a p)
    (h2 : IntervalIntegrable f volume a ε) :
    ∫ x in ε..p, f x = (∫ x in a..p, f x) - ∫ x in a..ε, f x :=
  (intervalIntegral.integral_interval_sub_left h1 h2).symm

/-- … but it is negative below its anchor (integrand positive: loading and pressure are) -/
theorem primitive_anchored_at_eps_neg {f : ℝ → ℝ} {ε p : ℝ} (hpε : p < ε) (hint : IntervalIntegrable f volume p ε)
    (hpos : ∀ x ∈ Set.Ioo p ε, 0 < f x) :
    ∫ x in ε..p, f x < 0 := by
  rw [intervalIntegral.integral_symm]
  have := intervalIntegral.intervalIntegral_pos_of_pos_on hint hpos hpε
  linarith

/-- … and it does not tend to 0 at zero pressure when the origin-anchored one does: its limit is minus the missing part
(stated for any `F` with limit 0 and any constant `c ≠ 0`; in the application `F` is the origin-anchored primitive and `c = ∫₀^ε n/x`) -/
theorem primitive_anchored_at_eps_not_tendsto_zero {F : ℝ → ℝ} {c : ℝ} (hc : c ≠ 0) (hF : Tendsto F (𝓝[>] 0) (𝓝 0)) :
    ¬ Tendsto (fun p => F p - c) (𝓝[>] 0) (𝓝 0) := by
  intro h
  have h2 : Tendsto (fun p => F p - c) (𝓝[>] 0) (𝓝 (0 - c)) := hF.sub tendsto_const_nhds
  have : (0:ℝ) = 0 - c := tendsto_nhds_unique h h2
  apply hc
  linarith

/-- the Henry loading `n = x` (integrand 1) anchored at 1, evaluated at 1/2 -/
example : ∫ _x in (1:ℝ)..(1/2), (1:ℝ) < 0 :=
  primitive_anchored_at_eps_neg (by norm_num) intervalIntegrable_const (fun _ _ => one_pos)

/-! ### DA at the lower bound of its exponent -/

/-- at `m = 1` the Dubinin–Astakhov loading is a power law in the relative pressure (`minus_rt = −RT`, exponent `a = RT/e`) -/
theorem da_m1_loading (nm e mrt p : ℝ) (hp : 0 < p) :
    DA_loading nm e 1 mrt p = nm * p ^ (-mrt / e) := by
  unfold DA_loading
  simp only [Real.rpow_eq_pow, Real.rpow_one]
  rw [Real.rpow_def_of_pos hp]
  congr 2
  ring

/-- the closed form of its origin-anchored spreading pressure -/
noncomputable def daM1Spread (nm a p : ℝ) : ℝ := nm * p ^ a / a

theorem da_m1_spread_hasDeriv (nm e mrt p : ℝ) (hp : 0 < p) (ha : -mrt / e ≠ 0) :
    HasDerivAt (daM1Spread nm (-mrt / e)) (DA_loading nm e 1 mrt p / p) p := by
  rw [da_m1_loading nm e mrt p hp]
  unfold daM1Spread
  have h := ((Real.hasDerivAt_rpow_const (p := -mrt / e) (Or.inl hp.ne')).const_mul nm).div_const (-mrt / e)
  have e1 : ∀ A : ℝ, A ≠ 0 → nm * p ^ A / p = nm * (A * p ^ (A - 1)) / A := by
    intro A hA
    rw [Real.rpow_sub_one hp.ne']
    field_simp
  rw [e1 _ ha]
  exact h

theorem da_m1_spread_eq_integral (nm e mrt a b : ℝ) (ha : 0 < a) (hab : a ≤ b) (hexp : -mrt / e ≠ 0) :
    daM1Spread nm (-mrt / e) b - daM1Spread nm (-mrt / e) a = ∫ x in a..b, DA_loading nm e 1 mrt x / x := by
  refine SpreadAt.eq_integral ha hab fun x hx => ⟨da_m1_spread_hasDeriv nm e mrt x (ha.trans_le hx.1) hexp, ?_⟩
  have hx0 : x ≠ 0 := (ha.trans_le hx.1).ne'
  unfold DA_loading
  simp only [Real.rpow_eq_pow, Real.rpow_one]
  fun_prop (disch := assumption)

theorem da_m1_spread_tendsto_zero (nm a : ℝ) (ha : 0 < a) :
    Tendsto (daM1Spread nm a) (𝓝[>] 0) (𝓝 0) := by
  apply tendsto_zero_of_continuousAt
  · unfold daM1Spread
    apply ContinuousAt.div_const
    exact continuousAt_const.mul (Real.continuousAt_rpow_const 0 a (Or.inr ha.le))
  · unfold daM1Spread
    rw [Real.zero_rpow ha.ne']
    simp

theorem da_m1_spread_pos (nm a p : ℝ) (hnm : 0 < nm) (ha : 0 < a) (hp : 0 < p) : 0 < daM1Spread nm a p := by
  unfold daM1Spread
  positivity

/-- `e = 4000 J/mol`, `RT = 1000 J/mol` (the exponent `a = 1/4`), `n_m = 10` -/
example : daM1Spread 10 (-(-1000) / 4000) 1 - daM1Spread 10 (-(-1000) / 4000) (1/2)
    = ∫ x in (1/2:ℝ)..1, DA_loading 10 4000 1 (-1000) x / x :=
  da_m1_spread_eq_integral 10 4000 (-1000) (1/2) 1 (by norm_num) (by norm_num) (by norm_num)

end PgVerif.C11
