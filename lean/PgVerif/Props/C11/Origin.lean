/-
C11 for point isotherms whose data start at the origin — the origin guard of `PointIsotherm.spreading_pressure_at` (repository fix S35): a first data point at `(0, 0)` is dropped
before the Henry continuation.  The chord from the origin to the first positive point IS the Henry line through that point, so the
integrand n(p)/p — and with it the spreading pressure — is unchanged by the guard.
-/
import PgVerif.Model.SpreadPoint
import Mathlib.Tactic

namespace PgVerif.C11

open PgVerif.Model

variable {α : Type} [Field α] [LinearOrder α]

/-- the linear interpolant between the origin and `(p1, l1)` is the Henry law with slope `l1/p1` -/
theorem origin_chord_is_henry (p1 l1 x : α) : (0 : α) + (l1 - 0) / (p1 - 0) * (x - 0) = l1 / p1 * x := by
  simp

theorem dropOrigin_noop (p0 p1 l0 l1 : α) (ps ls : List α) (h : ¬ (p0 = 0 ∧ l0 = 0)) :
    dropOrigin (p0 :: p1 :: ps) (l0 :: l1 :: ls) = (p0 :: p1 :: ps, l0 :: l1 :: ls) := by
  simp [dropOrigin, h]

theorem dropOrigin_origin (p1 l1 : α) (ps ls : List α) :
    dropOrigin ((0 : α) :: p1 :: ps) ((0 : α) :: l1 :: ls) = (p1 :: ps, l1 :: ls) := by
  simp [dropOrigin]

/-- a single point is never dropped (the guard needs a second point to continue from) -/
theorem dropOrigin_single (p0 l0 : α) : dropOrigin [p0] [l0] = ([p0], [l0]) := rfl

theorem dropOrigin_idem (p1 l1 : α) (ps ls : List α) (hp : p1 ≠ 0) :
    dropOrigin (dropOrigin ((0 : α) :: p1 :: ps) ((0 : α) :: l1 :: ls)).1 (dropOrigin ((0 : α) :: p1 :: ps) ((0 : α) :: l1 :: ls)).2
      = (p1 :: ps, l1 :: ls) := by
  rw [dropOrigin_origin]
  cases ps with
  | nil => cases ls <;> rfl
  | cons p2 ps =>
    cases ls with
    | nil => rfl
    | cons l2 ls => simp [dropOrigin, hp]

theorem spreadPointData_origin (p1 l1 : α) (ps ls logs : List α) (p lq lg : α) :
    spreadPointData ((0 : α) :: p1 :: ps) ((0 : α) :: l1 :: ls) logs p lq lg = spreadPoint (p1 :: ps) (l1 :: ls) logs p lq lg := by
  simp [spreadPointData, dropOrigin]

end PgVerif.C11
