/-
C11 (point isotherms, unit arguments and knots).

"Pressures given in other units or modes are converted first": `PointIsotherm.spreading_pressure_at` converts the DATA to the unit /
mode of the query (all pressures are multiplied by one positive factor `c`) and runs the same fold on them.  The fold is invariant under
that scaling — the count of points below the query, every segment and the Henry part are unchanged — so the result does not depend on
the unit in which the query is expressed, whatever the magnitudes of the numbers are (`spreadPoint_scale`, generic ordered field; with
real logarithms `realLogs_scale`, `lastLog_scale`, `spreadFun_scale`).  A count that compares pressures up to an ABSOLUTE tolerance is
not invariant (`countTol_not_scale_invariant`).

Knots: whether a data point that coincides with the query is counted as "below" or is the end of the last, partial segment gives the same
value (`spreadBody_succ`, `spreadPoint_at_knot`): the spreading pressure is continuous across the knots, and a miscount is harmless only
AT a knot (`miscount_witness`: one knot strictly below the query left out changes the value).

The loading at the query is an input of the fold (the code reads it through `loading_at`, the data points through `loading`):
`foreign_lq_witness` — with the number another conversion produces the fold is not the integral of the interpolant (finding S49-C11c).
`unsigned_wrap_witness` — the fold needs field arithmetic: with one loading difference wrapped as in `UInt8` the value changes (finding S62-C11a).
-/
import Mathlib.Analysis.SpecialFunctions.Log.Basic
import Mathlib.Algebra.Order.Field.Rat
import Mathlib.Tactic
import PgVerif.Model.SpreadPoint
import PgVerif.Lemmas.InterpLin
import PgVerif.Props.C11.Point

namespace PgVerif.C11
open PgVerif.Model

section Field

variable {α : Type} [Field α] [LinearOrder α] [IsStrictOrderedRing α]

/-- the data expressed in another pressure unit: every pressure times the conversion factor -/
def scaleP (c : α) (ps : List α) : List α := ps.map (c * ·)

omit [LinearOrder α] [IsStrictOrderedRing α] in
lemma scaleP_getD (c : α) (ps : List α) (i : ℕ) : (scaleP c ps).getD i 0 = c * ps.getD i 0 := by
  unfold scaleP
  rw [List.getD_eq_getElem?_getD, List.getD_eq_getElem?_getD, List.getElem?_map]
  cases ps[i]? <;> simp

theorem nBelow_scale {c : α} (hc : 0 < c) (ps : List α) (p : α) : nBelow (scaleP c ps) (c * p) = nBelow ps p := by
  simp only [nBelow, scaleP, List.filter_map, List.length_map, Function.comp_def, mul_lt_mul_iff_right₀ hc]

omit [LinearOrder α] [IsStrictOrderedRing α] in
/-- a slope per converted pressure times a converted pressure is the slope times the pressure (also when the slope is
the totalised `d / 0`) -/
lemma slope_scale {c : α} (hc : c ≠ 0) (d e x : α) : d / (c * e) * (c * x) = d / e * x := by
  rw [div_mul_eq_mul_div, mul_left_comm, mul_div_mul_left _ _ hc, mul_div_right_comm]

omit [LinearOrder α] [IsStrictOrderedRing α] in
/-- one segment: `slope·Δp + intercept·ln ratio` is the same in every unit (the logarithm of the ratio is an input) -/
theorem seg_scale {c : α} (hc : c ≠ 0) (p0 l0 p1 l1 lg : α) : seg (c * p0) l0 (c * p1) l1 lg = seg p0 l0 p1 l1 lg := by
  simp only [seg, ← mul_sub, slope_scale hc]

omit [LinearOrder α] [IsStrictOrderedRing α] in
theorem spreadBody_scale {c : α} (hc : c ≠ 0) (ps ls logs : List α) (k : ℕ) (l0 : α) :
    spreadBody (scaleP c ps) ls logs k l0 = spreadBody ps ls logs k l0 := by
  simp only [spreadBody, scaleP_getD, seg_scale hc]

/-- C11, unit arguments.  The fold of `spreading_pressure_at` on the data converted by a positive factor `c`, queried at the converted
pressure `c·p`, returns what it returns on the original data at `p`. -/
theorem spreadPoint_scale {c : α} (hc : 0 < c) (ps ls logs : List α) (p lq lg : α) :
    spreadPoint (scaleP c ps) ls logs (c * p) lq lg = spreadPoint ps ls logs p lq lg := by
  cases ps with
  | nil => rfl
  | cons p0 pt =>
    cases ls with
    | nil => rfl
    | cons l0 lt =>
      have hn := nBelow_scale hc (p0 :: pt) p
      have hg := scaleP_getD c (p0 :: pt) (nBelow (p0 :: pt) p - 1)
      have hb := spreadBody_scale hc.ne' (p0 :: pt) (l0 :: lt) logs (nBelow (p0 :: pt) p) l0
      simp only [scaleP, List.map_cons] at hn hg hb
      simp only [scaleP, List.map_cons, spreadPoint, hn, hg, hb, seg_scale hc.ne', slope_scale hc.ne']

/-- the origin guard commutes with the conversion: `(0, 0)` stays `(0, 0)` -/
theorem spreadPointData_scale {c : α} (hc : 0 < c) (ps ls logs : List α) (p lq lg : α) :
    spreadPointData (scaleP c ps) ls logs (c * p) lq lg = spreadPointData ps ls logs p lq lg := by
  have key : dropOrigin (scaleP c ps) ls = (scaleP c (dropOrigin ps ls).1, (dropOrigin ps ls).2) := by
    unfold scaleP
    match ps, ls with
    | [], _ => rfl
    | [_], _ => rfl
    | _ :: _ :: _, [] => rfl
    | _ :: _ :: _, [_] => rfl
    | p0 :: p1 :: pt, l0 :: l1 :: lt =>
      simp only [dropOrigin, List.map_cons, mul_eq_zero, hc.ne', false_or]
      split <;> rfl
  unfold spreadPointData
  rw [key]
  exact spreadPoint_scale hc _ _ _ _ _ _

/-- the code's interpolation (`loading_at` converts the query back: the same point of the same segment) -/
theorem interpLin_scale {c : α} (hc : 0 < c) (ps ls : List α) (x : α) :
    interpLin (scaleP c ps) ls (c * x) = interpLin ps ls x := by
  simpa [scaleP] using Model.interpLin_scale c 1 hc ps ls x

omit [LinearOrder α] [IsStrictOrderedRing α] in
theorem spreadBody_succ (ps ls logs : List α) (k : ℕ) (hk : 1 ≤ k) (l0 : α) :
    spreadBody ps ls logs (k + 1) l0
      = spreadBody ps ls logs k l0 + seg (ps.getD (k - 1) 0) (ls.getD (k - 1) 0) (ps.getD k 0) (ls.getD k 0) (logs.getD (k - 1) 0) := by
  unfold spreadBody
  obtain ⟨j, rfl⟩ : ∃ j, k = j + 1 := ⟨k - 1, by omega⟩
  simp only [Nat.add_sub_cancel, List.range_succ, List.foldl_append, List.foldl_cons, List.foldl_nil]

omit [IsStrictOrderedRing α] in
/-- Continuity across a knot.  At a query that coincides with the data point number `k` (`k` points are strictly below it), the code's
value — full segments up to point `k-1`, then the "partial" segment from point `k-1` to the query, with `loading_at(p) = ls[k]` and
`ln(p/ps[k-1]) = logs[k-1]` — is the value of the loop run over one more full segment: counting the coinciding point as below or not makes
no difference. -/
theorem spreadPoint_at_knot (p0 l0 : α) (pt lt logs : List α) (p : α) (hk : 1 ≤ nBelow (p0 :: pt) p)
    (hp : p = (p0 :: pt).getD (nBelow (p0 :: pt) p) 0) :
    spreadPoint (p0 :: pt) (l0 :: lt) logs p ((l0 :: lt).getD (nBelow (p0 :: pt) p) 0) (logs.getD (nBelow (p0 :: pt) p - 1) 0)
      = some (spreadBody (p0 :: pt) (l0 :: lt) logs (nBelow (p0 :: pt) p + 1) l0) := by
  have h0 : nBelow (p0 :: pt) p ≠ 0 := by omega
  rw [spreadBody_succ _ _ _ _ hk]
  simp only [spreadPoint, h0, if_false]
  rw [← hp]

end Field

example : 1 ≤ nBelow (α := ℚ) [1, 2, 4] 2 ∧ (2 : ℚ) = ([1, 2, 4] : List ℚ).getD (nBelow (α := ℚ) [1, 2, 4] 2) 0 := by
  norm_num [nBelow, List.filter]

/-! ### witnesses at ℚ -/

/-- a knot strictly below the query that is left out of the count changes the value: data `(1,1), (2,3), (4,4)`, query `3`
(`loading_at 3 = 7/2`), logarithms replaced by the rationals `7/10 ≈ ln 2`, `2/5 ≈ ln(3/2)`, `11/10 ≈ ln 3`: with both knots below the
query the fold gives `1 + seg(1,1,2,3) + seg(2,3,3,7/2) = 18/5`; with the knot `2` skipped (`n_points = 1`) the last segment is the chord from
`(1,1)` straight to the query, `129/40`. -/
theorem miscount_witness :
    spreadPoint (α := ℚ) [1, 2, 4] [1, 3, 4] [7/10, 7/10] 3 (7/2) (2/5) = some (18/5) ∧
    (1 : ℚ) + seg (1 : ℚ) 1 3 (7/2) (11/10) = 129/40 ∧
    (18/5 : ℚ) ≠ 1 + seg (1 : ℚ) 1 3 (7/2) (11/10) := by
  decide +kernel

/-- finding S49-C11c: the loading at the query, `lq`, is an INPUT of the fold — the code reads it through `loading_at` while the data points come
from `loading` — and `spreadPoint_eq_integral` needs it to be the interpolant of THE SAME data at the query (`interpLin ps ls p = some lq`).
With the number another conversion produces (here 100 times smaller: a percentage read as a fraction) the fold is not the integral of the
interpolant: same data and logarithms as in `miscount_witness`, query `3`: `18/5` with `lq = 7/2`, `2907/1000` with `lq = 7/200`. -/
theorem foreign_lq_witness :
    spreadPoint (α := ℚ) [1, 2, 4] [1, 3, 4] [7/10, 7/10] 3 (7/2) (2/5) = some (18/5) ∧
    spreadPoint (α := ℚ) [1, 2, 4] [1, 3, 4] [7/10, 7/10] 3 (7/200) (2/5) = some (2907/1000) ∧
    (18/5 : ℚ) ≠ 2907/1000 := by
  decide +kernel

/-- finding S62-C11a: the fold is a statement about FIELD arithmetic (`spreadPoint_eq_integral` is proved over ℝ, the driver runs at ℚ); the code computes
`loadings[i + 1] - loadings[i]` in the storage type of the loading column, and numpy's unsigned integers are not a field: `4 - 5 = 255` in `UInt8`.
Witness of the finding — pressures `1, 2, 3, 5`, loadings `3, 5, 4, 8`, query `4` (`loading_at 4 = 6`), logarithms replaced by the rationals
`7/10 ≈ ln 2`, `2/5 ≈ ln(3/2)`, `3/10 ≈ ln(4/3)`: the fold is `89/10` (≈ 8.956 with real logarithms); with the difference of the completed segment
`(2,5) → (3,4)` wrapped to `255` (the chord to `(3, 5 + 255)`) it is `601/10` (≈ 57.36, what the code returns for `uint8` columns). -/
theorem unsigned_wrap_witness :
    ((4 : UInt8) - 5).toNat = 255 ∧
    spreadPoint (α := ℚ) [1, 2, 3, 5] [3, 5, 4, 8] [7/10, 2/5, 1/2] 4 6 (3/10) = some (89/10) ∧
    (3 : ℚ) + seg (1 : ℚ) 3 2 5 (7/10) + seg (2 : ℚ) 5 3 (5 + 255) (2/5) + seg (3 : ℚ) 4 4 6 (3/10) = 601/10 ∧
    (89/10 : ℚ) ≠ 601/10 := by
  decide +kernel

/-- a count "up to an absolute tolerance" (`p_k < p - tol` instead of `p_k < p`) -/
def countTol {α : Type} [Field α] [LinearOrder α] (tol : α) (ps : List α) (p : α) : Nat := (ps.filter (· < p - tol)).length

theorem countTol_zero {α : Type} [Field α] [LinearOrder α] (ps : List α) (p : α) : countTol 0 ps p = nBelow ps p := by
  simp [countTol, nBelow]

/-- for `tol > 0` the count is not invariant under a change of unit: the same data and query, in a unit 1000 times larger -/
theorem countTol_not_scale_invariant :
    countTol (α := ℚ) (1/100) [1, 2] (201/100) = 1 ∧ countTol (α := ℚ) (1/100) (scaleP 1000 [1, 2]) (1000 * (201/100)) = 2 ∧
    nBelow (α := ℚ) [1, 2] (201/100) = 2 := by
  refine ⟨?_, ?_, ?_⟩ <;> norm_num [countTol, nBelow, scaleP, List.filter]

/-! ### real logarithms -/

noncomputable section

lemma realLogs_scale {c : ℝ} (hc : c ≠ 0) (ps : List ℝ) : realLogs (scaleP c ps) = realLogs ps := by
  unfold realLogs scaleP
  rw [← List.map_tail, List.zipWith_map]
  congr 1
  funext a b
  rw [mul_div_mul_left _ _ hc]

lemma lastLog_scale {c : ℝ} (hc : 0 < c) (ps : List ℝ) (p : ℝ) : lastLog (scaleP c ps) (c * p) = lastLog ps p := by
  unfold lastLog
  rw [nBelow_scale hc, scaleP_getD, mul_div_mul_left _ _ hc.ne']

/-- C11, unit arguments, the code as a function of `p` alone (real logarithms, the code's own interpolation): the spreading pressure
of the converted data at the converted query is the spreading pressure of the data at the query. -/
theorem spreadFun_scale {c : ℝ} (hc : 0 < c) (ps ls : List ℝ) (p : ℝ) :
    spreadFun (scaleP c ps) ls (c * p) = spreadFun ps ls p := by
  unfold spreadFun
  rw [realLogs_scale hc.ne', lastLog_scale hc, interpLin_scale hc, spreadPoint_scale hc]

/-- 1 bar = 100 kPa -/
example : spreadFun (scaleP 100 [1, 2]) [1, 3] (100 * (3/2)) = spreadFun [1, 2] [1, 3] (3/2) :=
  spreadFun_scale (by norm_num) _ _ _

end

end PgVerif.C11
