/-
C11 — DR / DA: the spreading pressure as an integral over the scaled logarithm `s = (RT/e)·ln p` (finding S49-C11a).

`DR.spreading_pressure` / `DA.spreading_pressure` used `scipy.integrate.quad(loading(x)/x, 0, p)`: for `RT ≪ e` the integrand behaves like
`x^(a-1)`, `a = RT/e`, at the origin and the quadrature returned wrong numbers (with a warning).  The repaired methods compute

    n_m / c · quad(λ s, exp(-(-s)^m), -∞, c·ln p),      c = RT/e = -minus_rt / e          (DR: m = 2)

This file proves that this is the same quantity — the integral of `loading(x)/x` anchored at the origin:

* `n(eᵘ) = n_m · exp(-(-(c·u))^m)`: the integrand of the repaired code is the class's own loading in the new variable (generated
  `DA_loading`, `DR_loading`);
* for `0 < a ≤ b`: `∫ₐᵇ n(x)/x dx = n_m/c · ∫_{c ln a}^{c ln b} exp(-(-s)^m) ds` (change of variables `x = eᵘ` of
  `Origin0.integral_div_eq_integral_comp_exp`, then `s = c·u`);
* for `m ≥ 1` the new integrand is bounded by `e·eˢ` on `s ≤ 0`, hence integrable down to `-∞`: the improper integral the code asks
  `quad` for exists (the old integrand `n(x)/x` is unbounded at 0 for `a < 1`);
* for `0 < p ≤ 1`: `∫ₐᵖ n(x)/x dx → n_m/c · ∫_{-∞}^{c ln p} exp(-(-s)^m) ds` as `a → 0⁺`: the value of the repaired code IS the integral
  from the origin (the limit that `anchored_primitive_unique` shows to be the only anchored primitive); it is non-negative and
  non-decreasing in `p`.
-/
import Mathlib.Analysis.SpecialFunctions.Integrals.Basic
import Mathlib.Analysis.SpecialFunctions.ImproperIntegrals
import Mathlib.Analysis.SpecialFunctions.Pow.Continuity
import Mathlib.MeasureTheory.Integral.IntegralEqImproper
import Mathlib.Tactic
import PgVerif.Tie.Models
import PgVerif.Props.C11.Origin0

namespace PgVerif.C11
open PgVerif.Gen.R Filter Topology MeasureTheory

/-- the integrand of the repaired code, `numpy.exp(-(-s)**m)` -/
noncomputable def daKernel (m s : ℝ) : ℝ := Real.exp (-((-s) ^ m))

/-- the DA loading at `p = eᵘ` in the variable `s = c·u`, `c = RT/e = -minus_rt/e` -/
theorem da_loading_comp_exp (nm e m mrt u : ℝ) :
    DA_loading nm e m mrt (Real.exp u) = nm * daKernel m (-mrt / e * u) := by
  unfold DA_loading daKernel
  simp only [Real.rpow_eq_pow, Real.log_exp]
  have h : mrt * u / e = -(-mrt / e * u) := by ring
  rw [h]

theorem dr_loading_comp_exp (nm e mrt u : ℝ) :
    DR_loading nm e mrt (Real.exp u) = nm * daKernel 2 (-mrt / e * u) := by
  unfold DR_loading daKernel
  simp only [Real.log_exp]
  have h : mrt * u / e = -(-mrt / e * u) := by ring
  rw [h, Real.rpow_two]

lemma daKernel_continuous {m : ℝ} (hm : 0 ≤ m) : Continuous (daKernel m) := by
  unfold daKernel
  exact Real.continuous_exp.comp ((Real.continuous_rpow_const hm).comp continuous_neg).neg

lemma daKernel_pos (m s : ℝ) : 0 < daKernel m s := Real.exp_pos _

lemma spread_logscale_of_comp_exp {n k : ℝ → ℝ} {nm c a b : ℝ} (hk : Continuous k) (hn : ∀ u, n (Real.exp u) = nm * k (c * u))
    (hc : c ≠ 0) (ha : 0 < a) (hab : a ≤ b) :
    ∫ x in a..b, n x / x = nm / c * ∫ s in c * Real.log a..c * Real.log b, k s := by
  have hcont : ContinuousOn n (Set.Icc a b) := by
    have heq : Set.EqOn n (fun x => nm * k (c * Real.log x)) (Set.Icc a b) := by
      intro x hx
      have hx0 : 0 < x := ha.trans_le hx.1
      have := hn (Real.log x)
      rwa [Real.exp_log hx0] at this
    apply ContinuousOn.congr _ heq
    apply ContinuousOn.mul continuousOn_const
    apply hk.comp_continuousOn
    apply ContinuousOn.mul continuousOn_const
    apply Real.continuousOn_log.mono
    intro x hx
    exact (ha.trans_le hx.1).ne'
  rw [integral_div_eq_integral_comp_exp n a b ha hab hcont]
  simp_rw [hn]
  rw [intervalIntegral.integral_const_mul, intervalIntegral.integral_comp_mul_left (fun s => k s) hc, smul_eq_mul]
  field_simp

theorem da_spread_logscale (nm e m mrt a b : ℝ) (hm : 0 ≤ m) (hc : -mrt / e ≠ 0) (ha : 0 < a) (hab : a ≤ b) :
    ∫ x in a..b, DA_loading nm e m mrt x / x
      = nm / (-mrt / e) * ∫ s in -mrt / e * Real.log a..-mrt / e * Real.log b, daKernel m s :=
  spread_logscale_of_comp_exp (daKernel_continuous hm) (da_loading_comp_exp nm e m mrt) hc ha hab

theorem dr_spread_logscale (nm e mrt a b : ℝ) (hc : -mrt / e ≠ 0) (ha : 0 < a) (hab : a ≤ b) :
    ∫ x in a..b, DR_loading nm e mrt x / x
      = nm / (-mrt / e) * ∫ s in -mrt / e * Real.log a..-mrt / e * Real.log b, daKernel 2 s :=
  spread_logscale_of_comp_exp (daKernel_continuous (by norm_num)) (dr_loading_comp_exp nm e mrt) hc ha hab

/-- `RT = 1000`, `e = 4000` (`c = 1/4`), `m = 3`, between `p = 1/2` and `p = 1` -/
example : ∫ x in (1/2:ℝ)..1, DA_loading 10 4000 3 (-1000) x / x
    = 10 / (-(-1000) / 4000) * ∫ s in -(-1000) / 4000 * Real.log (1/2)..-(-1000) / 4000 * Real.log 1, daKernel 3 s :=
  da_spread_logscale 10 4000 3 (-1000) (1/2) 1 (by norm_num) (by norm_num) (by norm_num) (by norm_num)

/-! ### the improper integral exists and is the integral from the origin -/

/-- for `m ≥ 1` and `s ≤ 0` the integrand is at most `e¹⁺ˢ` (`t^m ≥ t - 1` for `t ≥ 0`) -/
theorem daKernel_le {m s : ℝ} (hm : 1 ≤ m) (hs : s ≤ 0) : daKernel m s ≤ Real.exp (1 + s) := by
  unfold daKernel
  apply Real.exp_le_exp.mpr
  have ht : 0 ≤ -s := by linarith
  have key : -s - 1 ≤ (-s) ^ m := by
    by_cases h1 : 1 ≤ -s
    · have := Real.rpow_le_rpow_of_exponent_le h1 hm
      rw [Real.rpow_one] at this
      linarith
    · have := Real.rpow_nonneg ht m
      linarith
  linarith

theorem daKernel_integrableOn {m b : ℝ} (hm : 1 ≤ m) (hb : b ≤ 0) : IntegrableOn (daKernel m) (Set.Iic b) := by
  have hbound : IntegrableOn (fun s => Real.exp 1 * Real.exp s) (Set.Iic b) := (integrableOn_exp_Iic b).const_mul _
  refine Integrable.mono' hbound ((daKernel_continuous (by linarith)).aestronglyMeasurable.restrict) ?_
  refine (ae_restrict_iff' measurableSet_Iic).mpr (Eventually.of_forall fun s hs => ?_)
  rw [Real.norm_of_nonneg (daKernel_pos m s).le, ← Real.exp_add]
  exact daKernel_le hm (le_trans hs hb)

lemma spread_from_origin_of_logscale {n k : ℝ → ℝ} {nm c p : ℝ} (hc : 0 < c) (hp : 0 < p)
    (hint : IntegrableOn k (Set.Iic (c * Real.log p)))
    (hinc : ∀ a, 0 < a → a ≤ p → ∫ x in a..p, n x / x = nm / c * ∫ s in c * Real.log a..c * Real.log p, k s) :
    Tendsto (fun a => ∫ x in a..p, n x / x) (𝓝[>] 0) (𝓝 (nm / c * ∫ s in Set.Iic (c * Real.log p), k s)) := by
  have hlim : Tendsto (fun a => c * Real.log a) (𝓝[>] 0) atBot :=
    Real.tendsto_log_nhdsGT_zero.const_mul_atBot hc
  have h1 := (intervalIntegral_tendsto_integral_Iic (c * Real.log p) hint hlim).const_mul (nm / c)
  refine h1.congr' ?_
  filter_upwards [Ioc_mem_nhdsGT hp] with a ha
  exact (hinc a ha.1 ha.2).symm

/-- DA (`m ≥ 1`, `c = RT/e > 0`, relative pressure `0 < p ≤ 1`): the quantity the repaired code computes is the integral of `n(x)/x`
from the origin -/
theorem da_spread_from_origin (nm e m mrt p : ℝ) (hm : 1 ≤ m) (hc : 0 < -mrt / e) (hp : 0 < p) (hp1 : p ≤ 1) :
    Tendsto (fun a => ∫ x in a..p, DA_loading nm e m mrt x / x) (𝓝[>] 0)
      (𝓝 (nm / (-mrt / e) * ∫ s in Set.Iic (-mrt / e * Real.log p), daKernel m s)) := by
  apply spread_from_origin_of_logscale hc hp
  · apply daKernel_integrableOn hm
    exact mul_nonpos_of_nonneg_of_nonpos hc.le (Real.log_nonpos hp.le hp1)
  · intro a ha hap
    exact da_spread_logscale nm e m mrt a p (by linarith) hc.ne' ha hap

theorem dr_spread_from_origin (nm e mrt p : ℝ) (hc : 0 < -mrt / e) (hp : 0 < p) (hp1 : p ≤ 1) :
    Tendsto (fun a => ∫ x in a..p, DR_loading nm e mrt x / x) (𝓝[>] 0)
      (𝓝 (nm / (-mrt / e) * ∫ s in Set.Iic (-mrt / e * Real.log p), daKernel 2 s)) := by
  apply spread_from_origin_of_logscale hc hp
  · apply daKernel_integrableOn (by norm_num)
    exact mul_nonpos_of_nonneg_of_nonpos hc.le (Real.log_nonpos hp.le hp1)
  · intro a ha hap
    exact dr_spread_logscale nm e mrt a p hc.ne' ha hap

/-- N2 at 77.355 K in round numbers, `RT = 643`, `e = 22000` (`c ≈ 0.029`: the region of finding S49-C11a), `m = 3`, `p = 1/2` -/
example : Tendsto (fun a => ∫ x in a..(1/2:ℝ), DA_loading 10 22000 3 (-643) x / x) (𝓝[>] 0)
    (𝓝 (10 / (-(-643) / 22000) * ∫ s in Set.Iic (-(-643) / 22000 * Real.log (1/2)), daKernel 3 s)) :=
  da_spread_from_origin 10 22000 3 (-643) (1/2) (by norm_num) (by norm_num) (by norm_num) (by norm_num)

theorem da_spread_from_origin_nonneg (nm c m b : ℝ) (hnm : 0 ≤ nm) (hc : 0 < c) :
    0 ≤ nm / c * ∫ s in Set.Iic b, daKernel m s :=
  mul_nonneg (div_nonneg hnm hc.le) (setIntegral_nonneg measurableSet_Iic fun s _ => (daKernel_pos m s).le)

/-- the value is non-decreasing in the pressure: a larger upper limit `c·ln p` adds the integral of a positive function -/
theorem da_spread_from_origin_mono (nm c m b₁ b₂ : ℝ) (hnm : 0 ≤ nm) (hc : 0 < c) (hm : 1 ≤ m) (hb : b₁ ≤ b₂) (hb2 : b₂ ≤ 0) :
    nm / c * ∫ s in Set.Iic b₁, daKernel m s ≤ nm / c * ∫ s in Set.Iic b₂, daKernel m s := by
  apply mul_le_mul_of_nonneg_left _ (div_nonneg hnm hc.le)
  apply setIntegral_mono_set (daKernel_integrableOn hm hb2)
  · exact Eventually.of_forall fun s => (daKernel_pos m s).le
  · exact (Set.Iic_subset_Iic.mpr hb).eventuallyLE

end PgVerif.C11
