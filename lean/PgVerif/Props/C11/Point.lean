/-
C11 for point isotherms: the value computed by `PointIsotherm.spreading_pressure_at` (model
`PgVerif.Model.spreadPoint`, instantiated at ℝ with real logarithms `realLogs`, `lastLog`) is the integral from 0
to p of q(x)/x, where q = `qInterp` is the piecewise-linear interpolant of the data continued to the origin by
Henry's law.  Setting everywhere: `ps ≠ []`, `0 < ps.head`, `ps.length = ls.length`, strictly increasing pressures
`ps.Pairwise (· < ·)`; `lq` is the code's own linear interpolation `interpLin ps ls p = some lq` (needed only when
`p` is above the first knot; it implies `p ≤ ps.getLast`, see `interpLin_spec`).
The proof: one segment of the fold is the integral of its chord over `x` (`seg_eq_integral`), the Henry part is `ls[0]`
(`henry_piece`); on sorted knots the fold's count `nBelow` is the index of the segment that contains the query
(`lt_nBelow_iff`); the invariant of the loop (`qInterp_integral_knot`: the integral up to knot `k` is the loop over `k`
segments) and the last, partial segment give `spreadPoint_eq_integral`.  `spreadPoint_eq_sum` states the same value as an
explicit sum of integrals over the segments; nothing else rests on it.
The last part is about `spreadFun`, the code as a function of `p` alone (`loading_at` taken from the code's own interpolation):
zero at 0, additive over pressure intervals, monotone for non-negative loadings, `p Π'(p) = q(p)` away from the knots.
`q x / x` at `x = 0` is the totalised `0/0 = 0`; a single point does not affect the integrals, and every statement
that divides by a pressure carries the guard `0 < ps.head` (all knots positive).
-/
import Mathlib.Analysis.SpecialFunctions.Integrals.Basic
import Mathlib.Analysis.SpecialFunctions.Log.Deriv
import Mathlib.Tactic
import PgVerif.Model.SpreadPoint

namespace PgVerif.C11
open PgVerif.Model MeasureTheory

noncomputable section

/-- the chord through `(a, la)` and `(b, lb)` -/
def chord (a la b lb x : ℝ) : ℝ := la + (lb - la) / (b - a) * (x - a)

/-- the logarithm inputs of `spreadPoint`, real logs: `logs[i] = ln(ps[i+1]/ps[i])` -/
def realLogs (ps : List ℝ) : List ℝ := List.zipWith (fun a b => Real.log (b / a)) ps ps.tail

/-- `lgLast = ln(p / ps[k-1])`, `k = nBelow ps p` -/
def lastLog (ps : List ℝ) (p : ℝ) : ℝ := Real.log (p / ps.getD (nBelow ps p - 1) 0)

/-- Henry-continued piecewise-linear interpolant: `ls[0]/ps[0]*x` up to the first knot, after that the chord
through the two knots around `x` (`j = #{knots < x} - 1`, so `ps[j] < x ≤ ps[j+1]` for sorted knots). -/
def qInterp (ps ls : List ℝ) (x : ℝ) : ℝ :=
  if x ≤ ps.getD 0 0 then ls.getD 0 0 / ps.getD 0 0 * x
  else chord (ps.getD (nBelow ps x - 1) 0) (ls.getD (nBelow ps x - 1) 0)
      (ps.getD (nBelow ps x - 1 + 1) 0) (ls.getD (nBelow ps x - 1 + 1) 0) x

lemma seg_integral (s c a b : ℝ) (ha : 0 < a) (hab : a ≤ b) :
    ∫ x in a..b, (s * x + c) / x = s * (b - a) + c * Real.log (b / a) := by
  have hderiv : ∀ x ∈ Set.uIcc a b, HasDerivAt (fun x => s * x + c * Real.log x) ((s * x + c) / x) x := by
    intro x hx
    rw [Set.uIcc_of_le hab] at hx
    have hx0 : x ≠ 0 := (lt_of_lt_of_le ha hx.1).ne'
    refine (((hasDerivAt_id x).const_mul s).add ((Real.hasDerivAt_log hx0).const_mul c)).congr_deriv ?_
    rw [mul_one, add_div, mul_div_cancel_right₀ _ hx0, div_eq_mul_inv]
  have hint : IntervalIntegrable (fun x => (s * x + c) / x) volume a b := by
    apply ContinuousOn.intervalIntegrable
    rw [Set.uIcc_of_le hab]
    exact ((continuousOn_const.mul continuousOn_id).add continuousOn_const).div continuousOn_id
      fun x hx => (lt_of_lt_of_le ha hx.1).ne'
  rw [intervalIntegral.integral_eq_sub_of_hasDerivAt hderiv hint]
  rw [Real.log_div (lt_of_lt_of_le ha hab).ne' ha.ne']
  ring

lemma chord_div_intervalIntegrable (a la b lb s t : ℝ) (hs : 0 < s) (hst : s ≤ t) :
    IntervalIntegrable (fun x => chord a la b lb x / x) volume s t := by
  apply ContinuousOn.intervalIntegrable
  rw [Set.uIcc_of_le hst]
  unfold chord
  apply ContinuousOn.div (by fun_prop) continuousOn_id
  intro x hx; exact (lt_of_lt_of_le hs hx.1).ne'

lemma piece_congr {f g : ℝ → ℝ} {a b : ℝ} (hab : a ≤ b) (heq : ∀ x, a < x → x ≤ b → f x = g x)
    (hg : IntervalIntegrable g volume a b) :
    IntervalIntegrable f volume a b ∧ ∫ x in a..b, f x = ∫ x in a..b, g x := by
  have hE : Set.EqOn g f (Set.uIoc a b) := by
    intro x hx
    rw [Set.uIoc_of_le hab] at hx
    exact (heq x hx.1 hx.2).symm
  refine ⟨hg.congr hE, ?_⟩
  apply intervalIntegral.integral_congr_ae
  refine Filter.Eventually.of_forall ?_
  intro x hx
  exact (hE hx).symm


lemma gd_eq {ps : List ℝ} {i : ℕ} (hi : i < ps.length) : ps.getD i 0 = ps[i] := by
  simp [List.getD_eq_getElem?_getD, hi]

lemma gd_mem {ps : List ℝ} {i : ℕ} (hi : i < ps.length) : ps.getD i 0 ∈ ps := by
  rw [gd_eq hi]; exact List.getElem_mem hi

lemma gd_lt {ps : List ℝ} (hs : ps.Pairwise (· < ·)) {i j : ℕ} (hij : i < j) (hj : j < ps.length) :
    ps.getD i 0 < ps.getD j 0 := by
  rw [gd_eq hj, gd_eq (hij.trans hj)]
  exact List.pairwise_iff_getElem.mp hs i j (hij.trans hj) hj hij

lemma gd_le {ps : List ℝ} (hs : ps.Pairwise (· < ·)) {i j : ℕ} (hij : i ≤ j) (hj : j < ps.length) :
    ps.getD i 0 ≤ ps.getD j 0 := by
  rcases hij.lt_or_eq with h | h
  · exact (gd_lt hs h hj).le
  · rw [h]

lemma gd_pos {ps : List ℝ} (hs : ps.Pairwise (· < ·)) (h0 : 0 < ps.getD 0 0) {i : ℕ} (hi : i < ps.length) :
    0 < ps.getD i 0 :=
  lt_of_lt_of_le h0 (gd_le hs (Nat.zero_le i) hi)

lemma nBelow_le_length (ps : List ℝ) (p : ℝ) : nBelow ps p ≤ ps.length :=
  List.length_filter_le _ _

lemma nBelow_cons_lt {a p : ℝ} (t : List ℝ) (h : a < p) : nBelow (a :: t) p = nBelow t p + 1 := by
  simp [nBelow, h]

lemma nBelow_cons_not_lt {a p : ℝ} (t : List ℝ) (h : ¬ a < p) : nBelow (a :: t) p = nBelow t p := by
  simp [nBelow, h]

lemma nBelow_eq_zero_of_le_head {a p : ℝ} {t : List ℝ} (hs : (a :: t).Pairwise (· < ·)) (h : p ≤ a) :
    nBelow (a :: t) p = 0 := by
  simp only [nBelow, List.length_eq_zero_iff, List.filter_eq_nil_iff, decide_eq_true_eq, not_lt]
  intro x hx
  rcases List.mem_cons.mp hx with rfl | hx
  · exact h
  · exact h.trans ((List.pairwise_cons.mp hs).1 x hx).le

lemma nBelow_ne_zero {ps : List ℝ} (h0 : 0 < ps.getD 0 0) {p : ℝ} (hp : ps.getD 0 0 < p) : nBelow ps p ≠ 0 := by
  cases ps with
  | nil => simp at h0
  | cons a t => rw [nBelow_cons_lt t (by simpa using hp)]; omega

lemma foldl_range_add (f : ℕ → ℝ) (l0 : ℝ) (n : ℕ) :
    (List.range n).foldl (fun area i => area + f i) l0 = l0 + ∑ i ∈ Finset.range n, f i := by
  induction n with
  | zero => simp
  | succ n ih => rw [List.range_succ, List.foldl_append, ih, Finset.sum_range_succ]; simp [add_assoc]

lemma realLogs_getD (ps : List ℝ) {i : ℕ} (hi : i + 1 < ps.length) :
    (realLogs ps).getD i 0 = Real.log (ps.getD (i + 1) 0 / ps.getD i 0) := by
  have hlen : i < (realLogs ps).length := by
    simp only [realLogs, List.length_zipWith, List.length_tail]; omega
  rw [gd_eq hlen, gd_eq hi, gd_eq (Nat.lt_of_succ_lt hi)]
  simp [realLogs]

lemma lt_nBelow_iff {ps : List ℝ} (hs : ps.Pairwise (· < ·)) {p : ℝ} {i : ℕ} (hi : i < ps.length) :
    i < nBelow ps p ↔ ps.getD i 0 < p := by
  induction ps generalizing i with
  | nil => simp at hi
  | cons a t ih =>
    by_cases ha : a < p
    · rw [nBelow_cons_lt t ha]
      cases i with
      | zero => exact iff_of_true (Nat.succ_pos _) ha
      | succ i' => exact Nat.succ_lt_succ_iff.trans (ih (List.pairwise_cons.mp hs).2 (Nat.lt_of_succ_lt_succ hi))
    · rw [nBelow_eq_zero_of_le_head hs (not_lt.mp ha)]
      exact iff_of_false (Nat.not_lt_zero i) (not_lt.mpr ((not_lt.mp ha).trans (gd_le hs (Nat.zero_le i) hi)))

lemma gd_lt_of_lt_nBelow {ps : List ℝ} (hs : ps.Pairwise (· < ·)) {p : ℝ} {i : ℕ} (hi : i < nBelow ps p) :
    ps.getD i 0 < p :=
  (lt_nBelow_iff hs (hi.trans_le (nBelow_le_length ps p))).mp hi

lemma le_gd_of_nBelow_le {ps : List ℝ} (hs : ps.Pairwise (· < ·)) {p : ℝ} {i : ℕ} (hk : nBelow ps p ≤ i)
    (hi : i < ps.length) : p ≤ ps.getD i 0 :=
  not_lt.mp fun h => Nat.not_lt.mpr hk ((lt_nBelow_iff hs hi).mpr h)

theorem nBelow_of_sorted {ps : List ℝ} (hs : ps.Pairwise (· < ·)) {p : ℝ} {j : ℕ} (hj : j < ps.length)
    (hlo : ps.getD j 0 < p) (hhi : j + 1 < ps.length → p ≤ ps.getD (j + 1) 0) :
    nBelow ps p = j + 1 := by
  refine le_antisymm (not_lt.mp fun h1 => ?_) ((lt_nBelow_iff hs hj).mpr hlo)
  have h2 : j + 1 < ps.length := h1.trans_le (nBelow_le_length ps p)
  exact absurd (hhi h2) (not_le.mpr ((lt_nBelow_iff hs h2).mp h1))

/-! ### the interpolant `qInterp` on its pieces -/

lemma head_eq_gd {ps : List ℝ} (hne : ps ≠ []) : ps.head hne = ps.getD 0 0 := by
  cases ps with
  | nil => exact absurd rfl hne
  | cons a t => simp

lemma qInterp_below (ps ls : List ℝ) {x : ℝ} (hx : x ≤ ps.getD 0 0) :
    qInterp ps ls x = ls.getD 0 0 / ps.getD 0 0 * x := if_pos hx

lemma qInterp_segment_Ioc {ps : List ℝ} (ls : List ℝ) (hs : ps.Pairwise (· < ·)) {i : ℕ} (hi : i + 1 < ps.length)
    {x : ℝ} (hlo : ps.getD i 0 < x) (hhi : x ≤ ps.getD (i + 1) 0) :
    qInterp ps ls x = chord (ps.getD i 0) (ls.getD i 0) (ps.getD (i + 1) 0) (ls.getD (i + 1) 0) x := by
  have h0 : ¬ x ≤ ps.getD 0 0 :=
    not_le.mpr (lt_of_le_of_lt (gd_le hs (Nat.zero_le i) (Nat.lt_of_succ_lt hi)) hlo)
  have hk : nBelow ps x = i + 1 := nBelow_of_sorted hs (Nat.lt_of_succ_lt hi) hlo (fun _ => hhi)
  unfold qInterp
  rw [if_neg h0, hk, Nat.add_sub_cancel]

/-- the chord from `(a, la)` to a point of the chord through `(b, lb)` is that chord -/
lemma chord_through {a p : ℝ} (la b lb : ℝ) (hp : p - a ≠ 0) (x : ℝ) :
    chord a la p (chord a la b lb p) x = chord a la b lb x := by
  unfold chord
  rw [add_sub_cancel_left, mul_div_cancel_right₀ _ hp]

lemma chord_left (a la b lb : ℝ) : chord a la b lb a = la := by simp [chord]

lemma chord_right {a b : ℝ} (la lb : ℝ) (hab : a ≠ b) : chord a la b lb b = lb := by
  have : b - a ≠ 0 := sub_ne_zero.mpr hab.symm
  unfold chord; field_simp; ring

/-- `q` is the chord through the neighbouring knots on every closed segment `[ps[i], ps[i+1]]`
(so `q ps[i] = ls[i]` at every knot) -/
lemma qInterp_segment_Icc {ps : List ℝ} (ls : List ℝ) (hs : ps.Pairwise (· < ·)) (h0 : 0 < ps.getD 0 0) {i : ℕ}
    (hi : i + 1 < ps.length) {x : ℝ} (hlo : ps.getD i 0 ≤ x) (hhi : x ≤ ps.getD (i + 1) 0) :
    qInterp ps ls x = chord (ps.getD i 0) (ls.getD i 0) (ps.getD (i + 1) 0) (ls.getD (i + 1) 0) x := by
  rcases hlo.lt_or_eq with h | h
  · exact qInterp_segment_Ioc ls hs hi h hhi
  · rw [← h, chord_left]
    cases i with
    | zero => rw [qInterp_below ps ls le_rfl]; field_simp
    | succ i' =>
      have hlt := gd_lt hs (Nat.lt_succ_self i') (Nat.lt_of_succ_lt hi)
      rw [qInterp_segment_Ioc ls hs (Nat.lt_of_succ_lt hi) hlt le_rfl, chord_right _ _ hlt.ne]

lemma qInterp_piece {ps : List ℝ} (ls : List ℝ) (hs : ps.Pairwise (· < ·)) (h0 : 0 < ps.getD 0 0) {i : ℕ}
    (hi : i + 1 < ps.length) {t : ℝ} (hlo : ps.getD i 0 ≤ t) (hhi : t ≤ ps.getD (i + 1) 0) :
    IntervalIntegrable (fun x => qInterp ps ls x / x) volume (ps.getD i 0) t ∧
    ∫ x in ps.getD i 0..t, qInterp ps ls x / x =
      ∫ x in ps.getD i 0..t, chord (ps.getD i 0) (ls.getD i 0) (ps.getD (i + 1) 0) (ls.getD (i + 1) 0) x / x := by
  apply piece_congr hlo
  · intro x hx1 hx2
    rw [qInterp_segment_Ioc ls hs hi hx1 (hx2.trans hhi)]
  · exact chord_div_intervalIntegrable _ _ _ _ _ _ (gd_pos hs h0 (Nat.lt_of_succ_lt hi)) hlo

/-- a function that is `k x` on `(0, t]`: `f x / x` is the constant `k` there (at `x = 0` the totalised `0/0`, a single point) -/
lemma henry_piece {f : ℝ → ℝ} {k t : ℝ} (ht0 : 0 ≤ t) (h : ∀ x, 0 < x → x ≤ t → f x = k * x) :
    IntervalIntegrable (fun x => f x / x) volume 0 t ∧ ∫ x in (0:ℝ)..t, f x / x = k * t := by
  have H := piece_congr (f := fun x => f x / x) (g := fun _ => k) ht0
    (fun x hx hxt => by rw [h x hx hxt, mul_div_cancel_right₀ k hx.ne']) intervalIntegrable_const
  refine ⟨H.1, ?_⟩
  rw [H.2, intervalIntegral.integral_const, sub_zero, smul_eq_mul, mul_comm]

lemma qInterp_henry_piece (ps ls : List ℝ) {t : ℝ} (ht0 : 0 ≤ t) (ht : t ≤ ps.getD 0 0) :
    IntervalIntegrable (fun x => qInterp ps ls x / x) volume 0 t ∧
    ∫ x in (0:ℝ)..t, qInterp ps ls x / x = ls.getD 0 0 / ps.getD 0 0 * t :=
  henry_piece ht0 fun _ _ hxt => qInterp_below ps ls (hxt.trans ht)

theorem seg_eq_integral (a la b lb : ℝ) (ha : 0 < a) (hab : a < b) :
    seg a la b lb (Real.log (b / a)) = ∫ x in a..b, chord a la b lb x / x := by
  have e : ∀ x, chord a la b lb x / x = ((lb - la) / (b - a) * x + (la - (lb - la) / (b - a) * a)) / x := by
    intro x; unfold chord; ring
  simp only [e]
  rw [seg_integral _ _ a b ha hab.le]
  unfold seg
  ring

/-- the Henry part: `∫₀ᵖ (l0/p0·x)/x dx = l0/p0·p` (the integrand is `l0/p0` except at `x = 0`) -/
theorem henry_segment (l0 p0 p : ℝ) (_hp0 : 0 < p0) (hp : 0 ≤ p) :
    l0 / p0 * p = ∫ x in (0:ℝ)..p, (l0 / p0 * x) / x :=
  (henry_piece hp fun _ _ _ => rfl).2.symm

theorem henry_segment_full (l0 p0 : ℝ) (hp0 : 0 < p0) :
    l0 = ∫ x in (0:ℝ)..p0, (l0 / p0 * x) / x := by
  rw [← henry_segment l0 p0 p0 hp0 hp0.le]
  field_simp

lemma spreadPoint_eq (ps ls logs : List ℝ) (p lq lg : ℝ) (hne : ps ≠ []) (hlen : ps.length = ls.length) :
    spreadPoint ps ls logs p lq lg = some (if nBelow ps p = 0 then ls.getD 0 0 / ps.getD 0 0 * p else
      spreadBody ps ls logs (nBelow ps p) (ls.getD 0 0) +
        seg (ps.getD (nBelow ps p - 1) 0) (ls.getD (nBelow ps p - 1) 0) p lq lg) := by
  rcases ps with _ | ⟨a, t⟩
  · exact absurd rfl hne
  rcases ls with _ | ⟨l0, lt⟩
  · simp at hlen
  simp only [spreadPoint, List.getD_cons_zero]
  split_ifs <;> rfl

theorem spreadPoint_below_first (ps ls logs : List ℝ) (p lq lgLast : ℝ) (hne : ps ≠ [])
    (_hpos : 0 < ps.head hne) (hlen : ps.length = ls.length) (hs : ps.Pairwise (· < ·)) (hp0 : 0 ≤ p) (hp : p ≤ ps.head hne) :
    spreadPoint ps ls logs p lq lgLast = some (∫ x in (0:ℝ)..p, qInterp ps ls x / x) ∧
    spreadPoint ps ls logs p lq lgLast = some (ls.getD 0 0 / ps.head hne * p) := by
  rw [head_eq_gd hne] at hp ⊢
  have hk : nBelow ps p = 0 := Nat.eq_zero_of_not_pos fun h => absurd (gd_lt_of_lt_nBelow hs h) (not_lt.mpr hp)
  rw [(qInterp_henry_piece ps ls hp0 hp).2, spreadPoint_eq ps ls logs p lq lgLast hne hlen, if_pos hk]
  exact ⟨rfl, rfl⟩

/-- above the first knot the code's value is `ls[0]` plus the integrals of chord/x over the full segments below
`p` plus the integral over the last partial segment, whose chord goes to `(p, lq)` -/
theorem spreadPoint_eq_sum (ps ls : List ℝ) (p lq : ℝ) (hne : ps ≠ []) (hpos : 0 < ps.head hne)
    (hlen : ps.length = ls.length) (hs : ps.Pairwise (· < ·)) (hp : ps.head hne < p) :
    spreadPoint ps ls (realLogs ps) p lq (lastLog ps p) =
      some (ls.getD 0 0
        + (∑ i ∈ Finset.range (nBelow ps p - 1), ∫ x in ps.getD i 0..ps.getD (i + 1) 0,
            chord (ps.getD i 0) (ls.getD i 0) (ps.getD (i + 1) 0) (ls.getD (i + 1) 0) x / x)
        + ∫ x in ps.getD (nBelow ps p - 1) 0..p,
            chord (ps.getD (nBelow ps p - 1) 0) (ls.getD (nBelow ps p - 1) 0) p lq x / x) := by
  rw [head_eq_gd hne] at hp hpos
  have hkpos := nBelow_ne_zero hpos hp
  have hkle := nBelow_le_length ps p
  -- the code's value is `ls[0] + Σ seg + seg`; every `seg` is the integral of its chord
  rw [spreadPoint_eq ps ls _ p lq _ hne hlen, if_neg hkpos]
  simp only [spreadBody, foldl_range_add, lastLog]
  refine congrArg some ?_
  congr 1
  · congr 1
    refine Finset.sum_congr rfl fun i hi => ?_
    have hi' : i + 1 < ps.length := by have := Finset.mem_range.mp hi; omega
    rw [realLogs_getD _ hi']
    exact seg_eq_integral _ _ _ _ (gd_pos hs hpos (Nat.lt_of_succ_lt hi')) (gd_lt hs (Nat.lt_succ_self i) hi')
  · exact seg_eq_integral _ _ _ _ (gd_pos hs hpos (by omega)) (gd_lt_of_lt_nBelow hs (by omega))

lemma exists_segment {ps : List ℝ} (hs : ps.Pairwise (· < ·)) (h0 : 0 < ps.getD 0 0) {p : ℝ} (hp : ps.getD 0 0 < p)
    (hk : nBelow ps p < ps.length) :
    ∃ j, nBelow ps p = j + 1 ∧ j + 1 < ps.length ∧ ps.getD j 0 < p ∧ p ≤ ps.getD (j + 1) 0 := by
  obtain ⟨j, hj⟩ := Nat.exists_eq_succ_of_ne_zero (nBelow_ne_zero h0 hp)
  exact ⟨j, hj, by omega, gd_lt_of_lt_nBelow hs (by omega), le_gd_of_nBelow_le hs (by omega) (by omega)⟩

/-- the invariant of the code's loop: the integral of `q/x` from 0 to the knot `ps[k]` is the value of the loop run over the
first `k` segments -/
lemma qInterp_integral_knot {ps : List ℝ} (ls : List ℝ) (hs : ps.Pairwise (· < ·)) (h0 : 0 < ps.getD 0 0) {k : ℕ}
    (hk : k < ps.length) :
    IntervalIntegrable (fun x => qInterp ps ls x / x) volume 0 (ps.getD k 0) ∧
    ∫ x in (0:ℝ)..ps.getD k 0, qInterp ps ls x / x = spreadBody ps ls (realLogs ps) (k + 1) (ls.getD 0 0) := by
  induction k with
  | zero =>
    have H := qInterp_henry_piece ps ls h0.le le_rfl
    refine ⟨H.1, ?_⟩
    rw [H.2, div_mul_cancel₀ _ h0.ne']
    rfl
  | succ k ih =>
    obtain ⟨I, E⟩ := ih (Nat.lt_of_succ_lt hk)
    obtain ⟨I', E'⟩ := qInterp_piece ls hs h0 hk (gd_le hs (Nat.le_succ k) hk) le_rfl
    refine ⟨I.trans I', ?_⟩
    rw [← intervalIntegral.integral_add_adjacent_intervals I I', E, E',
      ← seg_eq_integral _ _ _ _ (gd_pos hs h0 (Nat.lt_of_succ_lt hk)) (gd_lt hs (Nat.lt_succ_self k) hk),
      ← realLogs_getD ps hk]
    simp only [spreadBody, Nat.add_sub_cancel, List.range_succ, List.foldl_append, List.foldl_cons, List.foldl_nil]

lemma qInterp_cons_of_lt {a la b lb x : ℝ} (t lt : List ℝ) (ha : a < x) (hb : b < x) :
    qInterp (a :: b :: t) (la :: lb :: lt) x = qInterp (b :: t) (lb :: lt) x := by
  obtain ⟨m, hm⟩ : ∃ m, nBelow (b :: t) x = m + 1 :=
    Nat.exists_eq_succ_of_ne_zero (by rw [nBelow_cons_lt t hb]; exact Nat.succ_ne_zero _)
  unfold qInterp
  rw [if_neg (not_le.mpr ha : ¬ x ≤ (a :: b :: t).getD 0 0), if_neg (not_le.mpr hb : ¬ x ≤ (b :: t).getD 0 0),
    nBelow_cons_lt _ ha, hm]
  simp only [Nat.add_sub_cancel, List.getD_cons_succ]

/-- the code's linear interpolation (`interp1d`) above the first knot: inside the data range it is `q`, beyond the last
knot it fails -/
lemma interpLin_eq {ps ls : List ℝ} (hlen : ps.length = ls.length) (hs : ps.Pairwise (· < ·)) {p : ℝ}
    (hp : ps.getD 0 0 < p) :
    interpLin ps ls p = if nBelow ps p < ps.length then some (qInterp ps ls p) else none := by
  induction ps generalizing ls with
  | nil => simp [interpLin]
  | cons a t ih =>
    have ha : a < p := hp
    rcases t with _ | ⟨b, t'⟩ <;> rcases ls with _ | ⟨la, _ | ⟨lb, lt'⟩⟩ <;>
      try (simp only [List.length_cons, List.length_nil] at hlen; omega)
    · simp [interpLin, ha.ne', nBelow, ha]
    · have hst := (List.pairwise_cons.mp hs).2
      rw [interpLin, if_neg (not_lt.mpr ha.le)]
      by_cases hb : p ≤ b
      · have hk : nBelow (a :: b :: t') p = 1 := by rw [nBelow_cons_lt _ ha, nBelow_eq_zero_of_le_head hst hb]
        rw [if_pos hb, hk, if_pos (show 1 < (a :: b :: t').length from Nat.succ_lt_succ (Nat.succ_pos _))]
        unfold qInterp
        rw [if_neg (not_le.mpr ha : ¬ p ≤ (a :: b :: t').getD 0 0), hk]
        simp only [Nat.sub_self, List.getD_cons_zero, List.getD_cons_succ, chord]
      · have hb' : b < p := not_le.mp hb
        rw [if_neg hb, ih (Nat.succ.inj hlen) hst hb', nBelow_cons_lt _ ha,
          qInterp_cons_of_lt t' lt' ha hb']
        simp only [List.length_cons, Nat.add_lt_add_iff_right]

lemma interpLin_spec {ps ls : List ℝ} (hlen : ps.length = ls.length) (hs : ps.Pairwise (· < ·)) {p lq : ℝ}
    (h : interpLin ps ls p = some lq) (hp : ps.getD 0 0 < p) : nBelow ps p < ps.length ∧ lq = qInterp ps ls p := by
  rw [interpLin_eq hlen hs hp] at h
  split_ifs at h with hk
  exact ⟨hk, (Option.some.inj h).symm⟩

/-- C11, point isotherms.  For strictly increasing positive pressures, `0 ≤ p`, and `lq` the code's linear
interpolation at `p` when `p` is above the first knot, the value computed by `spreading_pressure_at` is
`∫₀ᵖ q(x)/x dx`, `q` the Henry-continued piecewise-linear interpolant.  (`p ≤ ps.getLast` is not listed: it is
implied by `interpLin ps ls p = some lq`, see `interpLin_spec`.) -/
theorem spreadPoint_eq_integral (ps ls : List ℝ) (p lq : ℝ) (hne : ps ≠ []) (hpos : 0 < ps.head hne)
    (hlen : ps.length = ls.length) (hs : ps.Pairwise (· < ·)) (hp0 : 0 ≤ p)
    (hlq : ps.head hne < p → interpLin ps ls p = some lq) :
    spreadPoint ps ls (realLogs ps) p lq (lastLog ps p) = some (∫ x in (0:ℝ)..p, qInterp ps ls x / x) := by
  by_cases hp : p ≤ ps.head hne
  · exact (spreadPoint_below_first ps ls _ p lq _ hne hpos hlen hs hp0 hp).1
  · have hp' : ps.head hne < p := not_le.mp hp
    have hlq' := hlq hp'
    rw [head_eq_gd hne] at hp' hpos
    obtain ⟨hk, hq⟩ := interpLin_spec hlen hs hlq' hp'
    obtain ⟨j, hj, hjl, hlast, hple⟩ := exists_segment hs hpos hp' hk
    obtain ⟨I, E⟩ := qInterp_integral_knot ls hs hpos (Nat.lt_of_succ_lt hjl)
    obtain ⟨I', E'⟩ := qInterp_piece ls hs hpos hjl hlast.le hple
    rw [spreadPoint_eq ps ls _ p lq _ hne hlen, if_neg (by omega), lastLog, hj, Nat.add_sub_cancel,
      ← intervalIntegral.integral_add_adjacent_intervals I I', E, E',
      seg_eq_integral _ _ _ _ (gd_pos hs hpos (Nat.lt_of_succ_lt hjl)) hlast]
    -- the chord to the query `(p, lq)` is the chord of the segment: `lq` is its value at `p`
    rw [qInterp_segment_Ioc ls hs hjl hlast hple] at hq
    congr 2
    apply intervalIntegral.integral_congr
    intro x _
    simp only [hq, chord_through _ _ _ (sub_ne_zero.mpr hlast.ne')]

/-! ### the code as a function of the pressure alone

`spreadPoint_additive`, `_mono`, `_hasDerivAt`, `_deriv`, `_tendsto_zero` below are statements about `spreadFun`;
`spreadPoint_eq_spreadFun` ties it to the fold with any successful interpolation value passed in. -/

/-- the code's function of `p` alone: `loading_at(p)` is the code's linear interpolation (`interpLin`; its
failure value is irrelevant: below the first knot `lq` is unused, above the last knot the Python raises) -/
def spreadFun (ps ls : List ℝ) (p : ℝ) : ℝ :=
  (spreadPoint ps ls (realLogs ps) p ((interpLin ps ls p).getD 0) (lastLog ps p)).getD 0

lemma getLast_eq_gd {ps : List ℝ} (hne : ps ≠ []) : ps.getLast hne = ps.getD (ps.length - 1) 0 := by
  rw [List.getLast_eq_getElem, gd_eq]

lemma nBelow_lt_length_of_le_last {ps : List ℝ} (hs : ps.Pairwise (· < ·)) (hne : ps ≠ []) {p : ℝ}
    (hp : p ≤ ps.getLast hne) : nBelow ps p < ps.length := by
  by_contra hcon
  have hle := nBelow_le_length ps p
  have hpos : 0 < ps.length := List.length_pos_iff.mpr hne
  have : ps.getD (ps.length - 1) 0 < p := gd_lt_of_lt_nBelow hs (by omega)
  rw [getLast_eq_gd hne] at hp
  exact absurd hp (not_le.mpr this)

lemma gd_nonneg {ls : List ℝ} (h : ∀ l ∈ ls, 0 ≤ l) (i : ℕ) : 0 ≤ ls.getD i 0 := by
  by_cases hi : i < ls.length
  · exact h _ (gd_mem hi)
  · simp [List.getD_eq_getElem?_getD, not_lt.mp hi]

section Range
variable (ps ls : List ℝ) (hne : ps ≠ []) (hpos : 0 < ps.head hne) (hs : ps.Pairwise (· < ·))
include hpos hs

lemma qInterp_intervalIntegrable (p : ℝ) (hp0 : 0 ≤ p) (hpl : p ≤ ps.getLast hne) :
    IntervalIntegrable (fun x => qInterp ps ls x / x) volume 0 p := by
  rw [head_eq_gd hne] at hpos
  by_cases hp : p ≤ ps.getD 0 0
  · exact (qInterp_henry_piece ps ls hp0 hp).1
  · obtain ⟨j, -, hjl, hlo, hhi⟩ := exists_segment hs hpos (not_le.mp hp) (nBelow_lt_length_of_le_last hs hne hpl)
    exact (qInterp_integral_knot ls hs hpos (Nat.lt_of_succ_lt hjl)).1.trans (qInterp_piece ls hs hpos hjl hlo.le hhi).1

lemma qInterp_cases {x : ℝ} (hxl : x ≤ ps.getLast hne) :
    qInterp ps ls x = ls.getD 0 0 / ps.getD 0 0 * x ∨
    ∃ j, j + 1 < ps.length ∧ ps.getD j 0 < x ∧ x ≤ ps.getD (j + 1) 0 ∧
      qInterp ps ls x = (ls.getD j 0 * (ps.getD (j + 1) 0 - x) + ls.getD (j + 1) 0 * (x - ps.getD j 0)) /
        (ps.getD (j + 1) 0 - ps.getD j 0) := by
  rw [head_eq_gd hne] at hpos
  by_cases hx : x ≤ ps.getD 0 0
  · exact Or.inl (qInterp_below ps ls hx)
  · obtain ⟨j, -, hj, hlo, hhi⟩ := exists_segment hs hpos (not_le.mp hx) (nBelow_lt_length_of_le_last hs hne hxl)
    refine Or.inr ⟨j, hj, hlo, hhi, ?_⟩
    have hba : ps.getD (j + 1) 0 - ps.getD j 0 ≠ 0 := (sub_pos.mpr (hlo.trans_le hhi)).ne'
    rw [qInterp_segment_Ioc ls hs hj hlo hhi]
    unfold chord; field_simp; ring

lemma qInterp_nonneg (hl : ∀ l ∈ ls, 0 ≤ l) {x : ℝ} (hx0 : 0 ≤ x) (hxl : x ≤ ps.getLast hne) : 0 ≤ qInterp ps ls x := by
  rcases qInterp_cases ps ls hne hpos hs hxl with e | ⟨j, -, hlo, hhi, e⟩ <;> rw [e]
  · exact mul_nonneg (div_nonneg (gd_nonneg hl 0) (by rw [← head_eq_gd hne]; exact hpos.le)) hx0
  · exact div_nonneg (add_nonneg (mul_nonneg (gd_nonneg hl j) (sub_nonneg.mpr hhi))
      (mul_nonneg (gd_nonneg hl (j + 1)) (sub_nonneg.mpr hlo.le))) (sub_nonneg.mpr (hlo.le.trans hhi))

lemma qInterp_locally_affine {p : ℝ} (hp0 : 0 < p) (hpl : p < ps.getLast hne) (hnk : p ∉ ps) :
    ∃ lo hi s c : ℝ, p ∈ Set.Ioo lo hi ∧ 0 ≤ lo ∧ hi ≤ ps.getLast hne ∧
      ∀ x ∈ Set.Ioo lo hi, qInterp ps ls x = s * x + c := by
  rw [head_eq_gd hne] at hpos
  have hlen : 0 < ps.length := List.length_pos_iff.mpr hne
  rw [getLast_eq_gd hne]
  by_cases hp : p ≤ ps.getD 0 0
  · exact ⟨0, ps.getD 0 0, ls.getD 0 0 / ps.getD 0 0, 0,
      ⟨hp0, lt_of_le_of_ne hp fun h => hnk (h ▸ gd_mem hlen)⟩, le_rfl, gd_le hs (Nat.zero_le _) (by omega),
      fun x hx => by rw [qInterp_below ps ls hx.2.le, add_zero]⟩
  · obtain ⟨j, hj, hjl, hlo, hhi⟩ := exists_segment hs hpos (not_le.mp hp)
      (nBelow_lt_length_of_le_last hs hne hpl.le)
    refine ⟨ps.getD j 0, ps.getD (j + 1) 0, (ls.getD (j + 1) 0 - ls.getD j 0) / (ps.getD (j + 1) 0 - ps.getD j 0),
      ls.getD j 0 - (ls.getD (j + 1) 0 - ls.getD j 0) / (ps.getD (j + 1) 0 - ps.getD j 0) * ps.getD j 0,
      ⟨hlo, lt_of_le_of_ne hhi fun h => hnk (h ▸ gd_mem hjl)⟩, (gd_pos hs hpos (by omega)).le,
      gd_le hs (by omega) (by omega), fun x hx => ?_⟩
    rw [qInterp_segment_Ioc ls hs hjl hx.1 hx.2.le, chord]
    ring

end Range

/-- link between `spreadFun` and the model: whatever successful interpolation value is passed -/
theorem spreadPoint_eq_spreadFun (ps ls : List ℝ) (p lq : ℝ) (hne : ps ≠ []) (hpos : 0 < ps.head hne)
    (hlen : ps.length = ls.length) (hs : ps.Pairwise (· < ·)) (hp0 : 0 ≤ p)
    (hlq : ps.head hne < p → interpLin ps ls p = some lq) :
    spreadPoint ps ls (realLogs ps) p lq (lastLog ps p) = some (spreadFun ps ls p) := by
  unfold spreadFun
  rw [spreadPoint_eq_integral ps ls p lq hne hpos hlen hs hp0 hlq,
    spreadPoint_eq_integral ps ls p _ hne hpos hlen hs hp0 (fun h => by rw [hlq h]; rfl)]
  rfl

theorem spreadFun_eq_integral (ps ls : List ℝ) (p : ℝ) (hne : ps ≠ []) (hpos : 0 < ps.head hne)
    (hlen : ps.length = ls.length) (hs : ps.Pairwise (· < ·)) (hp0 : 0 ≤ p) (hpl : p ≤ ps.getLast hne) :
    spreadFun ps ls p = ∫ x in (0:ℝ)..p, qInterp ps ls x / x := by
  unfold spreadFun
  rw [spreadPoint_eq_integral ps ls p _ hne hpos hlen hs hp0 (fun h => by
    -- inside the data range the code's interpolation succeeds, with value `q p`
    rw [interpLin_eq hlen hs (by rw [← head_eq_gd hne]; exact h), if_pos (nBelow_lt_length_of_le_last hs hne hpl)]
    rfl)]
  rfl

/-- the value at zero pressure is zero (whatever `logs`, `lq`, `lgLast` are passed) -/
theorem spreadPoint_zero (ps ls logs : List ℝ) (lq lgLast : ℝ) (hne : ps ≠ []) (hpos : 0 < ps.head hne)
    (hlen : ps.length = ls.length) (hs : ps.Pairwise (· < ·)) :
    spreadPoint ps ls logs 0 lq lgLast = some 0 := by
  rw [(spreadPoint_below_first ps ls logs 0 lq lgLast hne hpos hlen hs le_rfl hpos.le).2, mul_zero]

theorem spreadPoint_additive (ps ls : List ℝ) (a b : ℝ) (hne : ps ≠ []) (hpos : 0 < ps.head hne)
    (hlen : ps.length = ls.length) (hs : ps.Pairwise (· < ·)) (ha0 : 0 ≤ a) (hab : a ≤ b)
    (hbl : b ≤ ps.getLast hne) :
    spreadFun ps ls b - spreadFun ps ls a = ∫ x in a..b, qInterp ps ls x / x := by
  rw [spreadFun_eq_integral ps ls b hne hpos hlen hs (ha0.trans hab) hbl,
    spreadFun_eq_integral ps ls a hne hpos hlen hs ha0 (hab.trans hbl)]
  exact intervalIntegral.integral_interval_sub_left
    (qInterp_intervalIntegrable ps ls hne hpos hs b (ha0.trans hab) hbl)
    (qInterp_intervalIntegrable ps ls hne hpos hs a ha0 (hab.trans hbl))

theorem spreadPoint_mono (ps ls : List ℝ) (a b : ℝ) (hne : ps ≠ []) (hpos : 0 < ps.head hne)
    (hlen : ps.length = ls.length) (hs : ps.Pairwise (· < ·)) (hl : ∀ l ∈ ls, 0 ≤ l) (ha0 : 0 ≤ a) (hab : a ≤ b)
    (hbl : b ≤ ps.getLast hne) :
    spreadFun ps ls a ≤ spreadFun ps ls b := by
  rw [← sub_nonneg, spreadPoint_additive ps ls a b hne hpos hlen hs ha0 hab hbl]
  apply intervalIntegral.integral_nonneg hab
  intro x hx
  exact div_nonneg (qInterp_nonneg ps ls hne hpos hs hl (ha0.trans hx.1) (hx.2.trans hbl)) (ha0.trans hx.1)

theorem spreadPoint_hasDerivAt (ps ls : List ℝ) (p : ℝ) (hne : ps ≠ []) (hpos : 0 < ps.head hne)
    (hlen : ps.length = ls.length) (hs : ps.Pairwise (· < ·)) (hp0 : 0 < p) (hpl : p < ps.getLast hne)
    (hnk : p ∉ ps) :
    HasDerivAt (spreadFun ps ls) (qInterp ps ls p / p) p := by
  obtain ⟨lo, hi, s, c, hmem, hlo0, hhil, heq⟩ := qInterp_locally_affine ps ls hne hpos hs hp0 hpl hnk
  -- `q/x` is continuous around `p`, so the integral from 0 has derivative `q p / p` there
  have hQ : ContinuousOn (fun x => qInterp ps ls x / x) (Set.Ioo lo hi) := by
    refine ContinuousOn.congr (f := fun x => (s * x + c) / x) ?_ fun x hx => by simp only [heq x hx]
    exact ContinuousOn.div (by fun_prop) continuousOn_id fun x hx => (hlo0.trans_lt hx.1).ne'
  have hF := intervalIntegral.integral_hasDerivAt_right
    (qInterp_intervalIntegrable ps ls hne hpos hs p hp0.le hpl.le)
    (hQ.stronglyMeasurableAtFilter isOpen_Ioo p hmem) (hQ.continuousAt (isOpen_Ioo.mem_nhds hmem))
  apply hF.congr_of_eventuallyEq
  filter_upwards [isOpen_Ioo.mem_nhds hmem] with x hx
  exact spreadFun_eq_integral ps ls x hne hpos hlen hs (hlo0.trans hx.1.le) (hx.2.le.trans hhil)

theorem spreadPoint_deriv (ps ls : List ℝ) (p : ℝ) (hne : ps ≠ []) (hpos : 0 < ps.head hne)
    (hlen : ps.length = ls.length) (hs : ps.Pairwise (· < ·)) (hp0 : 0 < p) (hpl : p < ps.getLast hne)
    (hnk : p ∉ ps) :
    p * deriv (spreadFun ps ls) p = qInterp ps ls p := by
  rw [(spreadPoint_hasDerivAt ps ls p hne hpos hlen hs hp0 hpl hnk).deriv]
  field_simp

theorem spreadPoint_tendsto_zero (ps ls : List ℝ) (hne : ps ≠ []) (hpos : 0 < ps.head hne)
    (hlen : ps.length = ls.length) (hs : ps.Pairwise (· < ·)) :
    Filter.Tendsto (spreadFun ps ls) (nhdsWithin 0 (Set.Ioi 0)) (nhds 0) := by
  have hc : ContinuousAt (fun p : ℝ => ls.getD 0 0 / ps.head hne * p) 0 := by fun_prop
  have ht := hc.tendsto.mono_left (nhdsWithin_le_nhds (s := Set.Ioi (0 : ℝ)))
  rw [mul_zero] at ht
  apply ht.congr'
  filter_upwards [Ioc_mem_nhdsGT hpos] with p hp
  have h := (spreadPoint_below_first ps ls (realLogs ps) p ((interpLin ps ls p).getD 0) (lastLog ps p) hne hpos hlen hs
    hp.1.le hp.2).2
  unfold spreadFun
  rw [h]
  rfl

end

end PgVerif.C11
