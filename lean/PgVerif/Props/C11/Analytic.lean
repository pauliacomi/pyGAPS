/-
C11 for the models with a closed-form spreading pressure in `Gen.R` (Henry, Langmuir, DSLangmuir, TSLangmuir,
BET, GAB, Quadratic, Freundlich, TemkinApprox): the reduced spreading pressure Π is the integral of n(p')/p'.
Statements are about the *generated* functions; proofs go through the tie lemmas to the published equations.
Per model:
  `_hasDeriv`      p Π'(p) = n(p) for 0 < p in the validity range (the guard 0 < p excludes the totalised `n/0`)
  `_zero`          Π(0) = 0                     (FALSE for TemkinApprox: finding S13, see that section)
  `_tendsto_zero`  Π(p) → 0 as p → 0⁺           (FALSE for TemkinApprox)
  `_eq_integral`   Π(b) − Π(a) = ∫ₐᵇ n(x)/x dx for 0 < a ≤ b in the range (integral form + additivity)
  `_strictMonoOn`  Π strictly increasing on the range, `p = 0` included (TemkinApprox: only for θ < 4, on p > 0)
Only the hypotheses actually needed are listed (all are implied by "parameters strictly inside the declared
bounds"); validity ranges: BET `N p < 1`, GAB `K p < 1`, Quadratic `Ka, Kb > 0`, Freundlich `m > 0`.
-/
import Mathlib.Analysis.SpecialFunctions.Integrals.Basic
import Mathlib.Analysis.SpecialFunctions.Log.Deriv
import Mathlib.Analysis.SpecialFunctions.Pow.Deriv
import Mathlib.Tactic
import PgVerif.Tie.Models

namespace PgVerif.C11
open PgVerif.Gen.R PgVerif.Spec.M Filter Topology

lemma tendsto_zero_of_continuousAt {F : ℝ → ℝ} (hc : ContinuousAt F 0) (h0 : F 0 = 0) :
    Tendsto F (𝓝[>] 0) (𝓝 0) := by
  have := hc.tendsto.mono_left (nhdsWithin_le_nhds (s := Set.Ioi (0 : ℝ)))
  rwa [h0] at this

/-- at the pressure `p`, `F` is a reduced spreading pressure of the loading `n`: `p F'(p) = n(p)`; and `n` is continuous there
(which the integral form needs besides) -/
structure SpreadAt (F n : ℝ → ℝ) (p : ℝ) : Prop where
  hasDeriv : HasDerivAt F (n p / p) p
  cont : ContinuousAt n p

lemma SpreadAt.add {F G n m : ℝ → ℝ} {p : ℝ} (h : SpreadAt F n p) (h' : SpreadAt G m p) :
    SpreadAt (fun x => F x + G x) (fun x => n x + m x) p :=
  ⟨(h.hasDeriv.fun_add h'.hasDeriv).congr_deriv (add_div _ _ _).symm, h.cont.add h'.cont⟩

lemma SpreadAt.eq_integral {F n : ℝ → ℝ} {a b : ℝ} (ha : 0 < a) (hab : a ≤ b) (h : ∀ x ∈ Set.Icc a b, SpreadAt F n x) :
    F b - F a = ∫ x in a..b, n x / x := by
  rw [← Set.uIcc_of_le hab] at h
  refine (intervalIntegral.integral_eq_sub_of_hasDerivAt (fun x hx => (h x hx).hasDeriv)
    (ContinuousOn.intervalIntegrable fun x hx => ?_)).symm
  rw [Set.uIcc_of_le hab] at hx
  exact ((h x (by rwa [Set.uIcc_of_le hab])).cont.div continuousAt_id (ha.trans_le hx.1).ne').continuousWithinAt

lemma tendsto_mul_log_zero {g : ℝ → ℝ} (nm : ℝ) (hg : ContinuousAt g 0) (h1 : g 0 = 1) :
    Tendsto (fun p => nm * Real.log (g p)) (𝓝[>] 0) (𝓝 0) := by
  refine tendsto_zero_of_continuousAt (F := fun p => nm * Real.log (g p)) ?_ (by rw [h1, Real.log_one, mul_zero])
  exact continuousAt_const.mul (hg.log (by rw [h1]; exact one_ne_zero))

lemma mul_log_lt_mul_log {nm u v : ℝ} (hnm : 0 < nm) (hu : 0 < u) (huv : u < v) :
    nm * Real.log u < nm * Real.log v :=
  mul_lt_mul_of_pos_left (Real.log_lt_log hu huv) hnm

lemma hasDerivAt_const_add_mul (c K p : ℝ) : HasDerivAt (fun x => c + K * x) K p := by
  simpa using ((hasDerivAt_id p).const_mul K).const_add c

lemma one_add_mul_pos {K x : ℝ} (hK : 0 < K) (hx : 0 < x) : 0 < 1 + K * x := add_pos one_pos (mul_pos hK hx)

private lemma henry_spreadAt (K : ℝ) {p : ℝ} (hp : 0 < p) : SpreadAt (henrySpread K) (henry K) p := by
  unfold henrySpread henry
  refine ⟨((hasDerivAt_id p).const_mul K).congr_deriv ?_, by fun_prop⟩
  rw [mul_one, mul_div_cancel_right₀ K hp.ne']

private lemma langmuir_spreadAt (K nm : ℝ) (hK : 0 < K) {p : ℝ} (hp : 0 < p) :
    SpreadAt (langmuirSpread K nm) (langmuir K nm) p := by
  have h := (one_add_mul_pos hK hp).ne'
  unfold langmuirSpread langmuir
  refine ⟨(((hasDerivAt_const_add_mul 1 K p).log h).const_mul nm).congr_deriv ?_,
    ContinuousAt.div (by fun_prop) (by fun_prop) h⟩
  field_simp

private lemma langmuirSpread_zero (K nm : ℝ) : langmuirSpread K nm 0 = 0 := by
  simp [langmuirSpread]

private lemma langmuirSpread_tendsto (K nm : ℝ) : Tendsto (langmuirSpread K nm) (𝓝[>] 0) (𝓝 0) :=
  tendsto_mul_log_zero nm (g := fun x => 1 + K * x) (by fun_prop) (by rw [mul_zero, add_zero])

private lemma langmuirSpread_lt (K nm a b : ℝ) (hK : 0 < K) (hnm : 0 < nm) (ha : 0 ≤ a) (hab : a < b) :
    langmuirSpread K nm a < langmuirSpread K nm b :=
  mul_log_lt_mul_log hnm (add_pos_of_pos_of_nonneg one_pos (mul_nonneg hK.le ha))
    ((add_lt_add_iff_left 1).mpr (mul_lt_mul_of_pos_left hab hK))

private lemma dslangmuir_spreadAt (nm1 K1 nm2 K2 : ℝ) (hK1 : 0 < K1) (hK2 : 0 < K2) {p : ℝ} (hp : 0 < p) :
    SpreadAt (fun x => dslangmuirSpread nm1 K1 nm2 K2 x) (fun x => dslangmuir nm1 K1 nm2 K2 x) p :=
  (langmuir_spreadAt K1 nm1 hK1 hp).add (langmuir_spreadAt K2 nm2 hK2 hp)

private lemma tslangmuir_spreadAt (nm1 nm2 nm3 K1 K2 K3 : ℝ) (hK1 : 0 < K1) (hK2 : 0 < K2) (hK3 : 0 < K3) {p : ℝ}
    (hp : 0 < p) :
    SpreadAt (fun x => tslangmuirSpread nm1 nm2 nm3 K1 K2 K3 x) (fun x => tslangmuir nm1 nm2 nm3 K1 K2 K3 x) p :=
  ((langmuir_spreadAt K1 nm1 hK1 hp).add (langmuir_spreadAt K2 nm2 hK2 hp)).add (langmuir_spreadAt K3 nm3 hK3 hp)

/-- below the pole at `b`, hence below the pole on `(0, b]` (no sign condition on `N`) -/
private lemma pole_mono (N x b : ℝ) (hx0 : 0 < x) (hxb : x ≤ b) (hb : N * b < 1) : N * x < 1 := by
  rcases le_or_gt 0 N with h | h
  · exact (mul_le_mul_of_nonneg_left hxb h).trans_lt hb
  · exact (mul_neg_of_neg_of_pos h hx0).trans one_pos

private lemma bet_spreadAt (nm C N : ℝ) (hC : 0 < C) {p : ℝ} (hp : 0 < p) (hpole : N * p < 1) :
    SpreadAt (fun x => betSpread nm C N x) (fun x => bet nm C N x) p := by
  unfold betSpread bet
  have hd : 0 < 1 - N * p := sub_pos.mpr hpole
  have hn : 0 < 1 - N * p + C * p := add_pos hd (mul_pos hC hp)
  have h2 : HasDerivAt (fun x => 1 - N * x) (-N) p := by simpa using ((hasDerivAt_id p).const_mul N).const_sub 1
  have h1 : HasDerivAt (fun x => 1 - N * x + C * x) (-N + C) p := by
    simpa using h2.fun_add ((hasDerivAt_id p).const_mul C)
  refine ⟨(((h1.fun_div h2 hd.ne').log (div_pos hn hd).ne').const_mul nm).congr_deriv ?_,
    ContinuousAt.div (by fun_prop) (by fun_prop) (mul_pos hd hn).ne'⟩
  -- the numerator of the quotient rule collapses to `C`; what is left is an identity in `u = 1 - N p + C p`, `v = 1 - N p`
  rw [show (-N + C) * (1 - N * p) - (1 - N * p + C * p) * -N = C by ring]
  generalize 1 - N * p + C * p = u at hn
  generalize 1 - N * p = v at hd
  field_simp

private lemma betSpread_eq_integral (nm C N a b : ℝ) (hC : 0 < C) (ha : 0 < a) (hab : a ≤ b) (hpole : N * b < 1) :
    betSpread nm C N b - betSpread nm C N a = ∫ x in a..b, bet nm C N x / x :=
  SpreadAt.eq_integral ha hab fun x hx =>
    bet_spreadAt nm C N hC (ha.trans_le hx.1) (pole_mono N x b (ha.trans_le hx.1) hx.2 hpole)

private lemma betSpread_tendsto (nm C N : ℝ) : Tendsto (fun p => betSpread nm C N p) (𝓝[>] 0) (𝓝 0) :=
  tendsto_mul_log_zero nm (g := fun x => (1 - N * x + C * x) / (1 - N * x))
    (ContinuousAt.div (by fun_prop) (by fun_prop) (by simp)) (by simp)

private lemma betSpread_lt (nm C N a b : ℝ) (hnm : 0 < nm) (hC : 0 < C) (ha : 0 ≤ a) (hab : a < b)
    (hpa : N * a < 1) (hpb : N * b < 1) : betSpread nm C N a < betSpread nm C N b := by
  have a1 : 0 < 1 - N * a := sub_pos.mpr hpa
  have b1 : 0 < 1 - N * b := sub_pos.mpr hpb
  have a2 : 0 < 1 - N * a + C * a := add_pos_of_pos_of_nonneg a1 (mul_nonneg hC.le ha)
  refine mul_log_lt_mul_log hnm (div_pos a2 a1) ?_
  -- cross-multiplied, the `N`-terms cancel and `C a < C b` is left
  rw [div_lt_div_iff₀ a1 b1]
  linarith [mul_lt_mul_of_pos_left hab hC]

/-- GAB is BET with `N = K` and the constant `C K` -/
private lemma gab_eq_bet (nm C K p : ℝ) : gab nm C K p = bet nm (C * K) K p := by
  simp only [gab, bet, mul_assoc]

private lemma gabSpread_eq_bet (nm C K p : ℝ) : gabSpread nm C K p = betSpread nm (C * K) K p := by
  simp only [gabSpread, betSpread, mul_assoc]

private lemma quadratic_spreadAt (nm Ka Kb : ℝ) (hKa : 0 < Ka) (hKb : 0 < Kb) {p : ℝ} (hp : 0 < p) :
    SpreadAt (fun x => quadraticSpread nm Ka Kb x) (fun x => quadratic nm Ka Kb x) p := by
  unfold quadraticSpread quadratic
  have h := (add_pos (one_add_mul_pos hKa hp) (mul_pos hKb (pow_pos hp 2))).ne'
  have h1 : HasDerivAt (fun x => 1 + Ka * x + Kb * x ^ 2) (Ka + 2 * Kb * p) p := by
    refine ((hasDerivAt_const_add_mul 1 Ka p).fun_add ((hasDerivAt_pow 2 p).const_mul Kb)).congr_deriv ?_
    simp; ring
  refine ⟨((h1.log h).const_mul nm).congr_deriv ?_, ContinuousAt.div (by fun_prop) h1.continuousAt h⟩
  field_simp

private lemma freundlich_spreadAt (K m : ℝ) (hm : 0 < m) {p : ℝ} (hp : 0 < p) :
    SpreadAt (fun x => freundlichSpread K m x) (fun x => freundlich K m x) p := by
  unfold freundlichSpread freundlich
  have h := Real.hasDerivAt_rpow_const (x := p) (p := 1 / m) (Or.inl hp.ne')
  refine ⟨(h.const_mul (m * K)).congr_deriv ?_, continuousAt_const.mul h.continuousAt⟩
  rw [Real.rpow_sub_one hp.ne']; field_simp

private lemma freundlichSpread_zero (K m : ℝ) (hm : 0 < m) : freundlichSpread K m 0 = 0 := by
  unfold freundlichSpread
  rw [Real.zero_rpow (one_div_ne_zero hm.ne'), mul_zero]

private lemma temkin_spreadAt (nm K tht : ℝ) (hK : 0 < K) {p : ℝ} (hp : 0 < p) :
    SpreadAt (fun x => temkinSpreadLib nm K tht x) (fun x => temkin nm K tht x) p := by
  unfold temkinSpreadLib temkin
  have h := (one_add_mul_pos hK hp).ne'
  have h1 := hasDerivAt_const_add_mul 1 K p
  have hnum : HasDerivAt (fun x => tht * (2 * (K * x) + 1)) (tht * (2 * K)) p := by
    simpa using ((((hasDerivAt_id p).const_mul K).const_mul 2).add_const 1).const_mul tht
  have hden : HasDerivAt (fun x => 2 * (1 + K * x) ^ 2) (2 * (2 * (1 + K * p) * K)) p := by
    refine ((h1.fun_pow 2).const_mul 2).congr_deriv ?_
    simp
  have hq : ContinuousAt (fun x => K * x / (1 + K * x)) p := ContinuousAt.div (by fun_prop) (by fun_prop) h
  refine ⟨(((h1.log h).add (hnum.fun_div hden (mul_ne_zero two_ne_zero (pow_ne_zero 2 h)))).const_mul nm).congr_deriv ?_,
    continuousAt_const.mul (hq.add ((continuousAt_const.mul (hq.pow 2)).mul (hq.sub continuousAt_const)))⟩
  field_simp
  ring

private lemma temkinSpreadLib_zero (nm K tht : ℝ) : temkinSpreadLib nm K tht 0 = nm * tht / 2 := by
  simp [temkinSpreadLib]; ring

/-- `n(p)/p = n_m K ((1 - Kp)² + (4 - θ) Kp) / (1 + Kp)³`: positive for every `p > 0` when `θ < 4` -/
private lemma temkin_div_pos (nm K tht p : ℝ) (hnm : 0 < nm) (hK : 0 < K) (htht : tht < 4) (hp : 0 < p) :
    0 < temkin nm K tht p / p := by
  have h := one_add_mul_pos hK hp
  have e : temkin nm K tht p / p = nm * K * ((1 - K * p) ^ 2 + (4 - tht) * (K * p)) / (1 + K * p) ^ 3 := by
    unfold temkin; field_simp; ring
  rw [e]
  exact div_pos (mul_pos (mul_pos hnm hK)
    (add_pos_of_nonneg_of_pos (sq_nonneg _) (mul_pos (sub_pos.mpr htht) (mul_pos hK hp)))) (pow_pos h 3)

theorem henry_spread_hasDeriv (K p : ℝ) (hp : 0 < p) :
    HasDerivAt (fun x => Henry_spreading_pressure K x) (Henry_loading K p / p) p := by
  simp only [PgVerif.Tie.henry_spread, PgVerif.Tie.henry_loading]
  exact (henry_spreadAt K hp).hasDeriv

theorem henry_spread_zero (K : ℝ) : Henry_spreading_pressure K 0 = 0 := by
  rw [PgVerif.Tie.henry_spread]; simp [henrySpread]

theorem henry_spread_tendsto_zero (K : ℝ) :
    Tendsto (fun p => Henry_spreading_pressure K p) (𝓝[>] 0) (𝓝 0) := by
  simp only [PgVerif.Tie.henry_spread]
  apply tendsto_zero_of_continuousAt (F := fun p => henrySpread K p)
  · unfold henrySpread; fun_prop
  · simp [henrySpread]

theorem henry_spread_eq_integral (K a b : ℝ) (ha : 0 < a) (hab : a ≤ b) :
    Henry_spreading_pressure K b - Henry_spreading_pressure K a = ∫ x in a..b, Henry_loading K x / x := by
  simp only [PgVerif.Tie.henry_spread, PgVerif.Tie.henry_loading]
  exact SpreadAt.eq_integral ha hab fun x hx => henry_spreadAt K (ha.trans_le hx.1)

theorem henry_spread_strictMonoOn (K : ℝ) (hK : 0 < K) :
    StrictMonoOn (Henry_spreading_pressure K) (Set.Ici 0) := by
  intro a _ b _ hab
  rw [PgVerif.Tie.henry_spread, PgVerif.Tie.henry_spread]
  exact mul_lt_mul_of_pos_left hab hK

theorem langmuir_spread_hasDeriv (K nm p : ℝ) (hK : 0 < K) (hp : 0 < p) :
    HasDerivAt (fun x => Langmuir_spreading_pressure K nm x) (Langmuir_loading K nm p / p) p := by
  simp only [PgVerif.Tie.langmuir_spread, PgVerif.Tie.langmuir_loading]
  exact (langmuir_spreadAt K nm hK hp).hasDeriv

theorem langmuir_spread_zero (K nm : ℝ) : Langmuir_spreading_pressure K nm 0 = 0 := by
  rw [PgVerif.Tie.langmuir_spread]; exact langmuirSpread_zero K nm

theorem langmuir_spread_tendsto_zero (K nm : ℝ) :
    Tendsto (fun p => Langmuir_spreading_pressure K nm p) (𝓝[>] 0) (𝓝 0) := by
  simp only [PgVerif.Tie.langmuir_spread]
  exact langmuirSpread_tendsto K nm

theorem langmuir_spread_eq_integral (K nm a b : ℝ) (hK : 0 < K) (ha : 0 < a) (hab : a ≤ b) :
    Langmuir_spreading_pressure K nm b - Langmuir_spreading_pressure K nm a
      = ∫ x in a..b, Langmuir_loading K nm x / x := by
  simp only [PgVerif.Tie.langmuir_spread, PgVerif.Tie.langmuir_loading]
  exact SpreadAt.eq_integral ha hab fun x hx => langmuir_spreadAt K nm hK (ha.trans_le hx.1)

theorem langmuir_spread_strictMonoOn (K nm : ℝ) (hK : 0 < K) (hnm : 0 < nm) :
    StrictMonoOn (Langmuir_spreading_pressure K nm) (Set.Ici 0) := by
  intro a ha b _ hab
  rw [PgVerif.Tie.langmuir_spread, PgVerif.Tie.langmuir_spread]
  exact langmuirSpread_lt K nm a b hK hnm ha hab

theorem dslangmuir_spread_hasDeriv (nm1 K1 nm2 K2 p : ℝ) (hK1 : 0 < K1) (hK2 : 0 < K2) (hp : 0 < p) :
    HasDerivAt (fun x => DSLangmuir_spreading_pressure nm1 K1 nm2 K2 x) (DSLangmuir_loading nm1 K1 nm2 K2 p / p) p := by
  simp only [PgVerif.Tie.dslangmuir_spread, PgVerif.Tie.dslangmuir_loading]
  exact (dslangmuir_spreadAt nm1 K1 nm2 K2 hK1 hK2 hp).hasDeriv

theorem dslangmuir_spread_zero (nm1 K1 nm2 K2 : ℝ) : DSLangmuir_spreading_pressure nm1 K1 nm2 K2 0 = 0 := by
  rw [PgVerif.Tie.dslangmuir_spread]; unfold dslangmuirSpread
  rw [langmuirSpread_zero, langmuirSpread_zero, add_zero]

theorem dslangmuir_spread_tendsto_zero (nm1 K1 nm2 K2 : ℝ) :
    Tendsto (fun p => DSLangmuir_spreading_pressure nm1 K1 nm2 K2 p) (𝓝[>] 0) (𝓝 0) := by
  simp only [PgVerif.Tie.dslangmuir_spread]
  unfold dslangmuirSpread
  simpa using (langmuirSpread_tendsto K1 nm1).add (langmuirSpread_tendsto K2 nm2)

theorem dslangmuir_spread_eq_integral (nm1 K1 nm2 K2 a b : ℝ) (hK1 : 0 < K1) (hK2 : 0 < K2) (ha : 0 < a)
    (hab : a ≤ b) :
    DSLangmuir_spreading_pressure nm1 K1 nm2 K2 b - DSLangmuir_spreading_pressure nm1 K1 nm2 K2 a
      = ∫ x in a..b, DSLangmuir_loading nm1 K1 nm2 K2 x / x := by
  simp only [PgVerif.Tie.dslangmuir_spread, PgVerif.Tie.dslangmuir_loading]
  exact SpreadAt.eq_integral ha hab fun x hx => dslangmuir_spreadAt nm1 K1 nm2 K2 hK1 hK2 (ha.trans_le hx.1)

theorem dslangmuir_spread_strictMonoOn (nm1 K1 nm2 K2 : ℝ) (hnm1 : 0 < nm1) (hK1 : 0 < K1) (hnm2 : 0 < nm2)
    (hK2 : 0 < K2) :
    StrictMonoOn (DSLangmuir_spreading_pressure nm1 K1 nm2 K2) (Set.Ici 0) := by
  intro a ha b _ hab
  rw [PgVerif.Tie.dslangmuir_spread, PgVerif.Tie.dslangmuir_spread]; unfold dslangmuirSpread
  exact add_lt_add (langmuirSpread_lt K1 nm1 a b hK1 hnm1 ha hab) (langmuirSpread_lt K2 nm2 a b hK2 hnm2 ha hab)

theorem tslangmuir_spread_hasDeriv (nm1 nm2 nm3 K1 K2 K3 p : ℝ) (hK1 : 0 < K1) (hK2 : 0 < K2) (hK3 : 0 < K3)
    (hp : 0 < p) :
    HasDerivAt (fun x => TSLangmuir_spreading_pressure nm1 nm2 nm3 K1 K2 K3 x)
      (TSLangmuir_loading nm1 nm2 nm3 K1 K2 K3 p / p) p := by
  simp only [PgVerif.Tie.tslangmuir_spread, PgVerif.Tie.tslangmuir_loading]
  exact (tslangmuir_spreadAt nm1 nm2 nm3 K1 K2 K3 hK1 hK2 hK3 hp).hasDeriv

theorem tslangmuir_spread_zero (nm1 nm2 nm3 K1 K2 K3 : ℝ) :
    TSLangmuir_spreading_pressure nm1 nm2 nm3 K1 K2 K3 0 = 0 := by
  rw [PgVerif.Tie.tslangmuir_spread]; unfold tslangmuirSpread
  rw [langmuirSpread_zero, langmuirSpread_zero, langmuirSpread_zero, add_zero, add_zero]

theorem tslangmuir_spread_tendsto_zero (nm1 nm2 nm3 K1 K2 K3 : ℝ) :
    Tendsto (fun p => TSLangmuir_spreading_pressure nm1 nm2 nm3 K1 K2 K3 p) (𝓝[>] 0) (𝓝 0) := by
  simp only [PgVerif.Tie.tslangmuir_spread]
  unfold tslangmuirSpread
  simpa using ((langmuirSpread_tendsto K1 nm1).add (langmuirSpread_tendsto K2 nm2)).add
    (langmuirSpread_tendsto K3 nm3)

theorem tslangmuir_spread_eq_integral (nm1 nm2 nm3 K1 K2 K3 a b : ℝ) (hK1 : 0 < K1) (hK2 : 0 < K2) (hK3 : 0 < K3)
    (ha : 0 < a) (hab : a ≤ b) :
    TSLangmuir_spreading_pressure nm1 nm2 nm3 K1 K2 K3 b - TSLangmuir_spreading_pressure nm1 nm2 nm3 K1 K2 K3 a
      = ∫ x in a..b, TSLangmuir_loading nm1 nm2 nm3 K1 K2 K3 x / x := by
  simp only [PgVerif.Tie.tslangmuir_spread, PgVerif.Tie.tslangmuir_loading]
  exact SpreadAt.eq_integral ha hab fun x hx =>
    tslangmuir_spreadAt nm1 nm2 nm3 K1 K2 K3 hK1 hK2 hK3 (ha.trans_le hx.1)

theorem tslangmuir_spread_strictMonoOn (nm1 nm2 nm3 K1 K2 K3 : ℝ) (hnm1 : 0 < nm1) (hnm2 : 0 < nm2) (hnm3 : 0 < nm3)
    (hK1 : 0 < K1) (hK2 : 0 < K2) (hK3 : 0 < K3) :
    StrictMonoOn (TSLangmuir_spreading_pressure nm1 nm2 nm3 K1 K2 K3) (Set.Ici 0) := by
  intro a ha b _ hab
  rw [PgVerif.Tie.tslangmuir_spread, PgVerif.Tie.tslangmuir_spread]; unfold tslangmuirSpread
  exact add_lt_add (add_lt_add (langmuirSpread_lt K1 nm1 a b hK1 hnm1 ha hab)
    (langmuirSpread_lt K2 nm2 a b hK2 hnm2 ha hab)) (langmuirSpread_lt K3 nm3 a b hK3 hnm3 ha hab)

theorem bet_spread_hasDeriv (nm C N p : ℝ) (hC : 0 < C) (hp : 0 < p) (hpole : N * p < 1) :
    HasDerivAt (fun x => BET_spreading_pressure nm C N x) (BET_loading nm C N p / p) p := by
  simp only [PgVerif.Tie.bet_spread, PgVerif.Tie.bet_loading]
  exact (bet_spreadAt nm C N hC hp hpole).hasDeriv

theorem bet_spread_zero (nm C N : ℝ) : BET_spreading_pressure nm C N 0 = 0 := by
  rw [PgVerif.Tie.bet_spread]; simp [betSpread]

theorem bet_spread_tendsto_zero (nm C N : ℝ) :
    Tendsto (fun p => BET_spreading_pressure nm C N p) (𝓝[>] 0) (𝓝 0) := by
  simp only [PgVerif.Tie.bet_spread]
  exact betSpread_tendsto nm C N

theorem bet_spread_eq_integral (nm C N a b : ℝ) (hC : 0 < C) (ha : 0 < a) (hab : a ≤ b) (hpole : N * b < 1) :
    BET_spreading_pressure nm C N b - BET_spreading_pressure nm C N a = ∫ x in a..b, BET_loading nm C N x / x := by
  simp only [PgVerif.Tie.bet_spread, PgVerif.Tie.bet_loading]
  exact betSpread_eq_integral nm C N a b hC ha hab hpole

theorem bet_spread_strictMonoOn (nm C N : ℝ) (hnm : 0 < nm) (hC : 0 < C) :
    StrictMonoOn (BET_spreading_pressure nm C N) {p | 0 ≤ p ∧ N * p < 1} := by
  intro a ha b hb hab
  rw [PgVerif.Tie.bet_spread, PgVerif.Tie.bet_spread]
  exact betSpread_lt nm C N a b hnm hC ha.1 hab ha.2 hb.2

theorem gab_spread_hasDeriv (nm C K p : ℝ) (hC : 0 < C) (hK : 0 < K) (hp : 0 < p) (hpole : K * p < 1) :
    HasDerivAt (fun x => GAB_spreading_pressure nm C K x) (GAB_loading nm C K p / p) p := by
  simp only [PgVerif.Tie.gab_spread, PgVerif.Tie.gab_loading, gabSpread_eq_bet, gab_eq_bet]
  exact (bet_spreadAt nm (C * K) K (mul_pos hC hK) hp hpole).hasDeriv

theorem gab_spread_zero (nm C K : ℝ) : GAB_spreading_pressure nm C K 0 = 0 := by
  rw [PgVerif.Tie.gab_spread, gabSpread_eq_bet]; simp [betSpread]

theorem gab_spread_tendsto_zero (nm C K : ℝ) :
    Tendsto (fun p => GAB_spreading_pressure nm C K p) (𝓝[>] 0) (𝓝 0) := by
  simp only [PgVerif.Tie.gab_spread, gabSpread_eq_bet]
  exact betSpread_tendsto nm (C * K) K

theorem gab_spread_eq_integral (nm C K a b : ℝ) (hC : 0 < C) (hK : 0 < K) (ha : 0 < a) (hab : a ≤ b)
    (hpole : K * b < 1) :
    GAB_spreading_pressure nm C K b - GAB_spreading_pressure nm C K a = ∫ x in a..b, GAB_loading nm C K x / x := by
  simp only [PgVerif.Tie.gab_spread, PgVerif.Tie.gab_loading, gabSpread_eq_bet, gab_eq_bet]
  exact betSpread_eq_integral nm (C * K) K a b (mul_pos hC hK) ha hab hpole

theorem gab_spread_strictMonoOn (nm C K : ℝ) (hnm : 0 < nm) (hC : 0 < C) (hK : 0 < K) :
    StrictMonoOn (GAB_spreading_pressure nm C K) {p | 0 ≤ p ∧ K * p < 1} := by
  intro a ha b hb hab
  rw [PgVerif.Tie.gab_spread, PgVerif.Tie.gab_spread, gabSpread_eq_bet, gabSpread_eq_bet]
  exact betSpread_lt nm (C * K) K a b hnm (mul_pos hC hK) ha.1 hab ha.2 hb.2

theorem quadratic_spread_hasDeriv (nm Ka Kb p : ℝ) (hKa : 0 < Ka) (hKb : 0 < Kb) (hp : 0 < p) :
    HasDerivAt (fun x => Quadratic_spreading_pressure nm Ka Kb x) (Quadratic_loading nm Ka Kb p / p) p := by
  simp only [PgVerif.Tie.quadratic_spread, PgVerif.Tie.quadratic_loading]
  exact (quadratic_spreadAt nm Ka Kb hKa hKb hp).hasDeriv

theorem quadratic_spread_zero (nm Ka Kb : ℝ) : Quadratic_spreading_pressure nm Ka Kb 0 = 0 := by
  rw [PgVerif.Tie.quadratic_spread]; simp [quadraticSpread]

theorem quadratic_spread_tendsto_zero (nm Ka Kb : ℝ) :
    Tendsto (fun p => Quadratic_spreading_pressure nm Ka Kb p) (𝓝[>] 0) (𝓝 0) := by
  simp only [PgVerif.Tie.quadratic_spread]
  exact tendsto_mul_log_zero nm (g := fun x => 1 + Ka * x + Kb * x ^ 2)
    ((continuousAt_const.add (continuousAt_const.mul continuousAt_id)).add (continuousAt_const.mul (continuousAt_id.pow 2)))
    (by simp)

theorem quadratic_spread_eq_integral (nm Ka Kb a b : ℝ) (hKa : 0 < Ka) (hKb : 0 < Kb) (ha : 0 < a) (hab : a ≤ b) :
    Quadratic_spreading_pressure nm Ka Kb b - Quadratic_spreading_pressure nm Ka Kb a
      = ∫ x in a..b, Quadratic_loading nm Ka Kb x / x := by
  simp only [PgVerif.Tie.quadratic_spread, PgVerif.Tie.quadratic_loading]
  exact SpreadAt.eq_integral ha hab fun x hx => quadratic_spreadAt nm Ka Kb hKa hKb (ha.trans_le hx.1)

theorem quadratic_spread_strictMonoOn (nm Ka Kb : ℝ) (hnm : 0 < nm) (hKa : 0 < Ka) (hKb : 0 < Kb) :
    StrictMonoOn (Quadratic_spreading_pressure nm Ka Kb) (Set.Ici 0) := by
  intro a ha b _ hab
  rw [PgVerif.Tie.quadratic_spread, PgVerif.Tie.quadratic_spread]
  have ha : 0 ≤ a := ha
  exact mul_log_lt_mul_log hnm
    (add_pos_of_pos_of_nonneg (add_pos_of_pos_of_nonneg one_pos (mul_nonneg hKa.le ha))
      (mul_nonneg hKb.le (pow_nonneg ha 2)))
    (add_lt_add_of_lt_of_le ((add_lt_add_iff_left 1).mpr (mul_lt_mul_of_pos_left hab hKa))
      (mul_le_mul_of_nonneg_left (pow_le_pow_left₀ ha hab.le 2) hKb.le))

/-! ### Freundlich (`m > 0`; at `m = 0` the exponent `1/m` is a division by zero) -/

theorem freundlich_spread_hasDeriv (K m p : ℝ) (hm : 0 < m) (hp : 0 < p) :
    HasDerivAt (fun x => Freundlich_spreading_pressure K m x) (Freundlich_loading K m p / p) p := by
  simp only [PgVerif.Tie.freundlich_spread, PgVerif.Tie.freundlich_loading]
  exact (freundlich_spreadAt K m hm hp).hasDeriv

theorem freundlich_spread_zero (K m : ℝ) (hm : 0 < m) : Freundlich_spreading_pressure K m 0 = 0 := by
  rw [PgVerif.Tie.freundlich_spread]; exact freundlichSpread_zero K m hm

theorem freundlich_spread_tendsto_zero (K m : ℝ) (hm : 0 < m) :
    Tendsto (fun p => Freundlich_spreading_pressure K m p) (𝓝[>] 0) (𝓝 0) := by
  simp only [PgVerif.Tie.freundlich_spread]
  exact tendsto_zero_of_continuousAt (F := fun x => freundlichSpread K m x)
    (continuousAt_const.mul (Real.continuousAt_rpow_const 0 (1 / m) (Or.inr (one_div_pos.mpr hm).le)))
    (freundlichSpread_zero K m hm)

theorem freundlich_spread_eq_integral (K m a b : ℝ) (hm : 0 < m) (ha : 0 < a) (hab : a ≤ b) :
    Freundlich_spreading_pressure K m b - Freundlich_spreading_pressure K m a
      = ∫ x in a..b, Freundlich_loading K m x / x := by
  simp only [PgVerif.Tie.freundlich_spread, PgVerif.Tie.freundlich_loading]
  exact SpreadAt.eq_integral ha hab fun x hx => freundlich_spreadAt K m hm (ha.trans_le hx.1)

theorem freundlich_spread_strictMonoOn (K m : ℝ) (hK : 0 < K) (hm : 0 < m) :
    StrictMonoOn (Freundlich_spreading_pressure K m) (Set.Ici 0) := by
  intro a ha b _ hab
  rw [PgVerif.Tie.freundlich_spread, PgVerif.Tie.freundlich_spread]
  exact mul_lt_mul_of_pos_left (Real.rpow_lt_rpow ha hab (one_div_pos.mpr hm)) (mul_pos hm hK)

/-! ### TemkinApprox

Finding S13: the closed form of the library is an antiderivative of `n(p)/p` (so `p Π' = n` and differences
`Π b − Π a` are right) but it does not vanish at `p = 0`: it lacks the constant `− n_m θ / 2`.  `Π(0) = 0` and
`Π(p) → 0` are therefore FALSE for the code (`temkin_spread_zero_false`, `temkin_spread_tendsto_zero_false`) and true for
the function minus `n_m θ / 2` (= `Spec.M.temkinSpread`, `temkin_spread_corrected_eq_spec`). -/

theorem temkin_spread_hasDeriv (nm K tht p : ℝ) (hK : 0 < K) (hp : 0 < p) :
    HasDerivAt (fun x => TemkinApprox_spreading_pressure nm K tht x) (TemkinApprox_loading nm K tht p / p) p := by
  simp only [PgVerif.Tie.temkin_spread, PgVerif.Tie.temkin_loading]
  exact (temkin_spreadAt nm K tht hK hp).hasDeriv

/-- S13: value of the library's spreading pressure at zero pressure -/
theorem S13_witness (nm K tht : ℝ) : TemkinApprox_spreading_pressure nm K tht 0 = nm * tht / 2 := by
  rw [PgVerif.Tie.temkin_spread]; exact temkinSpreadLib_zero nm K tht

/-- `Π(0) = 0` is false for the code -/
theorem temkin_spread_zero_false (nm K tht : ℝ) (hnm : nm ≠ 0) (htht : tht ≠ 0) :
    TemkinApprox_spreading_pressure nm K tht 0 ≠ 0 := by
  rw [S13_witness]
  exact div_ne_zero (mul_ne_zero hnm htht) two_ne_zero

theorem temkin_spread_tendsto (nm K tht : ℝ) :
    Tendsto (fun p => TemkinApprox_spreading_pressure nm K tht p) (𝓝[>] 0) (𝓝 (nm * tht / 2)) := by
  simp only [PgVerif.Tie.temkin_spread]
  have hg : ContinuousAt (fun x : ℝ => 1 + K * x) 0 := by fun_prop
  have hc : ContinuousAt (fun x => temkinSpreadLib nm K tht x) 0 := by
    unfold temkinSpreadLib
    exact continuousAt_const.mul ((hg.log (by simp)).add
      (ContinuousAt.div (by fun_prop) (continuousAt_const.mul (hg.pow 2)) (by simp)))
  have := hc.tendsto.mono_left (nhdsWithin_le_nhds (s := Set.Ioi (0 : ℝ)))
  rwa [temkinSpreadLib_zero] at this

/-- `Π(p) → 0` as `p → 0⁺` is false for the code -/
theorem temkin_spread_tendsto_zero_false (nm K tht : ℝ) (hnm : nm ≠ 0) (htht : tht ≠ 0) :
    ¬ Tendsto (fun p => TemkinApprox_spreading_pressure nm K tht p) (𝓝[>] 0) (𝓝 0) := by
  intro h
  have := tendsto_nhds_unique h (temkin_spread_tendsto nm K tht)
  exact div_ne_zero (mul_ne_zero hnm htht) two_ne_zero this.symm

theorem temkin_spread_corrected_eq_spec (nm K tht p : ℝ) :
    TemkinApprox_spreading_pressure nm K tht p - nm * tht / 2 = temkinSpread nm K tht p := by
  rw [PgVerif.Tie.temkin_spread]; rfl

theorem temkin_spread_corrected_hasDeriv (nm K tht p : ℝ) (hK : 0 < K) (hp : 0 < p) :
    HasDerivAt (fun x => TemkinApprox_spreading_pressure nm K tht x - nm * tht / 2)
      (TemkinApprox_loading nm K tht p / p) p :=
  (temkin_spread_hasDeriv nm K tht p hK hp).sub_const _

theorem temkin_spread_corrected_zero (nm K tht : ℝ) :
    TemkinApprox_spreading_pressure nm K tht 0 - nm * tht / 2 = 0 := by
  rw [S13_witness, sub_self]

theorem temkin_spread_corrected_tendsto (nm K tht : ℝ) :
    Tendsto (fun p => TemkinApprox_spreading_pressure nm K tht p - nm * tht / 2) (𝓝[>] 0) (𝓝 0) := by
  have := (temkin_spread_tendsto nm K tht).sub_const (nm * tht / 2)
  rwa [sub_self] at this

/-- differences `Π b − Π a` of the library's closed form are right (the missing constant cancels) -/
theorem temkin_spread_eq_integral (nm K tht a b : ℝ) (hK : 0 < K) (ha : 0 < a) (hab : a ≤ b) :
    TemkinApprox_spreading_pressure nm K tht b - TemkinApprox_spreading_pressure nm K tht a
      = ∫ x in a..b, TemkinApprox_loading nm K tht x / x := by
  simp only [PgVerif.Tie.temkin_spread, PgVerif.Tie.temkin_loading]
  exact SpreadAt.eq_integral ha hab fun x hx => temkin_spreadAt nm K tht hK (ha.trans_le hx.1)

theorem temkin_spread_corrected_eq_integral (nm K tht a b : ℝ) (hK : 0 < K) (ha : 0 < a) (hab : a ≤ b) :
    (TemkinApprox_spreading_pressure nm K tht b - nm * tht / 2)
        - (TemkinApprox_spreading_pressure nm K tht a - nm * tht / 2)
      = ∫ x in a..b, TemkinApprox_loading nm K tht x / x := by
  rw [← temkin_spread_eq_integral nm K tht a b hK ha hab]; ring

/-- Strict monotonicity is proved for `θ < 4` only.  The declared bound of `θ` is `(0, ∞)`; the missing range
`θ ≥ 4` cannot be added: `n(p)/p = n_m K ((1 − Kp)² + (4 − θ) Kp)/(1 + Kp)³` is negative around `Kp = 1`
when `θ > 4`, see the witness `temkin_spread_strictMonoOn_false` below (at `θ = 4` it still holds, the derivative
vanishing at the single point `Kp = 1`; not proved here). -/
theorem temkin_spread_strictMonoOn_partial (nm K tht : ℝ) (hnm : 0 < nm) (hK : 0 < K) (htht : tht < 4) :
    StrictMonoOn (TemkinApprox_spreading_pressure nm K tht) (Set.Ioi 0) := by
  rw [funext (PgVerif.Tie.temkin_spread nm K tht)]
  -- the derivative `n(p)/p` is positive on `(0, ∞)`
  refine strictMonoOn_of_deriv_pos (convex_Ioi 0)
    (fun x hx => (temkin_spreadAt nm K tht hK hx).hasDeriv.continuousAt.continuousWithinAt) fun x hx => ?_
  rw [interior_Ioi] at hx
  rw [(temkin_spreadAt nm K tht hK hx).hasDeriv.deriv]
  exact temkin_div_pos nm K tht x hnm hK htht hx

/-- strict monotonicity is false for the code inside the declared bounds: with `n_m = K = 1`, `θ = 8`,
`Π(2) = ln 3 + 20/9 < ln 2 + 3 = Π(1)` -/
theorem temkin_spread_strictMonoOn_false :
    ¬ StrictMonoOn (TemkinApprox_spreading_pressure 1 1 8) (Set.Ioi 0) := by
  intro h
  have h12 := h (Set.mem_Ioi.mpr zero_lt_one) (Set.mem_Ioi.mpr zero_lt_two) one_lt_two
  rw [PgVerif.Tie.temkin_spread, PgVerif.Tie.temkin_spread] at h12
  unfold temkinSpreadLib at h12
  have hlog : Real.log 3 - Real.log 2 ≤ 1 / 2 := by
    rw [← Real.log_div (by norm_num) (by norm_num)]
    have := Real.log_le_sub_one_of_pos (show (0 : ℝ) < 3 / 2 by norm_num)
    linarith
  norm_num at h12
  linarith

end PgVerif.C11
