/-
C04 — read-only queries and analyses are pure and independent of query history.
Theorems about Model/Cache.lean: the outcome of every modelled query is a function of the observable content and of the
arguments only; the hidden cache state never matters, whatever history produced it.
-/
import PgVerif.Model.Cache
import Mathlib.Tactic

namespace PgVerif.C04
open PgVerif.Model.Cache

variable {φ ο χ ρ : Type} [DecidableEq φ]

/-- Hidden state that keeps an invariant `I` and reaches no outcome is invisible — the form for a step on the hidden state alone
(`history_free_of_invariant` below also carries an observable state along). -/
lemma foldl_history_free {η Q ρ' : Type} (step : η → Q → ρ' × η) (I : η → Prop) (hI : ∀ h q, I h → I (step h q).2)
    (hout : ∀ h h' q, I h → I h' → (step h q).1 = (step h' q).1) {h₀ : η} (h0 : I h₀) (qs : List Q) (q : Q) :
    (step (qs.foldl (fun h q => (step h q).2) h₀) q).1 = (step h₀ q).1 :=
  hout _ _ q (List.foldlRecOn qs _ h0 fun h hh q _ => hI h q hh) h0

section Slot
variable {E : ο → Key φ → χ → ρ} {B : ο → Key φ → Option ρ} {o : ο} {c : Option (Key φ)} {h : Hidden φ} {k : Key φ} {x : χ}

lemma mustRebuild_eq_false : mustRebuild c k = false ↔ c = some k := by
  cases c with
  | none => simp [mustRebuild]
  | some c => cases c; cases k; simp [mustRebuild, and_assoc]

private theorem mustRebuild_self (k : Key φ) : mustRebuild (some k) k = false :=
  mustRebuild_eq_false.2 rfl

lemma rebuild_fst : (rebuild B o c k).1 = if mustRebuild c k then B o k else none := by
  unfold rebuild
  split
  · cases B o k <;> rfl
  · rfl

lemma rebuild_snd : (rebuild B o c k).2 = match B o k with | none => some k | some _ => c := by
  unfold rebuild
  split
  · cases B o k <;> rfl
  · next h =>
    -- no rebuild: the cache holds `k` already
    obtain rfl := mustRebuild_eq_false.1 (Bool.eq_false_iff.2 h)
    cases B o k <;> rfl

theorem rebuild_key (B : ο → Key φ → Option ρ) (o : ο) (c : Option (Key φ)) (k : Key φ) :
    (B o k = none → rebuild B o c k = (none, some k)) ∧
    (∀ err, B o k = some err → rebuild B o c k = (if mustRebuild c k then some err else none, c)) := by
  refine ⟨fun hb => Prod.ext ?_ ?_, fun err hb => Prod.ext ?_ ?_⟩
  · rw [rebuild_fst, hb, ite_self]
  · rw [rebuild_snd, hb]
  · rw [rebuild_fst, hb]
  · rw [rebuild_snd, hb]

/-- a cache slot is valid when the key it holds, if any, is one whose constructor succeeds on this content (`Valid`: both slots are) -/
def Buildable (B : ο → Key φ → Option ρ) (o : ο) (c : Option (Key φ)) : Prop := ∀ c', c = some c' → B o c' = none

/-- a valid slot never holds a key whose constructor raises, so on it the cache test cannot hide the constructor's error -/
lemma rebuild_fst_of_valid (hv : Buildable B o c) : (rebuild B o c k).1 = B o k := by
  rw [rebuild_fst]
  split
  · rfl
  · next h => exact (hv k (mustRebuild_eq_false.1 (Bool.eq_false_iff.2 h))).symm

lemma rebuild_valid (hv : Buildable B o c) : Buildable B o (rebuild B o c k).2 := by
  rw [rebuild_snd]
  cases hb : B o k with
  | none => rintro _ ⟨⟩; exact hb
  | some err => exact hv

lemma loadingAt_snd : (loadingAt E B o h k x).2 = { h with l := (rebuild B o h.l k).2 } := by
  unfold loadingAt
  split <;> rfl

/-- on a valid cache `loading_at` returns what an interpolator built for exactly the
requested (branch, kind, fill) returns — the constructor's error if it raises — whatever was cached before -/
theorem loadingAt_outcome (hv : Buildable B o h.l) :
    (loadingAt E B o h k x).1 = (match B o k with | some err => err | none => E o k x) := by
  unfold loadingAt
  rw [rebuild_fst_of_valid hv, rebuild_snd]
  cases B o k <;> rfl

end Slot

/-- what a query returns when every interpolator is built for exactly the requested (branch, kind, fill): the constructor's error if it
raises, otherwise the value of that interpolator — a function of the observable content and the arguments only -/
def stateless (w : World φ ο χ ρ) (o : ο) : Query φ χ → ρ
  | .loadingAt k x => match w.BL o k with | some err => err | none => w.EL o k x
  | .pressureAt k x => match w.BP o k with | some err => err | none => w.EP o k x
  | .spreadingAt b f x =>
    match w.guard o f x with
    | some refused => refused
    | none => match w.BL o ⟨b, "linear", f⟩ with
      | some err => err
      | none => w.S o x (w.EL o ⟨b, "linear", f⟩ x)
  | .plain n => w.plain o n

section
variable (w : World φ ο χ ρ) (o : ο) (h : Hidden φ)

/-- cache transparency: on a valid hidden state every query returns what it returns without any cache, whatever was cached before -/
lemma run_outcome (hv : Valid w o h) (q : Query φ χ) : (run w o h q).1 = stateless w o q := by
  cases q with
  | loadingAt k x => exact loadingAt_outcome hv.1
  | pressureAt k x =>
    simp only [run, stateless, pressureAt]
    rw [rebuild_fst_of_valid hv.2, rebuild_snd]
    cases w.BP o k <;> rfl
  | spreadingAt b f x =>
    simp only [run, stateless, spreadingAt]
    rw [rebuild_fst_of_valid hv.1, rebuild_snd]
    cases w.guard o f x with
    | some r => rfl
    | none => cases w.BL o ⟨b, "linear", f⟩ <;> rfl
  | plain n => rfl

theorem run_valid (hv : Valid w o h) (q : Query φ χ) : Valid w o (run w o h q).2 := by
  cases q with
  | loadingAt k x =>
    simp only [run, loadingAt_snd]
    exact ⟨rebuild_valid hv.1, hv.2⟩
  | pressureAt k x =>
    simp only [run, pressureAt]
    split <;> exact ⟨hv.1, rebuild_valid hv.2⟩
  | spreadingAt b f x =>
    simp only [run, spreadingAt]
    split
    · exact hv
    · split <;> exact ⟨rebuild_valid hv.1, hv.2⟩
  | plain n => exact hv

omit [DecidableEq φ] in
theorem fresh_valid : Valid w o ⟨none, none⟩ :=
  ⟨fun _ h => (nomatch h), fun _ h => (nomatch h)⟩

end

theorem pressureAt_outcome (E : ο → Key φ → χ → ρ) (B : ο → Key φ → Option ρ) (o : ο) (h : Hidden φ) (k : Key φ) (x : χ)
    (hv : ∀ c, h.p = some c → B o c = none) :
    (pressureAt E B o h k x).1 = (match B o k with | some err => err | none => E o k x) :=
  -- a world with `E`, `B` on the pressure slot and a loading constructor that never raises: its loading slot is valid for free
  run_outcome { EL := E, EP := E, BL := fun _ _ => none, BP := B, guard := fun _ _ _ => none, S := fun _ _ r => r, plain := fun _ _ => E o k x }
    o h ⟨fun _ _ => rfl, hv⟩ (.pressureAt k x)

theorem spreadingAt_outcome (w : World φ ο χ ρ) (o : ο) (h : Hidden φ) (b : String) (f : Option φ) (x : χ)
    (hv : ∀ c, h.l = some c → w.BL o c = none) :
    (spreadingAt w.EL w.BL w.guard w.S o h b f x).1 =
      (match w.guard o f x with
       | some refused => refused
       | none => match w.BL o ⟨b, "linear", f⟩ with
         | some err => err
         | none => w.S o x (w.EL o ⟨b, "linear", f⟩ x)) :=
  -- the query does not touch the pressure slot: let its constructor never raise, so that only the loading slot need be valid
  run_outcome { w with BP := fun _ _ => none } o h ⟨hv, fun _ _ => rfl⟩ (.spreadingAt b f x)

theorem outcome_independent_of_hidden (w : World φ ο χ ρ) (o : ο) (h₁ h₂ : Hidden φ) (hv₁ : Valid w o h₁) (hv₂ : Valid w o h₂)
    (q : Query φ χ) : (run w o h₁ q).1 = (run w o h₂ q).1 :=
  (run_outcome w o h₁ hv₁ q).trans (run_outcome w o h₂ hv₂ q).symm

/-- the outcome of a query issued after ANY sequence of other queries equals the outcome of the
same query issued first on a fresh object (empty caches) -/
theorem query_outcome_history_free (w : World φ ο χ ρ) (o : ο) (qs : List (Query φ χ)) (q : Query φ χ) :
    (run w o (after w o ⟨none, none⟩ qs) q).1 = (run w o ⟨none, none⟩ q).1 :=
  foldl_history_free (run w o) (Valid w o) (fun h q hv => run_valid w o h hv q)
    (fun h h' q hv hv' => outcome_independent_of_hidden w o h h' hv hv' q) (fresh_valid w o) qs q

/-- a key whose constructor raises is never cached, so a cached interpolator is only ever used under the key it was built for -/
theorem cache_key_sound (E : ο → Key φ → χ → ρ) (B : ο → Key φ → Option ρ) (o : ο) (h : Hidden φ) (k : Key φ) (x : χ) :
    (B o k = none → (loadingAt E B o h k x).2.l = some k) ∧
    (∀ err, B o k = some err → (loadingAt E B o h k x).2.l = h.l) := by
  rw [loadingAt_snd, rebuild_snd]
  exact ⟨fun hb => by rw [hb], fun err hb => by rw [hb]⟩

/-- non-vacuity and a reminder why the failing constructor matters: a cubic request that cannot be built leaves the linear
interpolator in place, and the next linear request is served from it without a rebuild -/
example :
    let B : Unit → Key ℕ → Option String := fun _ k => if k.kind = "cubic" then some "ValueError" else none
    let E : Unit → Key ℕ → Unit → String := fun _ k _ => k.kind
    (loadingAt E B () (loadingAt E B () ⟨none, none⟩ ⟨"ads", "linear", none⟩ ()).2 ⟨"ads", "cubic", none⟩ ()) =
      ("ValueError", ⟨some ⟨"ads", "linear", none⟩, none⟩) := by decide +kernel


/-! ## The defect class "change the fill of the cached interpolator in place": transparent iff a relabelled object behaves like a rebuilt one -/

section RetargetSec
open Retarget

omit [DecidableEq φ] in
/-- whatever was cached, after the step the cached object CLAIMS the requested key (so the recorded key of the real object cannot show the defect) -/
theorem retarget_step_label (c : Option (Cached φ)) (k : Key φ) : label (step c k) = k ∧ (step c k).fill = k.fill := by
  cases c with
  | none => exact ⟨rfl, rfl⟩
  | some c =>
    simp only [step]
    split
    · exact ⟨rfl, rfl⟩
    · next h =>
      -- the object is kept: it was built for the requested branch and kind
      simp only [Bool.or_eq_true, bne_iff_ne, ne_eq, not_or, not_not] at h
      obtain ⟨⟨b, kd, f⟩, f'⟩ := c
      exact ⟨by rw [label, h.1, h.2], rfl⟩

omit [DecidableEq φ] in
theorem retarget_outcome (EI : ο → Key φ → Option φ → χ → ρ) (hs : FillSeparable EI) (o : ο) (c : Option (Cached φ)) (k : Key φ) (x : χ) :
    (Retarget.loadingAt EI o c k x).1 = EI o k k.fill x := by
  obtain ⟨h1, h2⟩ := retarget_step_label c k
  rw [Retarget.loadingAt, hs, ← label, h1, h2]

omit [DecidableEq φ] in
theorem retarget_history_free (EI : ο → Key φ → Option φ → χ → ρ) (hs : FillSeparable EI) (o : ο) (qs : List (Key φ × χ)) (k : Key φ) (x : χ) :
    (Retarget.loadingAt EI o (Retarget.after EI o none qs) k x).1 = (Retarget.loadingAt EI o none k x).1 := by
  rw [retarget_outcome EI hs, retarget_outcome EI hs]

/-- an interpolator like scipy's `interp1d`: the abscissa is inside the data range (`true`) or not; an object BUILT with
`'extrapolate'` extrapolates whatever fill it is given later (the flag set at construction survives), an object built otherwise
clamps when it is told to extrapolate later (the code path was bound at construction) -/
def scipyLike : Unit → Key (Fill ℕ) → Option (Fill ℕ) → Bool → String := fun _ built f inside =>
  if inside then "interpolated"
  else if built.fill = some .extrapolate then "extrapolated"
  else match f with
    | none => "ValueError"
    | some .extrapolate => "clamped"
    | some _ => "fill value"

/-- the condition is necessary (seeded change seedout5/C04-m2): with an interpolator like scipy's the shortcut (A) extrapolates where the
same call on a fresh isotherm raises, after one call with `'extrapolate'`, and (B) clamps where the same call on a fresh isotherm
extrapolates, after one ordinary call — while inside the range, and for number / pair fills, nothing shows -/
theorem fillSeparable_necessary :
    ¬ FillSeparable scipyLike ∧
    (Retarget.loadingAt scipyLike () (Retarget.after scipyLike () none [(⟨"ads", "linear", some .extrapolate⟩, false)]) ⟨"ads", "linear", none⟩ false).1
      ≠ (Retarget.loadingAt scipyLike () none ⟨"ads", "linear", none⟩ false).1 ∧
    (Retarget.loadingAt scipyLike () (Retarget.after scipyLike () none [(⟨"ads", "linear", none⟩, true)]) ⟨"ads", "linear", some .extrapolate⟩ false).1
      ≠ (Retarget.loadingAt scipyLike () none ⟨"ads", "linear", some .extrapolate⟩ false).1 ∧
    (Retarget.loadingAt scipyLike () (Retarget.after scipyLike () none [(⟨"ads", "linear", some (.pair 0 20)⟩, false)]) ⟨"ads", "linear", some (.value 3)⟩ false).1
      = (Retarget.loadingAt scipyLike () none ⟨"ads", "linear", some (.value 3)⟩ false).1 :=
  ⟨fun h => absurd (h () ⟨"ads", "linear", some .extrapolate⟩ none false) (by decide), by decide +kernel⟩

/-- non-vacuity of `retarget_history_free`: an interpolator whose behaviour outside the range depends on the CURRENT fill only -/
example : FillSeparable (fun (_ : Unit) (_ : Key (Fill ℕ)) (f : Option (Fill ℕ)) (inside : Bool) => if inside then "interpolated" else if f = none then "ValueError" else "filled") := by
  intro o k f x
  rfl

end RetargetSec


/-! ## The defect class "the cache test is a PARTIAL comparison" (S53-C04, repaired): transparent iff the comparison of fills never raises
and is the negation of equality -/

section PartialCmpSec

/-- under a total comparison the step is the step of the core model (so `loadingAt_outcome`, `query_outcome_history_free`, … apply) -/
theorem partialCmp_total (ne : Option φ → Option φ → Option Bool) (hn : PartialCmp.TotalNe ne) (cmpErr : ρ) (E : ο → Key φ → χ → ρ)
    (B : ο → Key φ → Option ρ) (o : ο) (c : Option (Key φ)) (p : Option (Key φ)) (k : Key φ) (x : χ) :
    PartialCmp.loadingAt ne cmpErr E B o c k x = ((loadingAt E B o ⟨c, p⟩ k x).1, (loadingAt E B o ⟨c, p⟩ k x).2.l) := by
  have hm : PartialCmp.mustRebuild ne c k = some (mustRebuild c k) := by
    cases c with
    | none => rfl
    | some c =>
      simp only [PartialCmp.mustRebuild, mustRebuild, hn c.fill k.fill]
      split <;> simp [*]
  unfold PartialCmp.loadingAt loadingAt rebuild
  rw [hm]
  cases mustRebuild c k <;> cases B o k <;> rfl

theorem partialCmp_history_free (ne : Option φ → Option φ → Option Bool) (hn : PartialCmp.TotalNe ne) (cmpErr : ρ) (E : ο → Key φ → χ → ρ)
    (B : ο → Key φ → Option ρ) (o : ο) (qs : List (Key φ × χ)) (k : Key φ) (x : χ) :
    (PartialCmp.loadingAt ne cmpErr E B o (PartialCmp.after ne cmpErr E B o none qs) k x).1
      = (PartialCmp.loadingAt ne cmpErr E B o none k x).1 := by
  -- every step is a step of the core model on the loading slot, which stays valid
  refine foldl_history_free (fun c (q : Key φ × χ) => PartialCmp.loadingAt ne cmpErr E B o c q.1 q.2) (Buildable B o)
    (fun c q hc => ?_) (fun c c' q hc hc' => ?_) (h₀ := none) (fun _ h => (nomatch h)) qs (k, x)
  · rw [partialCmp_total ne hn cmpErr E B o c none, loadingAt_snd]
    exact rebuild_valid hc
  · rw [partialCmp_total ne hn cmpErr E B o c none, partialCmp_total ne hn cmpErr E B o c' none]
    exact (loadingAt_outcome (h := ⟨c, none⟩) hc).trans (loadingAt_outcome (h := ⟨c', none⟩) hc').symm

/-- Python's `!=` between fills as numpy evaluates it: between a `(below, above)` tuple and a bare value (array / numpy number) it broadcasts
and the `if` has no truth value (`none`); between two fills of one kind, with `None` or with `'extrapolate'` it is the negation of equality -/
def numpyNe : Option (Fill ℕ) → Option (Fill ℕ) → Option Bool
  | some (.pair _ _), some (.value _) => none
  | some (.value _), some (.pair _ _) => none
  | a, b => some (a != b)

/-- an interpolator that shows which fill it was built with outside the range -/
def showsFill : Unit → Key (Fill ℕ) → Bool → String := fun _ k inside =>
  if inside then "interpolated"
  else match k.fill with
    | none => "ValueError (out of range)"
    | some (.value _) => "the value"
    | some (.pair _ _) => "above"
    | some .extrapolate => "extrapolated"

/-- the condition is necessary (finding S53-C04 of the unchanged library): with numpy's comparison, after one call with the pair
`(0, 20)` the call with a bare array raises the comparison's error where the same call on a fresh isotherm returns the value — also INSIDE the
range, where the fill does not even matter —, the reverse order fails in the same way, the cache is left untouched (every later call of the
other kind fails too), while value after value, `None` or `'extrapolate'` after a pair are served as on a fresh isotherm -/
theorem totalNe_necessary :
    ¬ PartialCmp.TotalNe numpyNe ∧
    (PartialCmp.loadingAt numpyNe "ValueError (truth value of an array)" showsFill (fun _ _ => none) ()
        (PartialCmp.after numpyNe "ValueError (truth value of an array)" showsFill (fun _ _ => none) () none [(⟨"ads", "linear", some (.pair 0 20)⟩, false)])
        ⟨"ads", "linear", some (.value 3)⟩ false)
      = ("ValueError (truth value of an array)", some ⟨"ads", "linear", some (.pair 0 20)⟩) ∧
    (PartialCmp.loadingAt numpyNe "ValueError (truth value of an array)" showsFill (fun _ _ => none) () none ⟨"ads", "linear", some (.value 3)⟩ false).1 = "the value" ∧
    (PartialCmp.loadingAt numpyNe "ValueError (truth value of an array)" showsFill (fun _ _ => none) ()
        (PartialCmp.after numpyNe "ValueError (truth value of an array)" showsFill (fun _ _ => none) () none [(⟨"ads", "linear", some (.pair 0 20)⟩, false)])
        ⟨"ads", "linear", some (.value 3)⟩ true).1 = "ValueError (truth value of an array)" ∧
    (PartialCmp.loadingAt numpyNe "ValueError (truth value of an array)" showsFill (fun _ _ => none) ()
        (PartialCmp.after numpyNe "ValueError (truth value of an array)" showsFill (fun _ _ => none) () none [(⟨"ads", "linear", some (.value 3)⟩, false)])
        ⟨"ads", "linear", some (.pair 0 20)⟩ false).1 = "ValueError (truth value of an array)" ∧
    (PartialCmp.loadingAt numpyNe "ValueError (truth value of an array)" showsFill (fun _ _ => none) ()
        (PartialCmp.after numpyNe "ValueError (truth value of an array)" showsFill (fun _ _ => none) () none [(⟨"ads", "linear", some (.value 3)⟩, false)])
        ⟨"ads", "linear", some (.value 4)⟩ false).1 = "the value" ∧
    (PartialCmp.loadingAt numpyNe "ValueError (truth value of an array)" showsFill (fun _ _ => none) ()
        (PartialCmp.after numpyNe "ValueError (truth value of an array)" showsFill (fun _ _ => none) () none [(⟨"ads", "linear", some (.pair 0 20)⟩, false)])
        ⟨"ads", "linear", some .extrapolate⟩ false).1 = "extrapolated" :=
  ⟨fun h => absurd (h (some (.pair 0 20)) (some (.value 3))) (by decide), by decide +kernel⟩

/-- the repair: comparing the fills kind by kind (`_same_fill`) is the equality of fills … -/
theorem sameFill_iff {ν : Type} [DecidableEq ν] (a b : Option (Fill ν)) : PartialCmp.sameFill a b = true ↔ a = b := by
  rcases a with _ | _ | _ | _ <;> rcases b with _ | _ | _ | _ <;> simp [PartialCmp.sameFill]

/-- … hence `not _same_fill(cached, requested)` is a total comparison: the repaired cache test is the one of the core model
(non-vacuity of `partialCmp_history_free`) -/
theorem sameFill_totalNe {ν : Type} [DecidableEq ν] : PartialCmp.TotalNe (fun a b : Option (Fill ν) => some (!PartialCmp.sameFill a b)) := by
  intro a b
  show some (!PartialCmp.sameFill a b) = some (!(a == b))
  rw [Bool.eq_iff_iff.2 ((sameFill_iff a b).trans beq_iff_eq.symm)]

end PartialCmpSec

/-! ## Generic principle: hidden state that keeps an invariant and never reaches the outcome is invisible -/

section Generic
variable {ο' η Q ρ' : Type}

/-- if every query returns the observable state unchanged (`hobs`), keeps an invariant
`I` of the hidden state (`hI`; it may mention the observable state), and its outcome is the same on any two hidden states satisfying `I` (`hout`), then after ANY
history started from a hidden state satisfying `I` the observable state is the original one and every query has the outcome
it has on the fresh object -/
theorem history_free_of_invariant (step : ο' → η → Q → ρ' × ο' × η) (I : ο' → η → Prop)
    (hobs : ∀ o h q, (step o h q).2.1 = o)
    (hI : ∀ o h q, I o h → I o (step o h q).2.2)
    (hout : ∀ o h h' q, I o h → I o h' → (step o h q).1 = (step o h' q).1)
    (o : ο') (h₀ : η) (h0 : I o h₀) (qs : List Q) (q : Q) :
    (afterG step (o, h₀) qs).1 = o ∧
    (step (afterG step (o, h₀) qs).1 (afterG step (o, h₀) qs).2 q).1 = (step o h₀ q).1 := by
  obtain ⟨ho, hi⟩ : (afterG step (o, h₀) qs).1 = o ∧ I o (afterG step (o, h₀) qs).2 :=
    List.foldlRecOn (motive := fun s : ο' × η => s.1 = o ∧ I o s.2) qs _ ⟨rfl, h0⟩ fun s hs q _ => by
      obtain ⟨o', h'⟩ := s
      obtain ⟨rfl, hi⟩ := hs
      exact ⟨hobs _ _ _, hI _ _ _ hi⟩
  exact ⟨ho, ho.symm ▸ hout o _ _ q hi h0⟩

end Generic

/-- A keyed table (`ThermoKeyed.Sound`, `Loaded.Sound`): if what is stored under the key of a request is right for that request (`R`),
this stays so when an entry is added that is right for EVERY request with its key. -/
lemma lookup_cons_sound {ι κ ν : Type} [DecidableEq κ] (key : ι → κ) (R : ι → ν → Prop) (t : List (κ × ν))
    (ht : ∀ r v, t.lookup (key r) = some v → R r v) (k₀ : κ) (v₀ : ν) (h₀ : ∀ r, key r = k₀ → R r v₀) :
    ∀ r v, ((k₀, v₀) :: t).lookup (key r) = some v → R r v := by
  intro r v hv
  rw [List.lookup_cons] at hv
  split at hv
  · next e =>
    cases hv
    exact h₀ r (eq_of_beq e)
  · exact ht r v hv

/-! ## Thermodynamic state of an adsorbate -/

section ThermoSec
open Thermo
variable {οa ρa : Type}

omit [DecidableEq φ] in
/-- the code's policy (every accessor updates the state with its own arguments) satisfies the invariant -/
theorem alwaysUpdate_fullUpdate : FullUpdate (alwaysUpdate (φ := φ)) := by
  intro cur req h
  simp [alwaysUpdate] at h

section
omit [DecidableEq φ]
variable {w : Thermo.World φ οa ρa} {o : οa}

theorem flashRead_eq (hp : FullUpdate w.policy) (s : Option (Flash φ)) (f : Flash φ) (name : String) :
    flashRead w o s f name = (w.F o f name, some f) := by
  unfold flashRead
  by_cases h : w.policy s f = true
  · simp [h]
  · have hs : s = some f := hp s f (by simpa using h)
    simp [hs]

/-- the shared CoolProp state (`Adsorbate._state`) is invisible to every accessor -/
theorem thermo_outcome_independent_of_hidden (hp : FullUpdate w.policy) (h₁ h₂ : Thermo.Hidden φ) (q : Thermo.Query φ) :
    (Thermo.run w o h₁ q).1 = (Thermo.run w o h₂ q).1 := by
  cases q with
  | flashes steps key =>
    -- the first flash overwrites whatever the state held
    cases steps with
    | nil => rfl
    | cons st rest => simp only [Thermo.run, runSteps, flashRead_eq hp]
  | const name key viaState => rfl
  | lookup key => rfl

/-- no accessor changes the adsorbate (its name, aliases, `properties` dictionary) -/
theorem thermo_preserves_obs (h : Thermo.Hidden φ) (q : Thermo.Query φ) : (Thermo.run w o h q).2.1 = o := by
  cases q <;> rfl

end

omit [DecidableEq φ] in
/-- after any sequence of accessor calls (other temperatures,
other phases, pressure flashes, dictionary look-ups) the adsorbate is unchanged and every accessor returns the value, or the
kind of error, it returns on a fresh adsorbate (`_state is None`) -/
theorem thermo_query_history_free (w : Thermo.World φ οa ρa) (hp : FullUpdate w.policy) (o : οa)
    (qs : List (Thermo.Query φ)) (q : Thermo.Query φ) :
    (afterG (Thermo.run w) (o, none) qs).1 = o ∧
    (Thermo.run w (afterG (Thermo.run w) (o, none) qs).1 (afterG (Thermo.run w) (o, none) qs).2 q).1 = (Thermo.run w o none q).1 :=
  history_free_of_invariant (Thermo.run w) (fun _ _ => True) (fun _ => thermo_preserves_obs) (fun _ _ _ _ => trivial)
    (fun _ h h' q _ _ => thermo_outcome_independent_of_hidden hp h h' q) o none trivial qs q

/-- a policy that skips the update when only the TEMPERATURE coordinate of the state agrees (seeded changes C04-m2, -m4) -/
def skipSameT : Option (Flash ℕ) → Flash ℕ → Bool
  | some c, req => c.v2 != req.v2
  | none, _ => true

/-- a world in which the state returns the quality it was flashed with: 0 = liquid side, 1 = vapour side -/
def witnessWorld : Thermo.World ℕ Unit ℕ := ⟨fun _ f _ => some f.v1, fun _ _ => none, fun _ _ => none, fun l => l.headD 0, skipSameT⟩

/-- the invariant is necessary: with `skipSameT` a liquid-side read at 77 issued after a vapour-side read at 77 returns the
vapour value, while on a fresh adsorbate it returns the liquid value -/
theorem fullUpdate_necessary :
    ¬ FullUpdate skipSameT ∧
    (Thermo.run witnessWorld () (afterG (Thermo.run witnessWorld) ((), none) [.flashes [(⟨"QT", 1, 77⟩, "rhomass")] "gas_density"]).2
        (.flashes [(⟨"QT", 0, 77⟩, "rhomass")] "liquid_density")).1
      ≠ (Thermo.run witnessWorld () none (.flashes [(⟨"QT", 0, 77⟩, "rhomass")] "liquid_density")).1 :=
  ⟨fun h => absurd (h (some ⟨"QT", 1, 77⟩) ⟨"QT", 0, 77⟩ (by decide)) (by decide), by decide +kernel⟩

/-- non-vacuity of `thermo_query_history_free`: the code's policy in a concrete world -/
example : (Thermo.run ({ witnessWorld with policy := alwaysUpdate }) ()
      (afterG (Thermo.run { witnessWorld with policy := alwaysUpdate }) ((), none) [.flashes [(⟨"QT", 1, 77⟩, "rhomass")] "gas_density"]).2
      (.flashes [(⟨"QT", 0, 77⟩, "rhomass")] "liquid_density")).1 = .ok 0 := by decide +kernel

end ThermoSec


/-! ## The defect class "memoise under a coarsened argument": transparent iff the coarsened key determines the value -/

section ThermoKeyedSec
open Thermo ThermoKeyed
variable {οa ρa κa : Type} [DecidableEq κa]

section
omit [DecidableEq φ]
variable {w : Thermo.World φ οa ρa} {coarse : Flash φ → κa} {name key : String} {o : οa} {h : ThermoKeyed.Hidden φ κa ρa}

theorem keyed_outcome (hp : FullUpdate w.policy) (hs : ThermoKeyed.Sound w coarse name o h) (f : Flash φ) :
    (ThermoKeyed.run w coarse name key o h f).1 = (match w.F o f name with | some v => .ok v | none => lookupOut w o key) := by
  unfold ThermoKeyed.run
  cases hl : h.2.lookup (coarse f) with
  | some v => simp only [hs f v hl]
  | none =>
    simp only [flashRead_eq hp]
    cases w.F o f name <;> rfl

theorem keyed_preserves_obs (f : Flash φ) : (ThermoKeyed.run w coarse name key o h f).2.1 = o := by
  unfold ThermoKeyed.run
  cases h.2.lookup (coarse f) with
  | some v => rfl
  | none => cases (flashRead w o (backend h.1) f name).1 <;> rfl

theorem keyed_sound (hp : FullUpdate w.policy) (hc : CoarseDetermines w coarse name) (hs : ThermoKeyed.Sound w coarse name o h)
    (f : Flash φ) : ThermoKeyed.Sound w coarse name o (ThermoKeyed.run w coarse name key o h f).2.2 := by
  unfold ThermoKeyed.run
  cases hl : h.2.lookup (coarse f) with
  | some v => exact hs
  | none =>
    simp only [flashRead_eq hp]
    cases hF : w.F o f name with
    | none => exact hs
    | some v => exact lookup_cons_sound coarse (fun f v => w.F o f name = some v) h.2 hs _ v fun f' e => (hc o f' f e).trans hF

end

omit [DecidableEq φ] in
/-- a keyed memo is invisible when the key determines the value: after any sequence of calls the adsorbate is unchanged and every call
returns what it returns on a fresh adsorbate (no state, empty table) -/
theorem keyed_history_free (w : Thermo.World φ οa ρa) (hp : FullUpdate w.policy) (coarse : Flash φ → κa) (name key : String)
    (hc : CoarseDetermines w coarse name) (o : οa) (fs : List (Flash φ)) (f : Flash φ) :
    (afterG (ThermoKeyed.run w coarse name key) (o, (none, [])) fs).1 = o ∧
    (ThermoKeyed.run w coarse name key (afterG (ThermoKeyed.run w coarse name key) (o, (none, [])) fs).1
        (afterG (ThermoKeyed.run w coarse name key) (o, (none, [])) fs).2 f).1 = (ThermoKeyed.run w coarse name key o (none, []) f).1 :=
  history_free_of_invariant (ThermoKeyed.run w coarse name key) (ThermoKeyed.Sound w coarse name)
    (fun _ _ => keyed_preserves_obs) (fun _ _ q hs => keyed_sound hp hc hs q)
    (fun _ _ _ q hs hs' => (keyed_outcome hp hs q).trans (keyed_outcome hp hs' q).symm)
    o (none, []) (fun f v hv => by simp at hv) fs f

/-- saturation pressure as a strictly increasing function of the temperature (both in integer units: mK, Pa) -/
def p0World : Thermo.World ℕ Unit ℕ := ⟨fun _ f _ => some (13 * f.v2), fun _ _ => none, fun _ _ => none, fun l => l.headD 0, alwaysUpdate⟩

/-- `round(temp, 1)`: the temperature in mK coarsened to 0.1 K -/
def tenthKelvin (f : Flash ℕ) : ℕ := f.v2 / 100

/-- the condition is necessary (seeded change seedout5/C04-m1, memo on `round(temp, 1)`): the saturation pressure at 77.344 K asked after
the one at 77.300 K on the same adsorbate object is the one of 77.300 K; asked first it is the one of 77.344 K -/
theorem coarseKey_necessary :
    ¬ CoarseDetermines p0World tenthKelvin "p" ∧
    (ThermoKeyed.run p0World tenthKelvin "p" "saturation_pressure" ()
        (afterG (ThermoKeyed.run p0World tenthKelvin "p" "saturation_pressure") ((), (none, [])) [⟨"QT", 0, 77300⟩]).2 ⟨"QT", 0, 77344⟩).1
      ≠ (ThermoKeyed.run p0World tenthKelvin "p" "saturation_pressure" () (none, []) ⟨"QT", 0, 77344⟩).1 :=
  ⟨fun h => absurd (h () ⟨"QT", 0, 77300⟩ ⟨"QT", 0, 77344⟩ (by decide)) (by decide), by decide +kernel⟩

/-- non-vacuity of `keyed_history_free`: the exact argument as the key -/
example : CoarseDetermines p0World (fun f => f) "p" := by
  intro o f f' h
  have h' : f = f' := h
  rw [h']

end ThermoKeyedSec

/-! ## The defect class "memoise into the public dictionary": witnesses -/

section MemoSec
open Thermo ThermoMemo

/-- a fluid whose backend knows the triple-point pressure (5) but whose dictionary has no `p_triple` entry -/
def memoWorld : Thermo.World ℕ (Dict ℕ) ℕ :=
  ⟨fun _ _ _ => none, fun _ name => if name = "PTRIPLE" then some 5 else none, fun o key => o.lookup key, fun l => l.headD 0, alwaysUpdate⟩

/-- the memoising accessor returns the right value but changes the adsorbate ... -/
theorem memo_changes_adsorbate :
    (runConstMemo memoWorld [] none "PTRIPLE" "p_triple").1 = (Thermo.run memoWorld [] none (.const "PTRIPLE" "p_triple" false)).1 ∧
    (runConstMemo memoWorld [] none "PTRIPLE" "p_triple").2.1 ≠ [] := by decide +kernel

/-- ... and changes the KIND of outcome of a later `calculate=False` look-up (error on a fresh adsorbate, value afterwards) -/
theorem memo_changes_outcome_kind :
    (Thermo.run memoWorld [] none (.lookup "p_triple")).1 = .calcErr ∧
    (Thermo.run memoWorld (runConstMemo memoWorld [] none "PTRIPLE" "p_triple").2.1 none (.lookup "p_triple")).1 = .ok 5 := by decide +kernel

omit [DecidableEq φ] in
/-- when the key is already stored the memoising accessor is indistinguishable from the real one (why the defect needs an
adsorbate WITHOUT the stored key to manifest) -/
theorem memo_invisible_when_key_stored (w : Thermo.World φ (Dict ρ) ρ) (o : Dict ρ) (h : Thermo.Hidden φ) (name key : String) (v : ρ)
    (hk : o.lookup key = some v) : (runConstMemo w o h name key).2.1 = o := by
  unfold runConstMemo
  cases w.K o name with
  | none => rfl
  | some x => simp [setdefault, hk]

end MemoSec

/-! ## The defect class "a read-only query binds a new name on the isotherm": invisible iff the name is reserved -/

section ExportSec
open ThermoMemo Export

omit [DecidableEq φ] in
/-- a name bound by a query is invisible in `to_dict()` (hence in the identifier, `==` and the exports) exactly when it is reserved -/
theorem bound_name_invisible_iff (reserved : List String) (vars : Dict ρ) (name : String) (v : ρ) (hn : vars.lookup name = none) :
    toDict reserved (setdefault vars name v) = toDict reserved vars ↔ name ∈ reserved := by
  unfold toDict setdefault
  simp only [hn, List.filter_append]
  by_cases h : name ∈ reserved <;> simp [h]

omit [DecidableEq φ] in
/-- an isotherm that stores its temperature in kelvin is untouched by the memoising read whatever the name: the defect needs
another stored unit to manifest -/
theorem readTemperature_kelvin_untouched (toKelvin : ρ → ρ) (stored : ρ) (memoName : String) (vars : Dict ρ) :
    readTemperature toKelvin "K" stored memoName vars = (stored, vars) := by
  simp [readTemperature]

omit [DecidableEq φ] in
/-- the memoising read returns the right value in every stored unit (no numerical query can see the defect) -/
theorem readTemperature_value (toKelvin : ρ → ρ) (unit : String) (stored : ρ) (memoName : String) (vars : Dict ρ) :
    (readTemperature toKelvin unit stored memoName vars).1 = if unit = "K" then stored else toKelvin stored := by
  unfold readTemperature
  split <;> rfl

/-- an isotherm at -196 °C (numbers scaled by 100): instance dictionary of the constructor, reserved names of `BaseIsotherm` -/
def celsiusVars : Dict ℤ := [("_temperature", -19600), ("pressure_unit", 1), ("user", 7)]
def reservedNames : List String := ["_material", "_adsorbate", "_temperature", "m", "t", "a"]

/-- the hypothesis of `bound_name_invisible_iff` on the witness isotherm: the memo name is not bound by the constructor -/
example : celsiusVars.lookup "_kelvin" = none := by decide +kernel

/-- witness (seedout7/C04-m1): stored in °C, the first read of the temperature adds a key to `to_dict()`; the same isotherm kept in
kelvin does not change; had the memo name been reserved, nothing would show -/
theorem memo_leaks_into_export :
    toDict reservedNames (readTemperature (· + 27315) "°C" (-19600) "_kelvin" celsiusVars).2 ≠ toDict reservedNames celsiusVars ∧
    (readTemperature (· + 27315) "°C" (-19600) "_kelvin" celsiusVars).1 = 7715 ∧
    toDict reservedNames (readTemperature (· + 27315) "K" 7715 "_kelvin" celsiusVars).2 = toDict reservedNames celsiusVars ∧
    toDict ("_kelvin" :: reservedNames) (readTemperature (· + 27315) "°C" (-19600) "_kelvin" celsiusVars).2 = toDict ("_kelvin" :: reservedNames) celsiusVars := by
  decide +kernel

end ExportSec

/-! ## Module-level caches of loaded curves and kernels -/

section LoadedSec
open Loaded
variable {ι κ ν : Type} [DecidableEq κ]

section
variable {keyOf : ι → κ} {loader : ι → ν} {c : Loaded.Hidden κ ν}

theorem sound_nil : Sound keyOf loader ([] : Loaded.Hidden κ ν) :=
  fun _ _ h => nomatch h

theorem load_outcome (hc : Sound keyOf loader c) (r : ι) : (load keyOf loader c r).1 = loader r := by
  unfold load
  cases h : c.lookup (keyOf r) with
  | none => rfl
  | some v => exact hc r v h

theorem load_sound (hk : KeyDetermines keyOf loader) (hc : Sound keyOf loader c) (r : ι) :
    Sound keyOf loader (load keyOf loader c r).2 := by
  unfold load
  cases h : c.lookup (keyOf r) with
  | some v => exact hc
  | none => exact lookup_cons_sound keyOf (fun r v => v = loader r) c hc _ _ fun r' e => hk r r' e.symm

end

/-- the module caches (`_LOADED`) are invisible: after any sequence of requests every request is answered as on a fresh module -/
theorem loaded_history_free (keyOf : ι → κ) (loader : ι → ν) (hk : KeyDetermines keyOf loader) (rs : List ι) (r : ι) :
    (load keyOf loader (Loaded.after keyOf loader [] rs) r).1 = (load keyOf loader [] r).1 :=
  foldl_history_free (load keyOf loader) (Sound keyOf loader) (fun _ r hc => load_sound hk hc r)
    (fun _ _ r hc hc' => (load_outcome hc r).trans (load_outcome hc' r).symm) sound_nil rs r

/-- the invariant is necessary: a cache keyed by the file NAME only (`keyOf = Prod.fst`) answers a request for another
file of the same name with the first file's content (seeded change C18-m2) -/
theorem keyDetermines_necessary :
    ¬ KeyDetermines (Prod.fst : String × ℕ → String) Prod.snd ∧
    (load (Prod.fst : String × ℕ → String) Prod.snd (Loaded.after Prod.fst Prod.snd [] [("kernel.csv", 1)]) ("kernel.csv", 2)).1
      ≠ (load (Prod.fst : String × ℕ → String) Prod.snd [] ("kernel.csv", 2)).1 :=
  ⟨fun h => absurd (h ("kernel.csv", 1) ("kernel.csv", 2) rfl) (by decide), by decide +kernel⟩


/-- a cache `keyOf r ↦ loader r` is invisible (every request after every history answered as on a fresh module)
EXACTLY when the key determines the content — any coarser key (a rounded number, a printed float, a file name without its directory,
`id()` of an object that may be replaced) is visible on some history of length one -/
theorem keyDetermines_iff_history_free (keyOf : ι → κ) (loader : ι → ν) :
    KeyDetermines keyOf loader ↔
      ∀ rs r, (load keyOf loader (Loaded.after keyOf loader [] rs) r).1 = (load keyOf loader [] r).1 := by
  refine ⟨loaded_history_free keyOf loader, fun h r r' e => ?_⟩
  · have := h [r] r'
    simp only [Loaded.after, List.foldl_cons, List.foldl_nil, load, List.lookup_nil, List.lookup_cons, e, beq_self_eq_true] at this
    exact this

/-- the same witness for a COARSENED numeric argument: a table keyed by the temperature rounded down to 0.1 K (temperatures in mK)
answers 77.344 K with the entry of 77.300 K -/
theorem coarsenedKey_not_transparent :
    ¬ KeyDetermines (fun t : ℕ => t / 100) (fun t => 13 * t) ∧
    (load (fun t : ℕ => t / 100) (fun t => 13 * t) (Loaded.after (fun t : ℕ => t / 100) (fun t => 13 * t) [] [77300]) 77344).1
      ≠ (load (fun t : ℕ => t / 100) (fun t => 13 * t) [] 77344).1 :=
  ⟨fun h => absurd (h 77300 77344 (by decide)) (by decide), by decide +kernel⟩

/-- non-vacuity: the code keys by the full name / path (`keyOf = id`), which determines the content -/
example (loader : String → ν) : KeyDetermines (id : String → String) loader := by
  intro r r' h
  simp only [id] at h
  rw [h]

end LoadedSec

/-! ## Session: interpolators, thermodynamic state and module caches together -/

section SessionSec
open Session
variable {ψ οi οa ι κ ν : Type} [DecidableEq κ]

theorem session_preserves_obs (w : Session.World φ ψ οi οa χ ρ ι κ ν) (o : Obs οi οa) (h : Hid φ ψ κ ν) (q : Session.Query φ ψ χ ι) :
    (Session.step w o h q).2.1 = o := by
  cases q with
  | iso q => rfl
  | ads q => exact congrArg (Obs.mk o.iso) (thermo_preserves_obs h.thermo q)
  | std r => rfl

/-- C04 for the modelled session: under the two invariants, after ANY history of interpolation queries, thermodynamic
accessor calls and reference-curve / kernel requests, issued in any order with any arguments, (a) the observable state
(isotherm content, adsorbate) is the original one and (b) every query has the outcome it has as the first call on fresh
objects with empty module caches -/
theorem session_history_free (w : Session.World φ ψ οi οa χ ρ ι κ ν) (hp : Thermo.FullUpdate w.ads.policy)
    (hk : Loaded.KeyDetermines w.keyOf w.loader) (o : Obs οi οa) (qs : List (Session.Query φ ψ χ ι)) (q : Session.Query φ ψ χ ι) :
    (afterG (Session.step w) (o, Session.fresh) qs).1 = o ∧
    (Session.step w (afterG (Session.step w) (o, Session.fresh) qs).1 (afterG (Session.step w) (o, Session.fresh) qs).2 q).1
      = (Session.step w o Session.fresh q).1 := by
  refine history_free_of_invariant (Session.step w)
    (fun o h => PgVerif.Model.Cache.Valid w.iso o.iso h.interp ∧ Loaded.Sound w.keyOf w.loader h.loaded)
    (session_preserves_obs w) ?_ ?_ o Session.fresh ⟨fresh_valid w.iso o.iso, sound_nil⟩ qs q
  · intro o h q hI
    cases q with
    | iso q => exact ⟨run_valid w.iso o.iso h.interp hI.1 q, hI.2⟩
    | ads q => exact hI
    | std r => exact ⟨hI.1, load_sound hk hI.2 r⟩
  · intro o h h' q hI hI'
    cases q with
    | iso q => exact congrArg Res.val (outcome_independent_of_hidden w.iso o.iso h.interp h'.interp hI.1 hI'.1 q)
    | ads q => exact congrArg Res.out (thermo_outcome_independent_of_hidden hp h.thermo h'.thermo q)
    | std r => exact congrArg Res.obj ((load_outcome hI.2 r).trans (load_outcome hI'.2 r).symm)

end SessionSec

end PgVerif.C04
