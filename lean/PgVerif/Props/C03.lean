/-
C03 — data accessors in requested units agree with permanent conversion.

Model: `Model/Access.lean` (read accessors), `Model/IsoState.lean` (permanent conversions), `Model/Units.lean`
(unit functions), `Model/SpreadPoint.lean` (`interpLin`).  Sections, in the order they stand (the last one rests on the first):
  A  linearity of `c_pressure`, `c_loading`, `c_material` in the value (`IsLinear`: read off the shape of the functions);
  B  branch and limit selection (`sliceBy`: the limits of data and of model isotherms with the comparison left open);
  C  branch guessing (`split_ads_data`);
  D  interpolation laws;
  E  accessor = read ∘ permanent conversion (`Follows`: a conversion follows a factor computation; the cores `pCore`/`lCore`/
     `mCore`, their resolved arguments and "a refused conversion changes nothing" are those of `Props/C02`), inputs in
     foreign units, findings S5a/S5b as witnesses.
Everything in A–D holds over any (ordered) field; E needs characteristic zero (unit factors are non-zero).
-/
import PgVerif.Model.Access
import PgVerif.Props.C01
import PgVerif.Props.C02
import Mathlib.Tactic

set_option linter.unusedSectionVars false
set_option linter.unusedSimpArgs false
set_option linter.unusedVariables false

namespace PgVerif.C03
open PgVerif.Model PgVerif.Gen

/-! ## A. Linearity of the unit functions -/

section Linear
variable {α : Type} [Field α]

lemma map_ok {β γ : Type} (f : β → γ) (x : β) : Except.map f (.ok x : Except Err β) = .ok (f x) := rfl
lemma map_error {β γ : Type} (f : β → γ) (e : Err) : Except.map f (.error e : Except Err β) = .error e := rfl

lemma bind_linear {β : Type} (x : Except Err β) (F : α → β → Except Err α) (v : α)
    (h : ∀ b, F v b = (F 1 b).map (fun f => v * f)) :
    (x >>= F v) = (x >>= F 1).map (fun f => v * f) := by
  cases x with
  | error e => rfl
  | ok b => exact h b

/-- the unit functions are built from checks that never see the value (`IsLinear.bind`, `IsLinear.ite`) around leaves
`pure (v * k)`, so they are linear by their shape; no branch of their decision chains needs to be entered -/
def IsLinear (F : α → Except Err α) : Prop := ∀ v, F v = (F 1).map (fun f => v * f)

lemma IsLinear.ok {g : α → α} (h : ∀ v, g v = v * g 1) : IsLinear fun v => (pure (g v) : Except Err α) :=
  fun v => congrArg Except.ok (h v)

lemma IsLinear.mul (k : α) : IsLinear fun v => (pure (v * k) : Except Err α) := .ok fun _ => by rw [one_mul]

lemma IsLinear.id : IsLinear fun v => (pure v : Except Err α) := .ok fun v => (mul_one v).symm

lemma IsLinear.error (e : Err) : IsLinear fun _ : α => (.error e : Except Err α) := fun _ => rfl

lemma IsLinear.bind {β : Type} (x : Except Err β) {F : α → β → Except Err α} (h : ∀ b, IsLinear (F · b)) :
    IsLinear fun v => x >>= F v :=
  fun v => bind_linear x F v fun b => h b v

lemma IsLinear.ite (c : Prop) [Decidable c] {F G : α → Except Err α} (hF : IsLinear F) (hG : IsLinear G) :
    IsLinear fun v => if c then F v else G v := by
  split
  · exact hF
  · exact hG

/-- a check `if c then let _ ← chk` in front of a linear computation -/
lemma IsLinear.guard {β : Type} (c : Prop) [Decidable c] (chk : Except Err β) {F : α → Except Err α}
    (hF : IsLinear F) : IsLinear fun v => if c then chk >>= fun _ => F v else F v :=
  .ite _ (.bind _ fun _ => hF) hF

lemma IsLinear.comp {F G : α → Except Err α} (hF : IsLinear F) (hG : IsLinear G) (v : α) :
    (F v >>= G) = (F 1 >>= fun f1 => G 1 >>= fun f2 => pure (f1 * f2)).map (fun f => v * f) := by
  rw [hF v]
  cases F 1 with
  | error e => rfl
  | ok f1 =>
    show G (v * f1) = Except.map _ (G 1 >>= fun f2 => pure (f1 * f2))
    rw [hG (v * f1)]
    cases G 1 with
    | error e => rfl
    | ok f2 => exact congrArg Except.ok (mul_assoc v f1 f2)

lemma cUnit_linear (t : List (String × Nat × Nat)) (uf ut : Option String) (sign : Int) :
    IsLinear fun v : α => cUnit t v uf ut sign :=
  .bind _ fun _ => .bind _ fun _ => .mul _

theorem cPressure_linear (psat : Option α) (t : Bool) (v : α) (mf mt uf ut : Option String) :
    cPressure psat t v mf mt uf ut = (cPressure psat t 1 mf mt uf ut).map (fun f => v * f) := by
  suffices h : IsLinear fun v => cPressure psat t v mf mt uf ut from h v
  unfold cPressure
  refine .bind _ fun (mfS, _) => .bind _ fun (mtS, _) =>
    .ite _ (.ite _ ?_ (.mul _)) (.ite _ (cUnit_linear _ _ _ _) .id)
  refine .guard _ _ (.guard _ _ (.ite _ (.error _) ?_))
  cases psat with
  | none => exact .error _
  | some ps => exact .bind _ fun _ => .mul _

theorem cMaterial_linear (env : Env α) (v : α) (bf bt uf ut : Option String) :
    cMaterial env v bf bt uf ut = (cMaterial env 1 bf bt uf ut).map (fun f => v * f) := by
  suffices h : IsLinear fun v => cMaterial env v bf bt uf ut from h v
  unfold cMaterial
  exact .bind _ fun (_, _) => .bind _ fun (_, _) =>
    .ite _ (.bind _ fun _ => .bind _ fun _ => .bind _ fun (_, _) => .ok fun v => by ring)
      (.ite _ (cUnit_linear _ _ _ _) .id)

theorem cLoading_linear (env : Env α) (v : α) (bf bt uf ut bm um : Option String) :
    cLoading env v bf bt uf ut bm um = (cLoading env 1 bf bt uf ut bm um).map (fun f => v * f) := by
  suffices h : IsLinear fun v => cLoading env v bf bt uf ut bm um from h v
  unfold cLoading
  refine .bind _ fun (bfS, tf) => .bind _ fun (btS, tt) => .ite _ ?_ (.ite _ ?_ .id)
  · -- whichever unit checks `tt`, `tf` call for, they come first; then the conversion proper
    cases tt <;> cases tf <;> repeat refine .bind (checkUnit _ _) fun _ => ?_
    all_goals
      refine .ite _ (.ok fun v => ?_) ?_
      · split <;> ring
      · exact .bind _ fun (_, _) => .bind _ fun _ => .bind _ fun _ => .ok fun v => by ring
  · cases tf
    · exact .error _
    · exact cUnit_linear _ _ _ _

end Linear

/-! ## B. Branch and limit selection -/

section Select
variable {α : Type} [Field α] [LinearOrder α]

lemma ads_not_all : ("ads".startsWith "all") = false := by decide +kernel
lemma des_not_all : ("des".startsWith "all") = false := by decide +kernel

theorem dataBranch_ads {β : Type} (rows : List (β × Nat)) :
    dataBranch rows (some "ads") = .ok ((rows.filter (·.2 = 0)).map (·.1)) := by
  simp [dataBranch, ads_not_all]

theorem dataBranch_des {β : Type} (rows : List (β × Nat)) :
    dataBranch rows (some "des") = .ok ((rows.filter (·.2 = 1)).map (·.1)) := by
  simp [dataBranch, des_not_all]

theorem dataBranch_all {β : Type} (rows : List (β × Nat)) (branch : Option String)
    (h : branch = none ∨ ∃ b, branch = some b ∧ b.startsWith "all" = true) :
    dataBranch rows branch = .ok (rows.map (·.1)) := by
  rcases h with rfl | ⟨b, rfl, hb⟩
  · rfl
  · simp [dataBranch, hb]

theorem dataBranch_bad {β : Type} (rows : List (β × Nat)) (b : String)
    (h1 : b.startsWith "all" = false) (h2 : b ≠ "ads") (h3 : b ≠ "des") :
    dataBranch rows (some b) = .error .param := by
  simp [dataBranch, h1, h2, h3]

theorem dataBranch_sublist {β : Type} (rows : List (β × Nat)) (branch : Option String) (out : List β)
    (h : dataBranch rows branch = .ok out) : out.Sublist (rows.map (·.1)) := by
  unfold dataBranch at h
  split at h
  · cases h; exact List.Sublist.refl _
  · split_ifs at h <;> cases h
    · exact List.Sublist.refl _
    · exact List.filter_sublist.map _
    · exact List.filter_sublist.map _

theorem applyLimits_none (vs : List α) : applyLimits vs none = vs := rfl

/-- the Python test `limits and any(limits)`: at least one bound is given and non-zero -/
def limitsActive (lo hi : Option α) : Prop := (∃ a, lo = some a ∧ a ≠ 0) ∨ (∃ b, hi = some b ∧ b ≠ 0)

/-- `any(limits)` as it is computed -/
def anyLimit (lo hi : Option α) : Bool := lo.any (· ≠ 0) || hi.any (· ≠ 0)

/-- the selection made by `applyLimits` (measured data: `r` is `≤`) and by `applyLimitsStrict` (model isotherms:
`r` is `<`); what is proved about limits is proved here, for any `r` -/
def sliceBy (r : α → α → Prop) [DecidableRel r] (vs : List α) : Option (Option α × Option α) → List α
  | none => vs
  | some (lo, hi) => if !anyLimit lo hi then vs else vs.filter fun v => lo.all (r · v) && hi.all (r v ·)

lemma applyLimits_eq_sliceBy (vs : List α) (l : Option (Option α × Option α)) :
    applyLimits vs l = sliceBy (· ≤ ·) vs l := by
  rcases l with _ | ⟨_ | _, _ | _⟩ <;> rfl

lemma applyLimitsStrict_eq_sliceBy (vs : List α) (l : Option (Option α × Option α)) :
    applyLimitsStrict vs l = sliceBy (· < ·) vs l := by
  rcases l with _ | ⟨_ | _, _ | _⟩ <;> rfl

lemma anyLimit_iff (lo hi : Option α) : anyLimit lo hi = true ↔ limitsActive lo hi := by
  simp only [anyLimit, limitsActive, Bool.or_eq_true, Option.any_eq_true, decide_eq_true_eq]

section SliceBy
variable (r : α → α → Prop) [DecidableRel r] (vs : List α)

lemma sliceBy_sublist (l : Option (Option α × Option α)) : (sliceBy r vs l).Sublist vs := by
  rcases l with _ | ⟨lo, hi⟩
  · exact .refl _
  · show (if _ then _ else _ : List α).Sublist vs
    split
    · exact .refl _
    · exact List.filter_sublist

lemma sliceBy_inactive {lo hi : Option α} (h : ¬ limitsActive lo hi) : sliceBy r vs (some (lo, hi)) = vs :=
  if_pos (by rwa [Bool.not_eq_true', ← Bool.not_eq_true, anyLimit_iff])

lemma mem_sliceBy (lo hi : Option α) (x : α) :
    x ∈ sliceBy r vs (some (lo, hi)) ↔
      x ∈ vs ∧ (limitsActive lo hi → (∀ a, lo = some a → r a x) ∧ (∀ b, hi = some b → r x b)) := by
  by_cases h : limitsActive lo hi
  · have : sliceBy r vs (some (lo, hi)) = vs.filter fun v => lo.all (r · v) && hi.all (r v ·) :=
      if_neg (by rwa [Bool.not_eq_true', Bool.not_eq_false, anyLimit_iff])
    simp only [this, List.mem_filter, Bool.and_eq_true, Option.all_eq_true, decide_eq_true_eq, imp_iff_right h]
  · rw [sliceBy_inactive r vs h]
    exact (and_iff_left fun h' => absurd h' h).symm

end SliceBy

theorem applyLimits_sublist (vs : List α) (l : Option (Option α × Option α)) : (applyLimits vs l).Sublist vs := by
  rw [applyLimits_eq_sliceBy]
  exact sliceBy_sublist _ vs l

/-- limits `(None, None)`, `(0, 0)`, `(None, 0)`, `(0, None)` select everything -/
theorem applyLimits_inactive (vs : List α) (lo hi : Option α) (h : ¬ limitsActive lo hi) :
    applyLimits vs (some (lo, hi)) = vs := by
  rw [applyLimits_eq_sliceBy]
  exact sliceBy_inactive _ vs h

theorem applyLimits_spec (vs : List α) (lo hi : Option α) (x : α) :
    x ∈ applyLimits vs (some (lo, hi)) ↔
      x ∈ vs ∧ (limitsActive lo hi → (∀ a, lo = some a → a ≤ x) ∧ (∀ b, hi = some b → x ≤ b)) := by
  rw [applyLimits_eq_sliceBy]
  exact mem_sliceBy _ vs lo hi x

theorem orderedForBranch_des {β : Type} (xs : List β) : orderedForBranch "des" xs = xs.reverse := by
  simp [orderedForBranch]

theorem orderedForBranch_other {β : Type} (branch : String) (h : branch ≠ "des") (xs : List β) :
    orderedForBranch branch xs = xs := by
  simp [orderedForBranch, h]

end Select

/-! ## C. Branch guessing: a function of the pressure sequence only, split at the first maximum

`splitAds : List α → List Nat` takes the pressures and nothing else, so by its type the marks cannot depend on
row labels, index dtypes or any other column (the Python reads the pressure column positionally). -/

section Split
variable {α : Type} [Field α] [LinearOrder α]

theorem splitAds_length (ps : List α) : (splitAds ps).length = ps.length := by
  unfold splitAds
  simp only []
  split_ifs <;> simp

theorem firstMaxIdx_spec (ps : List α) (hne : ps ≠ []) :
    ∃ hm : firstMaxIdx ps < ps.length,
      (∀ j (hj : j < ps.length), ps[j] ≤ ps[firstMaxIdx ps]) ∧
      (∀ j (hj : j < firstMaxIdx ps), ps[j]'(hj.trans hm) < ps[firstMaxIdx ps]) := by
  -- with the position named, its two values `0` and `m + 1` make the element lookups compute
  suffices h : ∀ m, firstMaxIdx ps = m → ∃ hm : m < ps.length,
      (∀ j (hj : j < ps.length), ps[j] ≤ ps[m]) ∧ ∀ j (hj : j < m), ps[j]'(hj.trans hm) < ps[m] from h _ rfl
  induction ps with
  | nil => exact absurd rfl hne
  | cons x t ih =>
    rcases t with _ | ⟨y, t⟩
    · rintro _ rfl
      exact ⟨Nat.zero_lt_one, fun j hj => by obtain rfl := Nat.lt_one_iff.mp hj; exact le_rfl, nofun⟩
    · obtain ⟨hm, hmax, hfirst⟩ := ih (List.cons_ne_nil _ _) _ rfl
      intro m h
      rw [firstMaxIdx, List.getD_eq_getElem?_getD, List.getElem?_eq_getElem hm, Option.getD_some] at h
      split at h <;> subst h
      · exact ⟨Nat.succ_pos _, fun j hj => by rcases j with _ | j; exacts [le_rfl, (hmax j _).trans ‹_›], nofun⟩
      · have hlt := lt_of_not_ge ‹_›
        exact ⟨Nat.succ_lt_succ hm, fun j hj => by rcases j with _ | j; exacts [hlt.le, hmax j _],
          fun j hj => by rcases j with _ | j; exacts [hlt, hfirst j (Nat.lt_of_succ_lt_succ hj)]⟩

/-- the marks: with `m` the position of the first pressure maximum —
* the maximum is the last point: everything is adsorption (0);
* the maximum is the first point (and there is more than one point): everything is desorption (1);
* otherwise points up to and including the maximum are adsorption, the rest desorption. -/
theorem splitAds_spec (ps : List α) :
    (firstMaxIdx ps + 1 = ps.length → splitAds ps = List.replicate ps.length 0) ∧
    (firstMaxIdx ps = 0 → ps.length ≠ 1 → splitAds ps = List.replicate ps.length 1) ∧
    (firstMaxIdx ps + 1 ≠ ps.length → firstMaxIdx ps ≠ 0 →
      ∀ i (hi : i < ps.length),
        (splitAds ps)[i]'(by rw [splitAds_length]; exact hi) = if i ≤ firstMaxIdx ps then 0 else 1) := by
  refine ⟨?_, ?_, ?_⟩
  · intro h; simp [splitAds, h]
  · intro h0 h1
    have : ¬ (1 = ps.length) := fun h => h1 h.symm
    simp [splitAds, h0, this]
  · intro h1 h0 i hi
    simp only [splitAds, h1, if_false, Nat.add_eq_right, h0, List.getElem_map, List.getElem_range]
    by_cases h : i ≤ firstMaxIdx ps
    · rw [if_pos h, if_neg (by omega)]
    · rw [if_neg h, if_pos (by omega)]

/-! non-vacuity of C on concrete sequences -/
example : splitAds ([1, 2, 3, 2, 1] : List ℚ) = [0, 0, 0, 1, 1] := by decide +kernel
example : splitAds ([5, 4, 3] : List ℚ) = [1, 1, 1] := by decide +kernel
example : splitAds ([1, 2, 3] : List ℚ) = [0, 0, 0] := by decide +kernel
/-- a repeated maximum splits at its FIRST occurrence -/
example : splitAds ([1, 3, 3, 1] : List ℚ) = [0, 0, 1, 1] := by decide +kernel
example : firstMaxIdx ([1, 2, 3, 2, 1] : List ℚ) = 2 := by decide +kernel

end Split

/-! ## D. Interpolation laws (`interpLin`, strictly increasing knots) -/

section Interp
variable {α : Type} [Field α] [LinearOrder α]

lemma interpLin_skip {p0 p1 x : α} (l0 l1 : α) (pt lt : List α) (h01 : p0 < p1) (hx : p1 < x) :
    interpLin (p0 :: p1 :: pt) (l0 :: l1 :: lt) x = interpLin (p1 :: pt) (l1 :: lt) x := by
  rw [interpLin, if_neg (h01.trans hx).not_gt, if_neg hx.not_ge]

lemma interpLin_head (p0 l0 : α) (pt lt : List α) (hs : (p0 :: pt).Pairwise (· < ·)) (hl : pt.length = lt.length) :
    interpLin (p0 :: pt) (l0 :: lt) p0 = some l0 := by
  cases pt with
  | nil =>
    obtain rfl := List.eq_nil_of_length_eq_zero hl.symm
    exact if_pos rfl
  | cons p1 pt =>
    obtain ⟨l1, lt, rfl⟩ := List.exists_cons_of_length_eq_add_one hl.symm
    rw [interpLin, if_neg (lt_irrefl _), if_pos (List.rel_of_pairwise_cons hs List.mem_cons_self).le, sub_self, mul_zero,
      add_zero]

lemma interpLin_between_strict (ps ls : List α) (hs : ps.Pairwise (· < ·)) (hl : ps.length = ls.length)
    (i : Nat) (hi : i + 1 < ps.length) (x : α) (h1 : ps[i]'(Nat.lt_of_succ_lt hi) < x) (h2 : x ≤ ps[i + 1]) :
    interpLin ps ls x =
      some (ls[i]'(hl ▸ Nat.lt_of_succ_lt hi) + (ls[i + 1]'(hl ▸ hi) - ls[i]'(hl ▸ Nat.lt_of_succ_lt hi)) /
        (ps[i + 1] - ps[i]'(Nat.lt_of_succ_lt hi)) * (x - ps[i]'(Nat.lt_of_succ_lt hi))) := by
  induction ps generalizing ls i with
  | nil => exact absurd hi (Nat.not_lt_zero _)
  | cons p0 pt ih =>
    obtain ⟨l0, lt, rfl⟩ := List.exists_cons_of_length_eq_add_one hl.symm
    obtain ⟨p1, pt, rfl⟩ := List.exists_cons_of_length_pos ((Nat.zero_le i).trans_lt (Nat.lt_of_succ_lt_succ hi))
    obtain ⟨l1, lt, rfl⟩ := List.exists_cons_of_length_eq_add_one (Nat.succ.inj hl).symm
    have h01 : p0 < p1 := List.rel_of_pairwise_cons hs List.mem_cons_self
    have hs' := hs.of_cons
    cases i with
    | zero => rw [interpLin, if_neg (show ¬ x < p0 from h1.not_gt), if_pos (show x ≤ p1 from h2)]; rfl
    | succ i =>
      have hp1 : p1 ≤ (p1 :: pt)[i]'(Nat.lt_of_succ_lt (Nat.lt_of_succ_lt_succ hi)) := by
        cases i with
        | zero => exact le_rfl
        | succ k => exact (List.rel_of_pairwise_cons hs' (List.getElem_mem _)).le
      rw [interpLin_skip _ _ _ _ h01 (hp1.trans_lt h1)]
      exact ih (l1 :: lt) hs' (Nat.succ.inj hl) i (Nat.lt_of_succ_lt_succ hi) h1 h2

theorem interpLin_at_knot (ps ls : List α) (hs : ps.Pairwise (· < ·)) (hl : ps.length = ls.length)
    (i : Nat) (hi : i < ps.length) : interpLin ps ls ps[i] = some (ls[i]'(hl ▸ hi)) := by
  cases i with
  | zero =>
    obtain ⟨p0, pt, rfl⟩ := List.exists_cons_of_length_pos hi
    obtain ⟨l0, lt, rfl⟩ := List.exists_cons_of_length_eq_add_one hl.symm
    exact interpLin_head p0 l0 pt lt hs (Nat.succ.inj hl)
  | succ i =>
    -- the right end of segment `i`
    have hlt : ps[i]'(Nat.lt_of_succ_lt hi) < ps[i + 1] := List.pairwise_iff_getElem.mp hs i (i + 1) _ hi (Nat.lt_succ_self i)
    rw [interpLin_between_strict ps ls hs hl i hi _ hlt le_rfl, div_mul_cancel₀ _ (sub_ne_zero.mpr hlt.ne'), add_sub_cancel]

theorem interpLin_between (ps ls : List α) (hs : ps.Pairwise (· < ·)) (hl : ps.length = ls.length)
    (i : Nat) (hi : i + 1 < ps.length) (x : α) (h1 : ps[i]'(Nat.lt_of_succ_lt hi) ≤ x) (h2 : x ≤ ps[i + 1]) :
    interpLin ps ls x =
      some (ls[i]'(hl ▸ Nat.lt_of_succ_lt hi) + (ls[i + 1]'(hl ▸ hi) - ls[i]'(hl ▸ Nat.lt_of_succ_lt hi)) /
        (ps[i + 1] - ps[i]'(Nat.lt_of_succ_lt hi)) * (x - ps[i]'(Nat.lt_of_succ_lt hi))) := by
  rcases eq_or_lt_of_le h1 with rfl | h
  · rw [interpLin_at_knot ps ls hs hl i, sub_self, mul_zero, add_zero]
  · exact interpLin_between_strict ps ls hs hl i hi x h h2

lemma segment_between [IsStrictOrderedRing α] (a b t : α) (h0 : 0 ≤ t) (h1 : t ≤ 1) :
    min a b ≤ a + (b - a) * t ∧ a + (b - a) * t ≤ max a b := by
  rcases le_total a b with h | h
  · rw [min_eq_left h, max_eq_right h]
    exact ⟨le_add_of_nonneg_right (mul_nonneg (sub_nonneg.2 h) h0),
      le_sub_iff_add_le'.mp (mul_le_of_le_one_right (sub_nonneg.2 h) h1)⟩
  · rw [min_eq_right h, max_eq_left h]
    exact ⟨sub_le_iff_le_add'.mp (le_mul_of_le_one_right (sub_nonpos.2 h) h1),
      add_le_of_nonpos_right (mul_nonpos_of_nonpos_of_nonneg (sub_nonpos.2 h) h0)⟩

theorem interpLin_between_bounds [IsStrictOrderedRing α] (ps ls : List α) (hs : ps.Pairwise (· < ·))
    (hl : ps.length = ls.length) (i : Nat) (hi : i + 1 < ps.length) (x : α) (h1 : ps[i] ≤ x) (h2 : x ≤ ps[i + 1]) :
    ∃ y, interpLin ps ls x = some y ∧
      min (ls[i]'(by omega)) (ls[i + 1]'(hl ▸ hi)) ≤ y ∧ y ≤ max (ls[i]'(by omega)) (ls[i + 1]'(hl ▸ hi)) := by
  refine ⟨_, interpLin_between ps ls hs hl i hi x h1 h2, ?_⟩
  have hd : 0 < ps[i + 1] - ps[i] :=
    sub_pos.mpr (List.pairwise_iff_getElem.mp hs i (i + 1) (Nat.lt_of_succ_lt hi) hi (Nat.lt_succ_self i))
  rw [div_mul_eq_mul_div, mul_div_assoc]
  exact segment_between _ _ _ (div_nonneg (sub_nonneg.mpr h1) hd.le) ((div_le_one hd).mpr (sub_le_sub_right h2 _))

lemma head_le_getLast (ps : List α) (hs : ps.Pairwise (· < ·)) (hne : ps ≠ []) : ps.head hne ≤ ps.getLast hne := by
  cases ps with
  | nil => exact absurd rfl hne
  | cons p0 t =>
    rcases List.mem_cons.mp (List.getLast_mem hne) with h | h
    · exact h.ge
    · exact (List.rel_of_pairwise_cons hs h).le

/-- `interpLin` has no fill rule (that is `interpFill`, `Props/C03/Fill.lean`) -/
theorem interpLin_outside (ps ls : List α) (hs : ps.Pairwise (· < ·)) (hne : ps ≠ []) (x : α)
    (h : x < ps.head hne ∨ ps.getLast hne < x) : interpLin ps ls x = none := by
  induction ps generalizing ls with
  | nil => exact absurd rfl hne
  | cons p0 pt ih =>
    rcases pt with _ | ⟨p1, pt⟩
    · -- a single knot answers at the knot only
      rcases ls with _ | ⟨l0, _ | _⟩ <;> try rfl
      exact if_neg (h.elim ne_of_lt ne_of_gt)
    · rcases ls with _ | ⟨l0, _ | ⟨l1, lt⟩⟩ <;> try rfl
      have h01 : p0 < p1 := List.rel_of_pairwise_cons hs List.mem_cons_self
      rcases h with h | h
      · exact if_pos h
      · have hp1 := head_le_getLast (p1 :: pt) hs.of_cons (List.cons_ne_nil _ _)
        rw [interpLin_skip _ _ _ _ h01 (hp1.trans_lt h)]
        exact ih (l1 :: lt) hs.of_cons (List.cons_ne_nil _ _) (Or.inr h)

/-! non-vacuity of D -/
example : interpLin ([1, 2, 4] : List ℚ) [10, 20, 60] 3 = some 40 := by decide +kernel
example : interpLin ([1, 2, 4] : List ℚ) [10, 20, 60] 2 = some 20 := by decide +kernel
example : interpLin ([1, 2, 4] : List ℚ) [10, 20, 60] 5 = none := by decide +kernel
example : interpLin ([1, 2, 4] : List ℚ) [10, 20, 60] (1 / 2) = none := by decide +kernel

end Interp

/-! ## E. Accessor = read ∘ permanent conversion -/

section Access
open PgVerif.Units
open PgVerif.C02 (pCore lCore mCore map_mul_one map_mul_mul)
variable {α : Type} [Field α] [CharZero α]

lemma orDefault_mode (a : Option String) (cur : String) : orDefault a (some cur) = some (orCurrent a cur) := by
  cases a with
  | none => rfl
  | some s => by_cases h : s = "" <;> simp [orDefault, orCurrent, truthy, h]

lemma orDefault_self (a : Option String) : orDefault a a = a := by
  unfold orDefault
  split <;> rfl

lemma orDefault_of_truthy {a cur : Option String} (h : truthy a = true) : orDefault a cur = a := by
  simp [orDefault, h]

lemma orDefault_of_falsy {a cur : Option String} (h : truthy a = false) : orDefault a cur = cur := by
  simp [orDefault, h]

lemma checkUnit_falsy (t : List (String × Nat × Nat)) (u : Option String) (h : truthy u = false) :
    (checkUnit t u : Except Err α) = .error .param := by
  cases u with
  | none => rfl
  | some s => simp [truthy] at h; subst h; rfl

/-- the part of the constructor's label validation (`BaseIsotherm.__init__`) that concerns pressure:
a supported mode; a supported unit when absolute; no unit when relative (the constructor forces `None`,
`convertPressure` keeps it so) -/
structure PLabelsOk (lab : Labels) : Prop where
  mode : (pressureMode.lookup lab.pmode).isSome = true
  unit_abs : lab.pmode = "absolute" → ∃ u, lab.punit = some u ∧ (pressureUnits.lookup u).isSome = true
  unit_rel : lab.pmode ≠ "absolute" → truthy lab.punit = false

lemma cPressure_id_of_valid (psat : Option α) (t : Bool) (v : α) (lab : Labels) (h : PLabelsOk lab) :
    cPressure psat t v (some lab.pmode) (some lab.pmode) lab.punit lab.punit = .ok v := by
  obtain ⟨tb, hb⟩ := checkBasis_of_lookup (by decide) h.mode
  rw [Units.cPressure_same psat t v _ _ hb hb]
  by_cases hm : lab.pmode = "absolute"
  · obtain ⟨u, hu, hl⟩ := h.unit_abs hm
    have hu0 := lookup_ne_empty (by decide) hl
    obtain ⟨e, he⟩ := Option.isSome_iff_exists.mp hl
    have hf : (facOf pressureUnits u : Option α) = some ((e.1 : α) / (e.2 : α)) := by simp [facOf, he]
    rw [hu, cUnit_ok pressureUnits v u u _ _ 1 hu0 hu0 hf hf, div_self (facOf_ne_zero _ pressure_ok _ _ hf), one_zpow,
      mul_one, ite_self]
  · rw [decide_eq_false hm, Bool.and_false]
    rfl

/-- the target unit matters only when the target mode is absolute -/
lemma cPressure_ut_irrel (psat : Option α) (t : Bool) (v : α) (a b : String) (uf ut1 ut2 : Option String)
    (hab : a ≠ b) (h : b = "absolute" → truthy ut1 = false ∧ truthy ut2 = false) :
    cPressure psat t v (some a) (some b) uf ut1 = cPressure psat t v (some a) (some b) uf ut2 := by
  rcases checkBasis_some pressureMode a with ⟨e, ha⟩ | ⟨ta, ha⟩
  · unfold cPressure; rw [ha]; exact Eq.refl (Except.error e)
  rcases checkBasis_some pressureMode b with ⟨e, hb⟩ | ⟨tb, hb⟩
  · unfold cPressure; rw [ha, hb]; exact Eq.refl (Except.error e)
  by_cases hb1 : b = "absolute"
  · -- both target units fail the check of the absolute side
    obtain ⟨h1, h2⟩ := h hb1
    have hna : ¬ a = "absolute" := fun h' => hab (h'.trans hb1.symm)
    rw [cPressure_abs psat t v uf ut1 ha hb hab (.inr hb1), cPressure_abs psat t v uf ut2 ha hb hab (.inr hb1)]
    simp only [if_neg hna, checkUnit_falsy _ _ h1, checkUnit_falsy _ _ h2]
    rfl
  · by_cases ha1 : a = "absolute"
    · rw [cPressure_abs psat t v uf ut1 ha hb hab (.inl ha1), cPressure_abs psat t v uf ut2 ha hb hab (.inl ha1)]
      simp only [if_pos ha1]
    · rw [cPressure_rel psat t v uf ut1 ha hb hab ha1 hb1, cPressure_rel psat t v uf ut2 ha hb hab ha1 hb1]

/-- the permanent conversion `r` follows the factor computation `x`: accepted, the column `col` being `base` scaled by
the factor, or refused with the factor's error as `w` re-wraps it -/
def Follows (col : Iso α → List α) (w : Err → Err) (base : List α) (x : Except Err α) (r : Iso α × Outcome) : Prop :=
  match x with
  | .ok f => r.2 = .ok ∧ col r.1 = base.map (· * f)
  | .error e => r.2 = .err (w e)

lemma Follows.clauses {col : Iso α → List α} {w : Err → Err} {base : List α} {x : Except Err α} {r : Iso α × Outcome}
    {acc : α → Except Err α} (h : Follows col w base x r)
    (hacc : ∀ v, acc v = match (generalizing := false) x with | .ok f => .ok (v * f) | .error e => .error (w e)) :
    (∀ s', r = (s', .ok) → ∃ f, col s' = base.map (· * f) ∧ ∀ v, acc v = .ok (v * f)) ∧
    (∀ v e, acc v = .error e → r.2 = .err e) ∧
    (∀ s' e, r = (s', .err e) → ∀ v, acc v = .error e) := by
  cases x with
  | ok f =>
    refine ⟨fun s' hs' => ⟨f, ?_, hacc⟩, fun v e he => ?_, fun s' e hs' => ?_⟩
    · rw [hs'] at h; exact h.2
    · rw [hacc] at he; cases he
    · rw [hs'] at h; cases h.1
  | error e0 =>
    refine ⟨fun s' hs' => ?_, fun v e he => ?_, fun s' e hs' v => ?_⟩
    · rw [hs'] at h; cases h
    · rw [hacc] at he; cases he; exact h
    · rw [hs'] at h; cases h; exact hacc v

/-- the single factor both sides are built from: `c_pressure(1, stored → requested)` -/
def pFactor (c : Ctx α) (lab : Labels) (pm pu : Option String) : Except Err α :=
  cPressure c.psat c.tempOk (1 : α) (some lab.pmode) (some (orCurrent pm lab.pmode)) lab.punit (orDefault pu lab.punit)

lemma accessPressure_eq_factor (c : Ctx α) (lab : Labels) (v : α) (pm pu : Option String)
    (harg : truthy pm = true ∨ truthy pu = true) :
    accessPressure c lab v pm pu =
      match pFactor c lab pm pu with
      | .ok f => .ok (v * f)
      | .error _ => .error .calc := by
  have : (truthy pm || truthy pu) = true := by simpa using harg
  unfold accessPressure pFactor
  rw [if_pos this, orDefault_mode, cPressure_linear]
  cases cPressure c.psat c.tempOk (1 : α) (some lab.pmode) (some (orCurrent pm lab.pmode)) lab.punit
    (orDefault pu lab.punit) <;> rfl

/-- `unit_to` after the defaulting rule of the `convert_*` methods -/
def unitArg (u : Option String) (same : Bool) (cur : Option String) : Option String :=
  if !truthy u && same then cur else u

lemma unitArg_truthy {u : Option String} (h : truthy u = true) (same : Bool) (cur : Option String) :
    unitArg u same cur = u := by simp [unitArg, h]

/-- the rule leaves the argument as given unless it resolved an omitted unit to the current one -/
lemma unitArg_eq_of_not_same {u cur : Option String} {same : Prop} [Decidable same]
    (h : ¬ (same ∧ unitArg u (decide same) cur = cur)) : unitArg u (decide same) cur = u := by
  by_cases hs : same <;> cases ht : truthy u <;> simp_all [unitArg]

lemma unitArg_same_cases {u cur : Option String} {same : Bool} (h : unitArg u same cur = cur) :
    truthy u = false ∨ cur = u := by
  cases ht : truthy u
  · exact .inl rfl
  · exact .inr (by rw [unitArg_truthy ht] at h; exact h.symm)

/-- the same rule under the name `Props/C02` states the cores of the conversions with -/
lemma unitArg_eq : @unitArg = @C02.unitArg := rfl

lemma convertPressure_follows (c : Ctx α) (s : Iso α) (pm pu : Option String) (hlab : PLabelsOk s.lab) :
    Follows Iso.ps (fun _ => .calc) s.ps (pFactor c s.lab pm pu) (convertPressure c s pm pu) := by
  rw [C02.convertPressure_core, ← unitArg_eq]
  unfold pCore pFactor
  split
  next h =>
    -- same representation: the factor is 1
    rw [h.1, (unitArg_same_cases h.2).elim orDefault_of_falsy fun hu => by rw [← hu]; exact orDefault_self _,
      cPressure_id_of_valid _ _ _ _ hlab]
    exact ⟨rfl, (map_mul_one _).symm⟩
  next h =>
    rw [unitArg_eq_of_not_same h]
    have : cPressure c.psat c.tempOk (1 : α) (some s.lab.pmode) (some (orCurrent pm s.lab.pmode)) s.lab.punit
        (orDefault pu s.lab.punit) = cPressure c.psat c.tempOk (1 : α) (some s.lab.pmode)
        (some (orCurrent pm s.lab.pmode)) s.lab.punit pu := by
      cases ht : truthy pu
      · -- an omitted unit with a changed mode: the stored label stands in, and neither is looked at
        have hm : s.lab.pmode ≠ orCurrent pm s.lab.pmode := fun hm =>
          h ⟨hm.symm, by simp [unitArg, ht, hm.symm]⟩
        rw [orDefault_of_falsy ht]
        exact cPressure_ut_irrel _ _ _ _ _ _ _ _ hm fun habs => ⟨hlab.unit_rel fun h' => hm (h'.trans habs.symm), ht⟩
      · rw [orDefault_of_truthy ht]
    rw [this]
    cases cPressure c.psat c.tempOk (1 : α) (some s.lab.pmode) (some (orCurrent pm s.lab.pmode)) s.lab.punit pu
    · rfl
    · exact ⟨rfl, rfl⟩

lemma accessPressure_error {c : Ctx α} {lab : Labels} {v : α} {pm pu : Option String} {e : Err}
    (h : accessPressure c lab v pm pu = .error e) : e = .calc := by
  unfold accessPressure at h
  split at h
  · split at h <;> cases h
    rfl
  · cases h

/-- **accessor = read ∘ permanent conversion (pressure)**, for ALL argument strings, on a state whose pressure
labels passed the constructor's validation:
* if the permanent conversion succeeds, it multiplied the pressure column by one factor `f` (`f = 1` on the
  early-return path "same representation") and the accessor returns `v * f` for every stored value `v`;
* if the accessor is refused it is with a `CalculationError`, and the permanent conversion is refused with the same class;
* conversely a refused permanent conversion means a refused accessor. -/
theorem accessPressure_eq_convert (c : Ctx α) (s : Iso α) (pm pu : Option String)
    (harg : truthy pm = true ∨ truthy pu = true) (hlab : PLabelsOk s.lab) :
    (∀ s', convertPressure c s pm pu = (s', .ok) →
      ∃ f, s'.ps = s.ps.map (· * f) ∧ ∀ v, accessPressure c s.lab v pm pu = .ok (v * f)) ∧
    (∀ v e, accessPressure c s.lab v pm pu = .error e →
      e = .calc ∧ convertPressure c s pm pu = (s, .err .calc)) ∧
    (∀ s' e, convertPressure c s pm pu = (s', .err e) →
      e = .calc ∧ s' = s ∧ ∀ v, accessPressure c s.lab v pm pu = .error .calc) := by
  obtain ⟨h1, h2, h3⟩ := (convertPressure_follows c s pm pu hlab).clauses
    fun v => accessPressure_eq_factor c s.lab v pm pu harg
  -- a refused `convert_pressure` leaves the state as it was (C02)
  have hkeep := C02.convertPressure_refused_unchanged c s pm pu
  refine ⟨h1, fun v e he => ?_, fun s' e hs' => ?_⟩
  · obtain rfl := accessPressure_error he
    have h2 := h2 v _ he
    exact ⟨rfl, Prod.ext (hkeep (by rw [h2]; nofun)) h2⟩
  · obtain rfl := accessPressure_error (h3 s' e hs' 0)
    rw [hs'] at hkeep
    exact ⟨rfl, hkeep nofun, h3 s' _ hs'⟩

/-! ### loading -/

lemma cMaterial_id_of_valid (env : Env α) (v : α) (b : String) (uf ut : Option String)
    (hb : (materialMode.lookup b).isSome = true) (hu : truthy ut = false ∨ uf = ut) :
    cMaterial env v (some b) (some b) uf ut = .ok v := by
  obtain ⟨t, ht⟩ := checkBasis_of_lookup (by decide) hb
  unfold cMaterial
  rcases hu with hu | hu <;> simp [ht, hu, bind, Except.bind, pure, Except.pure]

lemma cLoading_id_of_valid (env : Env α) (v : α) (b : String) (uf ut bm um : Option String)
    (hb : (loadingMode.lookup b).isSome = true) (hu : truthy ut = false ∨ uf = ut) :
    cLoading env v (some b) (some b) uf ut bm um = .ok v := by
  obtain ⟨t, ht⟩ := checkBasis_of_lookup (by decide) hb
  unfold cLoading
  rcases hu with hu | hu <;> simp [ht, hu, bind, Except.bind, pure, Except.pure]

lemma cMaterial_diff_needs_unit (env : Env α) (v : α) (a b : String) (uf ut : Option String) (hab : a ≠ b)
    (hu : truthy ut = false) (f : α) : cMaterial env v (some a) (some b) uf ut ≠ .ok f := by
  rcases checkBasis_some materialMode a with ⟨e, ha⟩ | ⟨ta, ha⟩
  · rw [cMaterial, ha]; nofun
  rcases checkBasis_some materialMode b with ⟨e, hb⟩ | ⟨tb, hb⟩
  · rw [cMaterial, ha, hb]; nofun
  rw [cMaterial_change env v uf ut ha hb hab, checkUnit_falsy _ _ hu]
  nofun

/-- the factor of the material step: `c_material(1, stored → requested)` with the unit as given -/
def mFactor (c : Ctx α) (lab : Labels) (mb mu : Option String) : Except Err α :=
  cMaterial c.env (1 : α) (some lab.mbasis) (some (orCurrent mb lab.mbasis)) lab.munit mu

/-- labels after a successful `convert_material` on a physical loading -/
def labAfterM (lab : Labels) (mb mu : Option String) : Labels :=
  { lab with mbasis := orCurrent mb lab.mbasis,
             munit := unitArg mu (decide (orCurrent mb lab.mbasis = lab.mbasis)) lab.munit }

/-- the factor of the loading step: `c_loading(1, stored → requested)` with the material of `lab` -/
def lFactor (c : Ctx α) (lab : Labels) (lb lu : Option String) : Except Err α :=
  cLoading c.env (1 : α) (some lab.lbasis) (some (orCurrent lb lab.lbasis)) lab.lunit lu (some lab.mbasis) lab.munit

lemma convertMaterial_follows (c : Ctx α) (s : Iso α) (mb mu : Option String)
    (hF : isFrac s.lab.lbasis = false) (hM : (materialMode.lookup s.lab.mbasis).isSome = true) :
    match mFactor c s.lab mb mu with
    | .ok f => ∃ s2, convertMaterial c s mb mu = (s2, .ok) ∧ s2.ls = s.ls.map (· * f) ∧ s2.lab = labAfterM s.lab mb mu
    | .error e => convertMaterial c s mb mu = (s, .err e) := by
  rw [C02.convertMaterial_core, ← unitArg_eq]
  unfold mCore mFactor labAfterM
  simp only [hF, Bool.false_and, Bool.false_eq_true, if_false]
  split_ifs with h
  · obtain ⟨h1, h2⟩ := h
    rw [h1] at h2 ⊢
    rw [h2, cMaterial_id_of_valid _ _ _ _ _ hM (unitArg_same_cases h2)]
    exact ⟨s, rfl, (map_mul_one _).symm, rfl⟩
  · rw [unitArg_eq_of_not_same h]
    cases cMaterial c.env (1 : α) (some s.lab.mbasis) (some (orCurrent mb s.lab.mbasis)) s.lab.munit mu
    · rfl
    · exact ⟨_, rfl, by simp only [mul_one], rfl⟩

lemma convertLoading_follows (c : Ctx α) (s : Iso α) (lb lu : Option String)
    (hL : (loadingMode.lookup s.lab.lbasis).isSome = true)
    (hfr : isFrac s.lab.lbasis = true → orCurrent lb s.lab.lbasis = s.lab.lbasis →
      truthy lu = false ∨ s.lab.lunit = lu) :
    Follows Iso.ls id s.ls (lFactor c s.lab lb lu) (convertLoading c s lb lu) := by
  rw [C02.convertLoading_core, ← unitArg_eq]
  unfold lCore lFactor
  split
  next h =>
    rw [h.1, cLoading_id_of_valid _ _ _ _ _ _ _ hL (unitArg_same_cases h.2)]
    exact ⟨rfl, (map_mul_one _).symm⟩
  next h =>
    split
    next h2 =>
      -- a fraction stays a fraction: the unit argument is ignored
      have h2 : isFrac s.lab.lbasis = true ∧ orCurrent lb s.lab.lbasis = s.lab.lbasis := by simpa using h2
      rw [h2.2, cLoading_id_of_valid _ _ _ _ _ _ _ hL (hfr h2.1 h2.2)]
      exact ⟨rfl, (map_mul_one _).symm⟩
    next =>
      rw [unitArg_eq_of_not_same h]
      cases cLoading c.env (1 : α) (some s.lab.lbasis) (some (orCurrent lb s.lab.lbasis)) s.lab.lunit lu
        (some s.lab.mbasis) s.lab.munit
      · rfl
      · exact ⟨rfl, rfl⟩

lemma orCurrent_falsy {a : Option String} (h : truthy a = false) (cur : String) : orCurrent a cur = cur := by
  cases a with
  | none => rfl
  | some x => simp [truthy] at h; simp [orCurrent, h]

lemma labAfterM_falsy (lab : Labels) {mb mu : Option String} (h1 : truthy mb = false) (h2 : truthy mu = false) :
    labAfterM lab mb mu = lab := by
  simp [labAfterM, orCurrent_falsy h1, unitArg, h2]

/-- the single factor of `loading(...)` / the output side of `ModelIsotherm.loading_at`:
material factor, then loading factor evaluated with the labels the material step leaves behind -/
def tFactor (c : Ctx α) (lab : Labels) (lb lu mb mu : Option String) : Except Err α :=
  (if truthy mb || truthy mu then mFactor c lab mb mu else .ok 1) >>= fun f1 =>
    (if truthy lb || truthy lu then lFactor c (labAfterM lab mb mu) lb lu else .ok 1) >>= fun f2 => .ok (f1 * f2)

/-- the accessor multiplies by `tFactor`: two linear steps in a row.  The loading step is handed `orDefault mu munit`
where `labAfterM` has `unitArg mu …`; they differ only where the material step has already been refused -/
lemma accessLoadingTarget_eq_factor (c : Ctx α) (lab : Labels) (v : α) (lb lu mb mu : Option String) :
    accessLoadingTarget c lab v lb lu mb mu = (tFactor c lab lb lu mb mu).map (fun f => v * f) := by
  unfold accessLoadingTarget tFactor mFactor lFactor labAfterM
  by_cases hm : (truthy mb || truthy mu) = true
  · simp only [hm, if_true]
    refine (IsLinear.comp (fun v => cMaterial_linear ..) ?_ v).trans (congrArg _ ?_)
    · exact .ite _ (fun v => cLoading_linear ..) .id
    · simp only [orDefault_mode]
      cases hf1 : cMaterial c.env (1 : α) (some lab.mbasis) (some (orCurrent mb lab.mbasis)) lab.munit mu with
      | error e => exact Eq.refl (Except.error e)  -- stated so: `rfl` compares the two continuations first
      | ok f1 =>
        have hum : orDefault mu lab.munit = unitArg mu (decide (orCurrent mb lab.mbasis = lab.mbasis)) lab.munit := by
          cases ht : truthy mu
          · by_cases hb : orCurrent mb lab.mbasis = lab.mbasis
            · simp [orDefault, unitArg, ht, hb]
            · exact absurd hf1 (cMaterial_diff_needs_unit _ _ _ _ _ _ (Ne.symm hb) ht f1)
          · simp [orDefault, unitArg, ht]
        rw [hum]
        rfl
  · have hm' : truthy mb = false ∧ truthy mu = false := by simpa using hm
    simp only [hm, Bool.false_eq_true, if_false]
    refine (IsLinear.comp .id ?_ v).trans (congrArg _ ?_)
    · exact .ite _ (fun v => cLoading_linear ..) .id
    · simp only [orDefault_mode, orCurrent_falsy hm'.1, orDefault_of_falsy hm'.2, unitArg, hm'.2, Bool.not_false,
        Bool.true_and, decide_true, if_true]
      rfl

lemma convertAll_none (c : Ctx α) (s : Iso α) (lb lu mb mu : Option String) :
    convertAll c s none none lb lu mb mu =
      match (if truthy mb || truthy mu then convertMaterial c s mb mu else (s, .ok)) with
      | (s2, .err e) => (s2, .err e)
      | (s2, .ok) => if truthy lb || truthy lu then convertLoading c s2 lb lu else (s2, .ok) := rfl

/-- the loading step of `convert` after a material step that multiplied the loadings by `f1` -/
lemma loadingTail_follows (c : Ctx α) (s s2 : Iso α) (f1 : α) (lb lu : Option String)
    (hls : s2.ls = s.ls.map (· * f1)) (hL2 : (loadingMode.lookup s2.lab.lbasis).isSome = true)
    (hfr2 : isFrac s2.lab.lbasis = true → orCurrent lb s2.lab.lbasis = s2.lab.lbasis →
      truthy lu = false ∨ s2.lab.lunit = lu) :
    Follows Iso.ls id s.ls
      ((if truthy lb || truthy lu then lFactor c s2.lab lb lu else .ok 1) >>= fun f2 => .ok (f1 * f2))
      (if truthy lb || truthy lu then convertLoading c s2 lb lu else (s2, .ok)) := by
  split
  · have h := convertLoading_follows c s2 lb lu hL2 hfr2
    cases hf : lFactor c s2.lab lb lu with
    | error e => rw [hf] at h; exact h
    | ok f2 => rw [hf] at h; exact ⟨h.1, by rw [h.2, hls, map_mul_mul]⟩
  · exact ⟨rfl, by rw [hls, mul_one]⟩

/-- `convert(loading…, material…)` follows `tFactor`, whenever a material change is requested only for a physical stored
loading, and a stored fraction/percent is not asked for a (meaningless) unit -/
lemma convertAll_follows (c : Ctx α) (s : Iso α) (lb lu mb mu : Option String)
    (hL : (loadingMode.lookup s.lab.lbasis).isSome = true) (hM : (materialMode.lookup s.lab.mbasis).isSome = true)
    (hMF : (truthy mb || truthy mu) = true → isFrac s.lab.lbasis = false)
    (hfr : isFrac s.lab.lbasis = true → orCurrent lb s.lab.lbasis = s.lab.lbasis → truthy lu = false ∨ s.lab.lunit = lu) :
    Follows Iso.ls id s.ls (tFactor c s.lab lb lu mb mu) (convertAll c s none none lb lu mb mu) := by
  rw [convertAll_none]
  unfold tFactor
  by_cases hm : (truthy mb || truthy mu) = true
  · have h := convertMaterial_follows c s mb mu (hMF hm) hM
    simp only [hm, if_true]
    cases hf1 : mFactor c s.lab mb mu with
    | error e => rw [hf1] at h; rw [h]; rfl
    | ok f1 =>
      rw [hf1] at h
      obtain ⟨s2, hc, hls, hlab⟩ := h
      rw [hc, ← hlab]
      refine loadingTail_follows c s s2 f1 lb lu hls (hlab ▸ hL) fun hfrac => ?_
      rw [hlab, show isFrac (labAfterM s.lab mb mu).lbasis = false from hMF hm] at hfrac
      cases hfrac
  · have hm' : truthy mb = false ∧ truthy mu = false := by simpa using hm
    simp only [hm, Bool.false_eq_true, if_false]
    rw [labAfterM_falsy s.lab hm'.1 hm'.2]
    exact loadingTail_follows c s s 1 lb lu (map_mul_one _).symm hL hfr

/-- **accessor = read ∘ permanent conversion (loading, physical stored basis)**, for ALL argument strings:
`loading(loading_basis, loading_unit, material_basis, material_unit)` (and the output side of
`ModelIsotherm.loading_at`) against `convert(loading_basis=…, loading_unit=…, material_basis=…, material_unit=…)`
(material step, then loading step) on a state whose stored loading basis is physical:
* if the permanent conversion succeeds it multiplied the loading column by one factor `f`, and the accessor returns
  `v * f` for every stored value `v`;
* if the accessor is refused, the permanent conversion is refused with the SAME error class;
* conversely a refused permanent conversion means the accessor is refused with the same class.
No condition on the argument shape is needed (omitted units, explicitly repeated current basis, … all agree);
the label hypotheses are the constructor's validation. -/
theorem accessLoadingTarget_eq_convert (c : Ctx α) (s : Iso α) (lb lu mb mu : Option String)
    (hF : isFrac s.lab.lbasis = false)
    (hL : (loadingMode.lookup s.lab.lbasis).isSome = true) (hM : (materialMode.lookup s.lab.mbasis).isSome = true) :
    (∀ s', convertAll c s none none lb lu mb mu = (s', .ok) →
      ∃ f, s'.ls = s.ls.map (· * f) ∧ ∀ v, accessLoadingTarget c s.lab v lb lu mb mu = .ok (v * f)) ∧
    (∀ v e, accessLoadingTarget c s.lab v lb lu mb mu = .error e →
      (convertAll c s none none lb lu mb mu).2 = .err e) ∧
    (∀ s' e, convertAll c s none none lb lu mb mu = (s', .err e) →
      ∀ v, accessLoadingTarget c s.lab v lb lu mb mu = .error e) :=
  (convertAll_follows c s lb lu mb mu hL hM (fun _ => hF) (fun h => by rw [hF] at h; cases h)).clauses fun v => by
    rw [accessLoadingTarget_eq_factor]; cases tFactor c s.lab lb lu mb mu <;> rfl

/-- **stored fraction / percent** (partial): the same three clauses hold when the material representation is not
changed (`material_basis`, `material_unit` omitted) and the request does not attach a loading unit to an unchanged
fraction/percent basis.  What is missing, and why:
* a material change on a stored fraction — the clause is FALSE there, see `S5_witness` (finding S5a);
* `loading_unit` given while the basis stays fraction/percent — the permanent conversion silently ignores the unit
  ("no loading units in this mode") but the accessor raises `TypeError`, see `fraction_unit_witness`. -/
theorem accessLoadingTarget_fraction_partial (c : Ctx α) (s : Iso α) (lb lu mb mu : Option String)
    (hmb : truthy mb = false) (hmu : truthy mu = false)
    (hL : (loadingMode.lookup s.lab.lbasis).isSome = true) (hM : (materialMode.lookup s.lab.mbasis).isSome = true)
    (hfr : isFrac s.lab.lbasis = true → orCurrent lb s.lab.lbasis = s.lab.lbasis → truthy lu = false ∨ s.lab.lunit = lu) :
    (∀ s', convertAll c s none none lb lu mb mu = (s', .ok) →
      ∃ f, s'.ls = s.ls.map (· * f) ∧ ∀ v, accessLoadingTarget c s.lab v lb lu mb mu = .ok (v * f)) ∧
    (∀ v e, accessLoadingTarget c s.lab v lb lu mb mu = .error e →
      (convertAll c s none none lb lu mb mu).2 = .err e) ∧
    (∀ s' e, convertAll c s none none lb lu mb mu = (s', .err e) →
      ∀ v, accessLoadingTarget c s.lab v lb lu mb mu = .error e) :=
  (convertAll_follows c s lb lu mb mu hL hM (fun h => by simp [hmb, hmu] at h) hfr).clauses fun v => by
    rw [accessLoadingTarget_eq_factor]; cases tFactor c s.lab lb lu mb mu <;> rfl

/-! ### quantities supplied by the caller in foreign units -/

lemma abs_unit_ne_empty {tbl : List (String × Nat × Nat)} {ps sb : α} {u : String}
    (hb : (Spec.PRep.abs u).scale tbl ps = some sb) : u ≠ "" := by
  rintro rfl; cases hb

open PgVerif.Spec (PRep) in
/-- the pressure accessor in SI terms: stored representation `a`, requested representation `b`
(`pm` may be omitted when the mode does not change; `pu` is the unit label of `b`) -/
theorem accessPressure_SI (c : Ctx α) (lab : Labels) (ps : α) (hps : ps ≠ 0) (hpsat : c.psat = some ps)
    (ht : c.tempOk = true) (a b : PRep) (sa sb : α)
    (ha : a.scale Spec.pressureUnits ps = some sa) (hb : b.scale Spec.pressureUnits ps = some sb)
    (hmode : lab.pmode = a.mode) (hunit : lab.punit = a.unit)
    (pm pu : Option String) (harg : truthy pm = true ∨ truthy pu = true)
    (hpm : orCurrent pm lab.pmode = b.mode) (hpu : pu = b.unit) (v : α) :
    accessPressure c lab v pm pu = .ok (v * sa / sb) := by
  have hcond : (truthy pm || truthy pu) = true := by simpa using harg
  unfold accessPressure
  rw [if_pos hcond, orDefault_mode, hpm, hmode, hunit, hpsat, ht]
  suffices h : cPressure (some ps) true v (some a.mode) (some b.mode) a.unit (orDefault pu a.unit) = .ok (v * sa / sb) by
    rw [h]
  cases b with
  | abs u =>
    have hu : truthy pu = true := by simp [hpu, Spec.PRep.unit, truthy, abs_unit_ne_empty hb]
    rw [orDefault_of_truthy hu, hpu]
    exact C01.cPressure_SI ps v hps a (.abs u) sa sb ha hb
  -- a relative representation carries whatever unit label it is handed
  | rel ul => exact C01.cPressure_SI ps v hps a (.rel (orDefault pu a.unit)) sa sb ha hb
  | relp ul => exact C01.cPressure_SI ps v hps a (.relp (orDefault pu a.unit)) sa sb ha hb

open PgVerif.Spec (PRep) in
/-- a pressure supplied in representation `b` is read with the inverse factor -/
theorem inputPressure_SI (c : Ctx α) (lab : Labels) (ps : α) (hps : ps ≠ 0) (hpsat : c.psat = some ps)
    (ht : c.tempOk = true) (a b : PRep) (sa sb : α)
    (ha : a.scale Spec.pressureUnits ps = some sa) (hb : b.scale Spec.pressureUnits ps = some sb)
    (hmode : lab.pmode = a.mode) (hunit : lab.punit = a.unit)
    (pm pu : Option String) (harg : truthy pm = true ∨ truthy pu = true)
    (hpm : orCurrent pm lab.pmode = b.mode) (hpu : pu = b.unit) (w : α) :
    inputPressure c lab w pm pu = .ok (w * sb / sa) := by
  have hcond : (truthy pm || truthy pu) = true := by simpa using harg
  unfold inputPressure
  simp only []
  rw [if_pos hcond, orDefault_mode, hpm, hmode, hunit, hpsat, ht, hpu]
  have hguard : (decide (some b.mode = some "absolute") && !truthy b.unit) = false := by
    cases b with
    | abs u => simp [Spec.PRep.unit, truthy, abs_unit_ne_empty hb]
    | rel ul => simp [Spec.PRep.mode]
    | relp ul => simp [Spec.PRep.mode]
  rw [hguard]
  simp only [Bool.false_eq_true, if_false]
  exact C01.cPressure_SI ps w hps b a sb sa hb ha

open PgVerif.Spec (PRep) in
/-- **a pressure supplied in foreign units is interpreted by the inverse conversion**: whatever the pressure
accessor shows for the stored value `v` in the requested representation, feeding that number back as an input in
the same representation recovers `v`.  (Typed valid target; `p_sat ≠ 0`, temperature known.  For an absolute target
the unit must be given: `loading_at(..., pressure_mode='absolute')` without a unit is refused by design, while the
accessor would default to the stored unit — that argument shape is outside `hpu`.) -/
theorem inputPressure_inverse (c : Ctx α) (lab : Labels) (ps : α) (hps : ps ≠ 0) (hpsat : c.psat = some ps)
    (ht : c.tempOk = true) (a b : PRep) (sa sb : α)
    (ha : a.scale Spec.pressureUnits ps = some sa) (hb : b.scale Spec.pressureUnits ps = some sb)
    (hmode : lab.pmode = a.mode) (hunit : lab.punit = a.unit)
    (pm pu : Option String) (harg : truthy pm = true ∨ truthy pu = true)
    (hpm : orCurrent pm lab.pmode = b.mode) (hpu : pu = b.unit) (v w : α)
    (h : accessPressure c lab v pm pu = .ok w) : inputPressure c lab w pm pu = .ok v := by
  rw [accessPressure_SI c lab ps hps hpsat ht a b sa sb ha hb hmode hunit pm pu harg hpm hpu v] at h
  rw [inputPressure_SI c lab ps hps hpsat ht a b sa sb ha hb hmode hunit pm pu harg hpm hpu w]
  have h1 := C01.PRep.scale_ne_zero ps hps a sa ha
  have h2 := C01.PRep.scale_ne_zero ps hps b sb hb
  cases h
  congr 1
  field_simp

/-- without a material argument `PointIsotherm.loading_at` (stored material passed to `c_loading`) and
`PointIsotherm.loading` / `ModelIsotherm.loading_at` (target material) convert their output identically, so the
two theorems `accessLoadingTarget_eq_convert` and `accessLoadingTarget_fraction_partial` cover it as well; with a material change and a fraction target they differ (`S5b_witness`) -/
theorem accessLoadingStored_eq_target (c : Ctx α) (lab : Labels) (v : α) (lb lu mb mu : Option String)
    (hmb : truthy mb = false) (hmu : truthy mu = false) :
    accessLoadingStored c lab v lb lu mb mu = accessLoadingTarget c lab v lb lu mb mu := by
  unfold accessLoadingStored accessLoadingTarget
  rw [orDefault_of_falsy hmb, orDefault_of_falsy hmu]

/-- the label hypotheses used in this section are consequences of the constructor's validation -/
theorem labels_ok_of_valid (lab : Labels) (h : validLabels lab = true)
    (hrel : lab.pmode ≠ "absolute" → lab.punit = none) :
    PLabelsOk lab ∧ (loadingMode.lookup lab.lbasis).isSome = true ∧ (materialMode.lookup lab.mbasis).isSome = true := by
  unfold validLabels at h
  simp only [Bool.and_eq_true, Bool.or_eq_true, bne_iff_ne, ne_eq] at h
  obtain ⟨⟨⟨⟨⟨h1, h2⟩, h3⟩, h4⟩, _⟩, _⟩ := h
  refine ⟨⟨h1, fun habs => ?_, fun hne => by rw [hrel hne]; rfl⟩, h2, h3⟩
  rcases h4 with h4 | h4
  · exact absurd habs h4
  · cases hu : lab.punit with
    | none => simp [hu] at h4
    | some u => exact ⟨u, rfl, by simpa [hu] using h4⟩

end Access

/-! ### Known findings as witnesses over ℚ (N2-like adsorbate), and non-vacuity -/

section Witness
open PgVerif.Units
open PgVerif.Spec (Ads Mat)

/-- N2-like constants: M = 28 g/mol, ρ_liq = 0.8 g/cm3, ρ_gas = 0.007 g/cm3 (consistent molar densities) -/
def n2 : Ads ℚ := ⟨28, 4 / 5, 1 / 35, 7 / 1000, 1 / 4000⟩
def mat2 : Mat ℚ := ⟨2, 60⟩
def ctxW : Ctx ℚ := ⟨some 101325, envOf n2 mat2, true⟩
/-- stored: fraction per mass/g -/
def labFrac : Labels := ⟨"absolute", some "bar", "fraction", none, "mass", some "g", some "K"⟩
/-- stored: molar/mmol per mass/g -/
def labMolar : Labels := ⟨"absolute", some "bar", "molar", some "mmol", "mass", some "g", some "K"⟩
def isoFrac : Iso ℚ := ⟨labFrac, [1], [1 / 10], 77, false, false⟩
def isoMolar : Iso ℚ := ⟨labMolar, [1], [2], 77, false, false⟩

/-- **finding S5a**: stored fraction per g, requested mmol per cm3 of material.  The permanent conversion gives
50/7, `loading(...)` gives 40/7 (it converts the material amount but not the adsorbate amount of the fraction). -/
theorem S5_witness :
    (convertAll ctxW isoFrac none none (some "molar") (some "mmol") (some "volume") (some "cm3")).2 = .ok ∧
    (convertAll ctxW isoFrac none none (some "molar") (some "mmol") (some "volume") (some "cm3")).1.ls = [50 / 7] ∧
    accessLoadingTarget ctxW labFrac (1 / 10) (some "molar") (some "mmol") (some "volume") (some "cm3") = .ok (40 / 7) := by
  decide +kernel

/-- **finding S5b**: stored mmol per g, `loading_at(..., loading_basis='fraction', material_basis='volume',
material_unit='cm3')` (output side, `accessLoadingStored`) gives 14/125, the permanent conversion 7/50:
the fraction is formed with the STORED material representation. -/
theorem S5b_witness :
    (convertAll ctxW isoMolar none none (some "fraction") none (some "volume") (some "cm3")).2 = .ok ∧
    (convertAll ctxW isoMolar none none (some "fraction") none (some "volume") (some "cm3")).1.ls = [7 / 50] ∧
    accessLoadingStored ctxW labMolar 2 (some "fraction") none (some "volume") (some "cm3") = .ok (14 / 125) := by
  decide +kernel

/-- a loading unit attached to an unchanged fraction basis: `convert` accepts and ignores it, `loading(...)` raises
`TypeError` — the argument shape excluded by `hfr` in `accessLoadingTarget_fraction_partial` -/
theorem fraction_unit_witness :
    (convertAll ctxW isoFrac none none none (some "mmol") none none).2 = .ok ∧
    accessLoadingTarget ctxW labFrac (1 / 10) none (some "mmol") none none = .error .type := by
  decide +kernel

/-- `PLabelsOk.unit_rel` cannot be dropped from `accessPressure_eq_convert`: a (non-constructible) relative state that
still carries a unit label is converted to absolute by the accessor (which defaults to the stored label) but refused
by `convert_pressure` (which takes the omitted unit literally) -/
theorem pressure_unit_invariant_witness :
    let lab : Labels := ⟨"relative", some "bar", "molar", some "mmol", "mass", some "g", some "K"⟩
    (convertPressure ctxW ⟨lab, [1 / 2], [2], 77, false, false⟩ (some "absolute") none).2 = .err .calc ∧
    accessPressure ctxW lab (1 / 2) (some "absolute") none = .ok (4053 / 8000) := by
  decide +kernel

/-! non-vacuity of E: accepted conversions with concrete numbers -/
example : PLabelsOk labMolar := ⟨by decide, fun _ => ⟨"bar", rfl, by decide⟩, fun h => absurd rfl h⟩
example : (convertPressure ctxW isoMolar (some "relative") none).2 = .ok ∧
    (convertPressure ctxW isoMolar (some "relative") none).1.ps = [4000 / 4053] ∧
    accessPressure ctxW labMolar 1 (some "relative") none = .ok (4000 / 4053) ∧
    inputPressure ctxW labMolar (4000 / 4053) (some "relative") none = .ok 1 := by decide +kernel
example : (convertAll ctxW isoMolar none none (some "fraction") none (some "volume") (some "cm3")).1.ls = [7 / 50] ∧
    accessLoadingTarget ctxW labMolar 2 (some "fraction") none (some "volume") (some "cm3") = .ok (7 / 50) := by
  decide +kernel
example : isFrac labMolar.lbasis = false ∧ (loadingMode.lookup labMolar.lbasis).isSome = true ∧
    (materialMode.lookup labMolar.mbasis).isSome = true := by decide

end Witness

end PgVerif.C03
