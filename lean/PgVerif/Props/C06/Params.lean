/-
C06 — the JSON codec's own keys and its domain, tied to the generated tables and to the constructor.

`Model/Json.formatKeys` (the three keys `encode` adds and `decode` removes) are the keys parsing/json.py writes and pops (generated:
`Gen/IsoParams.jsonWriterKeys` / `jsonReaderKeys`), and none of them is a key `BaseIsotherm.__init__` consumes — so removing them before the
constructor call loses nothing and leaves nothing behind.  `toDict_in_json_domain`: the dictionary of any isotherm the constructor has
accepted (`Model/Construct`) is in the domain `InDomain` of the codec theorems of Props/C06.lean as soon as no metadata key is one of the
three format keys: the keys of `to_dict()` are pairwise distinct.
-/
import Mathlib.Tactic
import PgVerif.Props.C06
import Mathlib.Algebra.Order.Field.Rat
import PgVerif.Lemmas.ConstructFacts
import PgVerif.Spec.IsoParams

set_option linter.unusedSimpArgs false

namespace PgVerif.C06
open PgVerif.Model PgVerif.Model.Construct PgVerif.Gen PgVerif.Gen.IsoParams

variable {α : Type}

/-- the model's format keys are the ones the writer adds and the reader removes, and the documented ones; the version string is the model's -/
theorem format_keys_generated :
    Json.formatKeys.Perm jsonReaderKeys ∧ jsonWriterKeys.Perm jsonReaderKeys ∧ Json.formatKeys.Perm Spec.IsoParams.jsonKeys ∧
      jsonParserVersion = "3.0" := by decide +kernel

theorem format_keys_not_constructor_keys :
    ∀ k ∈ Json.formatKeys, k ∉ unitPops ∧ k ∉ specialKeys ∧ k ∉ topKeys ∧ k ∉ reservedBase := by decide +kernel

section
variable [Field α]

/-- the dictionary of an accepted isotherm is in the domain of the JSON codec (`decode_encode_none` of Props/C06.lean applies to it)
provided no keyword argument was one of the three format keys -/
theorem toDict_in_json_domain (pr : α → String) (w : World α) (a : Args α) (i : Construct.Iso α) (d : Args α)
    (h : construct w a = .ok i) (hn : (keys a).Nodup) (hd : toDictBase i = .ok d) (hfree : ∀ k ∈ keys a, k ∉ Json.formatKeys) :
    InDomain (content pr d) := by
  obtain ⟨-, -, hp, hnp⟩ := Construct.construct_wellformed w a i h hn
  obtain ⟨m, -, rfl⟩ := toDictBase_ok hd hp hnp
  refine ⟨?_, ?_, trivial⟩
  · show ((render pr (topDict i m ++ i.properties)).map (·.1)).Nodup
    rw [keys_render]
    exact nodup_keys_toDict i m hp hnp
  · intro kv hkv
    have hk : kv.1 ∈ keys (topDict i m ++ i.properties) := by
      rw [← keys_render pr]
      exact List.mem_map_of_mem hkv
    rw [keys_append, keys_topDict, List.mem_append] at hk
    rcases hk with hk | hk
    · intro hf
      exact (format_keys_not_constructor_keys kv.1 hf).2.2.1 hk
    · exact hfree kv.1 (Construct.reserved_keys_not_in_properties w a i h kv.1 hk).2.2.2

end

/-- non-vacuity: an accepted call with a material dictionary and metadata, keys distinct and none of them a format key -/
example :
    (construct (⟨fun s => if s = "N2" then some "nitrogen" else none, fun _ => none⟩ : World ℚ)
      [("user", .str "x"), ("material", .dict [("name", .str "M"), ("density", .num 2)]), ("a", .str "N2"), ("temperature", .sc (.num 78)),
       ("pressure_mode", .str "relative%"), ("n", .sc (.int 3))]).toOption.map (fun i => (i.material, i.lab.pmode, i.lab.punit, keys i.properties)) =
      some (⟨.str "M", [("density", .num 2)]⟩, "relative%", Val.none, ["user", "n"]) ∧
    (keys ([("user", .str "x"), ("material", .dict [("name", .str "M"), ("density", .num 2)]), ("a", .str "N2"), ("temperature", .sc (.num 78)),
       ("pressure_mode", .str "relative%"), ("n", .sc (.int 3))] : Args ℚ)).Nodup ∧
    ∀ k ∈ ["user", "material", "a", "temperature", "pressure_mode", "n"], k ∉ Json.formatKeys := by decide +kernel

end PgVerif.C06
