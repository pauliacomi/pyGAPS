/-
C16 — mesopore size distributions conserve volume and follow the Kelvin equation.

In the order of the file: helpers (pairwise maps, the loops);
B. the recurrences of the three classical methods (`Model.Meso`), over an arbitrary (ordered) field;
A. the Kelvin / thickness formulas regenerated from the source (`Gen.CharR`), over ℝ;
C. non-vacuity examples at ℚ.
The numbers in the section titles of part B are the clauses of the property it proves: 7 widths, 8 zero thickness, 9 telescoping,
10 distribution × increment, 11 cumulative curve, 12 single step, 13 lengths, 14 method dispatch, 15 default limits (clauses 1–6 —
Kelvin equation, geometry tables, monotone Kelvin radius, KJS, thickness models, monotone widths — are part A).
-/
import Mathlib.Tactic
import Mathlib.Algebra.Order.Field.Rat
import PgVerif.Gen.CharR
import PgVerif.Model.Meso

set_option linter.unusedSectionVars false

namespace PgVerif.Props.C16
open PgVerif.Model.Meso PgVerif.Model.Linear

/-! ## pairwise maps -/

section Helpers

variable {α : Type} [Field α]

/-- ascending successive changes `[a1 - a0, a2 - a1, …]` -/
def succDiff : List α → List α
  | a :: b :: r => (b - a) :: succDiff (b :: r)
  | _ => []

/-- `[f a0 a1, f a1 a2, …]` -/
def pairMap {β γ : Type} (f : β → β → γ) : List β → List γ
  | a :: b :: r => f a b :: pairMap f (b :: r)
  | _ => []

lemma diffNeg_eq_pairMap (l : List α) : diffNeg l = pairMap (fun a b => a - b) l := by
  fun_induction diffNeg l with
  | case1 a b r ih => rw [pairMap, ih]
  | case2 _ h => rw [pairMap]; exact h

lemma avgPairs_eq_pairMap (l : List α) : avgPairs l = pairMap (fun a b => (a + b) / 2) l := by
  fun_induction avgPairs l with
  | case1 a b r ih => rw [pairMap, ih]
  | case2 _ h => rw [pairMap]; exact h

lemma succDiff_eq_pairMap (l : List α) : succDiff l = pairMap (fun a b => b - a) l := by
  fun_induction succDiff l with
  | case1 a b r ih => rw [pairMap, ih]
  | case2 _ h => rw [pairMap]; exact h

lemma pairMap_length {β γ : Type} (f : β → β → γ) (l : List β) : (pairMap f l).length = l.length - 1 := by
  induction l with
  | nil => rfl
  | cons a l ih =>
    cases l with
    | nil => rfl
    | cons b r => simp only [pairMap, List.length_cons, ih]; omega

@[simp] lemma diffNeg_length (l : List α) : (diffNeg l).length = l.length - 1 := by
  rw [diffNeg_eq_pairMap, pairMap_length]

@[simp] lemma avgPairs_length (l : List α) : (avgPairs l).length = l.length - 1 := by
  rw [avgPairs_eq_pairMap, pairMap_length]

lemma succDiff_length (l : List α) : (succDiff l).length = l.length - 1 := by
  rw [succDiff_eq_pairMap, pairMap_length]

lemma pairMap_snoc {β γ : Type} (f : β → β → γ) (l : List β) (x y : β) :
    pairMap f (l ++ [x, y]) = pairMap f (l ++ [x]) ++ [f x y] := by
  induction l with
  | nil => rfl
  | cons c l ih =>
    cases l with
    | nil => rfl
    | cons d r =>
      simp only [List.cons_append, pairMap] at ih ⊢
      rw [ih]

lemma pairMap_reverse {β γ : Type} (f : β → β → γ) (l : List β) :
    pairMap f l.reverse = (pairMap (fun a b => f b a) l).reverse := by
  induction l with
  | nil => rfl
  | cons a l ih =>
    cases l with
    | nil => rfl
    | cons b r =>
      -- `(a :: b :: r).reverse = r.reverse ++ [b, a]`, the last pair goes to the end, the rest is `(b :: r).reverse`
      rw [List.reverse_cons, List.reverse_cons, List.append_assoc, List.singleton_append, pairMap_snoc,
        ← List.reverse_cons, ih, pairMap, List.reverse_cons]

lemma forall_mem_pairMap {β γ : Type} (f : β → β → γ) (P : β → Prop) (R : γ → Prop) (l : List β)
    (hl : ∀ a ∈ l, P a) (hf : ∀ a b, P a → P b → R (f a b)) : ∀ x ∈ pairMap f l, R x := by
  fun_induction pairMap f l with
  | case1 a b r ih =>
    rw [List.forall_mem_cons] at hl ⊢
    exact ⟨hf a b hl.1 (hl.2 b List.mem_cons_self), ih hl.2⟩
  | case2 => exact fun _ h => absurd h List.not_mem_nil

lemma forall_mem_zipWith {β γ δ : Type} (f : β → γ → δ) (P : β → Prop) (Q : γ → Prop) (R : δ → Prop)
    (l₁ : List β) (l₂ : List γ) (h₁ : ∀ a ∈ l₁, P a) (h₂ : ∀ b ∈ l₂, Q b)
    (hf : ∀ a b, P a → Q b → R (f a b)) : ∀ x ∈ List.zipWith f l₁ l₂, R x := by
  induction l₁ generalizing l₂ with
  | nil => exact fun _ h => absurd h List.not_mem_nil
  | cons a l₁ ih =>
    cases l₂ with
    | nil => exact fun _ h => absurd h List.not_mem_nil
    | cons b l₂ =>
      rw [List.forall_mem_cons] at h₁ h₂
      rw [List.zipWith_cons_cons, List.forall_mem_cons]
      exact ⟨hf a b h₁.1 h₂.1, ih l₂ h₁.2 h₂.2⟩

/-- `-numpy.diff` of the reversed array, reversed back, is the ascending change -/
theorem diffNeg_reverse (l : List α) : (diffNeg l.reverse).reverse = succDiff l := by
  rw [diffNeg_eq_pairMap, pairMap_reverse, List.reverse_reverse, succDiff_eq_pairMap]

end Helpers

/-! ## the loops -/

section Loops

variable {α : Type} [Field α]

lemma zipWith_add_zeros_left (z l : List α) (hz : ∀ x ∈ z, x = 0) (hl : l.length ≤ z.length) :
    List.zipWith (· + ·) z l = l := by
  induction l generalizing z with
  | nil => simp
  | cons a l ih =>
    cases z with
    | nil => simp at hl
    | cons b z =>
      have hb : b = 0 := hz b (by simp)
      simp only [List.zipWith_cons_cons, hb, zero_add]
      rw [ih z (fun x hx => hz x (List.mem_cons_of_mem _ hx)) (by simpa using hl)]

lemma zipWith_add_zeros_right (z l : List α) (hz : ∀ x ∈ z, x = 0) (hl : l.length ≤ z.length) :
    List.zipWith (· + ·) l z = l := by
  rw [List.zipWith_comm_of_comm add_comm, zipWith_add_zeros_left z l hz hl]

/-! `zip5` on five lists of one length `m`: by induction on `m`, every list being a cons in the step; `zipR` is its image. -/

lemma zip5_map_dV {m : Nat} {a b c d e : List α} (ha : a.length = m) (hb : b.length = m) (hc : c.length = m)
    (hd : d.length = m) (he : e.length = m) : (zip5 a b c d e).map (·.dV) = a := by
  induction m generalizing a b c d e with
  | zero => rw [List.length_eq_zero_iff.mp ha]; rfl
  | succ m ih =>
    obtain ⟨x, a, rfl⟩ := List.exists_cons_of_length_eq_add_one ha
    obtain ⟨y, b, rfl⟩ := List.exists_cons_of_length_eq_add_one hb
    obtain ⟨z, c, rfl⟩ := List.exists_cons_of_length_eq_add_one hc
    obtain ⟨u, d, rfl⟩ := List.exists_cons_of_length_eq_add_one hd
    obtain ⟨v, e, rfl⟩ := List.exists_cons_of_length_eq_add_one he
    simp only [List.length_cons, Nat.add_right_cancel_iff] at ha hb hc hd he
    rw [zip5, List.map_cons, ih ha hb hc hd he]

lemma zip5_length {m : Nat} {a b c d e : List α} (ha : a.length = m) (hb : b.length = m) (hc : c.length = m)
    (hd : d.length = m) (he : e.length = m) : (zip5 a b c d e).length = m := by
  rw [← List.length_map (·.dV), zip5_map_dV ha hb hc hd he, ha]

lemma mem_zip5 (a b c d e : List α) (r : DhRow α) (hr : r ∈ zip5 a b c d e) :
    r.dV ∈ a ∧ r.dT ∈ b ∧ r.avgT ∈ c ∧ r.avgW ∈ d ∧ r.ratio ∈ e := by
  fun_induction zip5 a b c d e with
  | case1 x a y b z c u d v e ih =>
    simp only [List.mem_cons] at hr ⊢
    rcases hr with rfl | hr
    · simp
    · obtain ⟨h1, h2, h3, h4, h5⟩ := ih hr
      exact ⟨Or.inr h1, Or.inr h2, Or.inr h3, Or.inr h4, Or.inr h5⟩
  | case2 => simp at hr

/-- `zipR` is `zip5` with the fourth field read as a radius -/
lemma zipR_eq_map_zip5 (a b c d e : List α) :
    zipR a b c d e = (zip5 a b c d e).map fun r => ⟨r.dV, r.dT, r.avgT, r.avgW, r.ratio⟩ := by
  fun_induction zip5 a b c d e with
  | case1 x a y b z c u d v e ih => rw [zipR, ih, List.map_cons]
  | case2 _ _ _ _ _ h => rw [zipR, List.map_nil]; exact h

lemma zipR_map_dV {m : Nat} {a b c d e : List α} (ha : a.length = m) (hb : b.length = m) (hc : c.length = m)
    (hd : d.length = m) (he : e.length = m) : (zipR a b c d e).map (·.dV) = a := by
  rw [zipR_eq_map_zip5, List.map_map]
  exact zip5_map_dV ha hb hc hd he

lemma zipR_length {m : Nat} {a b c d e : List α} (ha : a.length = m) (hb : b.length = m) (hc : c.length = m)
    (hd : d.length = m) (he : e.length = m) : (zipR a b c d e).length = m := by
  rw [zipR_eq_map_zip5, List.length_map, zip5_length ha hb hc hd he]

lemma mem_zipR (a b c d e : List α) (r : RRow α) (hr : r ∈ zipR a b c d e) :
    r.dV ∈ a ∧ r.dT ∈ b ∧ r.avgT ∈ c ∧ r.avgR ∈ d ∧ r.ratio ∈ e := by
  rw [zipR_eq_map_zip5] at hr
  obtain ⟨r', hr', rfl⟩ := List.mem_map.mp hr
  exact mem_zip5 a b c d e r' hr'

/-- pyGAPS-DH loop: rows with no thickness change and unit ratio pass `dV` through, whatever the accumulator -/
lemma dhLoop_volumes (c : Nat) (rows : List (DhRow α)) (s : α)
    (h : ∀ r ∈ rows, r.dT = 0 ∧ r.ratio = 1) :
    (dhLoop c rows s).map (·.1) = rows.map (·.dV) := by
  induction rows generalizing s with
  | nil => rfl
  | cons r rest ih =>
    obtain ⟨h1, h2⟩ := h r (by simp)
    simp only [dhLoop, List.map_cons, h1, h2, zero_mul, sub_zero, mul_one]
    rw [ih _ (fun r' hr' => h r' (List.mem_cons_of_mem _ hr'))]

lemma bjhLoop_volumes (rows : List (RRow α)) (done : List (α × α))
    (h : ∀ r ∈ rows, r.dT = 0 ∧ r.ratio = 1) :
    (bjhLoop rows done).map (·.1) = rows.map (·.dV) := by
  induction rows generalizing done with
  | nil => rfl
  | cons r rest ih =>
    obtain ⟨h1, h2⟩ := h r (by simp)
    simp only [bjhLoop, List.map_cons, h1, h2, zero_mul, sub_zero, mul_one]
    rw [ih _ (fun r' hr' => h r' (List.mem_cons_of_mem _ hr'))]

lemma dollimoreLoop_volumes (rows : List (RRow α)) (s t : α)
    (h : ∀ r ∈ rows, r.dT = 0 ∧ r.ratio = 1) :
    (dollimoreLoop rows s t).map (·.1) = rows.map (·.dV) := by
  induction rows generalizing s t with
  | nil => rfl
  | cons r rest ih =>
    obtain ⟨h1, h2⟩ := h r (by simp)
    simp only [dollimoreLoop, List.map_cons, h1, h2, zero_mul, sub_zero, mul_one]
    rw [ih _ _ (fun r' hr' => h r' (List.mem_cons_of_mem _ hr'))]

lemma dhLoop_length (c : Nat) (rows : List (DhRow α)) (s : α) : (dhLoop c rows s).length = rows.length := by
  induction rows generalizing s with
  | nil => rfl
  | cons r rest ih => simp only [dhLoop, List.length_cons, ih]

lemma bjhLoop_length (rows : List (RRow α)) (done : List (α × α)) : (bjhLoop rows done).length = rows.length := by
  induction rows generalizing done with
  | nil => rfl
  | cons r rest ih => simp only [bjhLoop, List.length_cons, ih]

lemma dollimoreLoop_length (rows : List (RRow α)) (s t : α) : (dollimoreLoop rows s t).length = rows.length := by
  induction rows generalizing s t with
  | nil => rfl
  | cons r rest ih => simp only [dollimoreLoop, List.length_cons, ih]

end Loops

/-! ## B. the recurrences -/

section Recurrences

variable {α : Type} [Field α]

/-- `r` is what one of the three methods returns on these arrays: the possible results of `method` (`method_some`).
The properties below are stated once, for any such `r`. -/
def IsMethodResult (r : Result α) (vol thick kelvin : List α) : Prop :=
  (∃ c, r = pygapsDH c vol thick kelvin) ∨ r = bjh vol thick kelvin ∨ r = dollimoreHeal vol thick kelvin

lemma IsMethodResult.pygapsDH {c : Nat} {vol thick kelvin : List α} :
    IsMethodResult (pygapsDH c vol thick kelvin) vol thick kelvin := .inl ⟨c, rfl⟩

lemma IsMethodResult.bjh {vol thick kelvin : List α} : IsMethodResult (bjh vol thick kelvin) vol thick kelvin :=
  .inr (.inl rfl)

lemma IsMethodResult.dollimoreHeal {vol thick kelvin : List α} :
    IsMethodResult (dollimoreHeal vol thick kelvin) vol thick kelvin := .inr (.inr rfl)

lemma method_some {name g : String} {vol thick kelvin : List α} {r : Result α}
    (h : method name g vol thick kelvin = some r) : IsMethodResult r vol thick kelvin := by
  -- `ite_eq_iff` on each test of the dispatch in turn (`split_ifs` on the string tests is ten times dearer)
  unfold method at h
  rcases ite_eq_iff.mp h with ⟨-, h⟩ | ⟨-, h⟩
  · obtain ⟨c, -, rfl⟩ := Option.map_eq_some_iff.mp h
    exact .pygapsDH
  rcases ite_eq_iff.mp h with ⟨-, h⟩ | ⟨-, h⟩
  · rcases ite_eq_iff.mp h with ⟨-, h⟩ | ⟨-, h⟩
    · exact Option.some.inj h ▸ .bjh
    · cases h
  rcases ite_eq_iff.mp h with ⟨-, h⟩ | ⟨-, h⟩
  · rcases ite_eq_iff.mp h with ⟨-, h⟩ | ⟨-, h⟩
    · exact Option.some.inj h ▸ .dollimoreHeal
    · cases h
  · cases h

/-! ### 8. zero thickness: what an all-zero thickness array and positive Kelvin radii do to the per-interval arrays -/

lemma diffNeg_eq_zero {l : List α} (h : ∀ x ∈ l, x = 0) : ∀ x ∈ diffNeg l, x = 0 := by
  rw [diffNeg_eq_pairMap]
  exact forall_mem_pairMap _ (· = 0) (· = 0) _ h (fun a b ha hb => by rw [ha, hb, sub_zero])

lemma avgPairs_eq_zero {l : List α} (h : ∀ x ∈ l, x = 0) : ∀ x ∈ avgPairs l, x = 0 := by
  rw [avgPairs_eq_pairMap]
  exact forall_mem_pairMap _ (· = 0) (· = 0) _ h (fun a b ha hb => by rw [ha, hb, add_zero, zero_div])

lemma avgPairs_pos [LinearOrder α] [IsStrictOrderedRing α] {l : List α} (h : ∀ x ∈ l, 0 < x) :
    ∀ x ∈ avgPairs l, 0 < x := by
  rw [avgPairs_eq_pairMap]
  exact forall_mem_pairMap _ (0 < ·) (0 < ·) _ h (fun a b ha hb => half_pos (add_pos ha hb))

lemma forall_mem_reverse_replicate {n : Nat} {x : α} : ∀ t ∈ (List.replicate n x).reverse, t = x := by
  rw [List.reverse_replicate]
  exact fun t => List.eq_of_mem_replicate

theorem zero_thickness_volumes_pygapsDH [LinearOrder α] [IsStrictOrderedRing α]
    (c n : Nat) (vol thick kelvin : List α)
    (hthick : thick = List.replicate n 0) (hk : kelvin.length = n) (hv : vol.length = n)
    (hpos : ∀ k ∈ kelvin, 0 < k) :
    (pygapsDH c vol thick kelvin).volumes = succDiff vol := by
  subst hthick
  have hT := forall_mem_reverse_replicate (n := n) (x := (0 : α))
  have hK : ∀ k ∈ kelvin.reverse, 0 < k := fun k hk' => hpos k (List.mem_reverse.mp hk')
  have havgW : ∀ x ∈ avgPairs (List.zipWith (fun t k => 2 * (t + k)) (List.replicate n 0).reverse kelvin.reverse),
      0 < x :=
    avgPairs_pos (forall_mem_zipWith _ (· = 0) (0 < ·) (0 < ·) _ _ hT hK (fun a b ha hb => by
      rw [ha, zero_add]; exact mul_pos two_pos hb))
  unfold pygapsDH
  simp only []
  rw [dhLoop_volumes _ _ _ (fun r hr => by
    obtain ⟨-, h2, -, -, h5⟩ := mem_zip5 _ _ _ _ _ r hr
    refine ⟨diffNeg_eq_zero hT _ h2, ?_⟩
    exact forall_mem_zipWith _ (0 < ·) (· = 0) (· = 1) _ _ havgW (avgPairs_eq_zero hT) (fun a b ha hb => by
      rw [hb, mul_zero, sub_zero, div_self ha.ne', one_pow]) _ h5)]
  rw [zip5_map_dV (m := n - 1), diffNeg_reverse]
  all_goals simp only [List.reverse_replicate, diffNeg_length, avgPairs_length, List.length_zipWith, List.length_replicate,
    List.length_reverse, hk, hv, min_self]

/-- the shared part of BJH / Dollimore-Heal: any loop that passes `dV` through on rows with `dT = 0`, `ratio = 1` -/
lemma radiusMethod_zero_thickness [LinearOrder α] [IsStrictOrderedRing α]
    (loop : List (RRow α) → List (α × α))
    (hloop : ∀ rows, (∀ r ∈ rows, r.dT = 0 ∧ r.ratio = 1) → (loop rows).map (·.1) = rows.map (·.dV))
    (n : Nat) (vol thick kelvin : List α)
    (hthick : thick = List.replicate n 0) (hk : kelvin.length = n) (hv : vol.length = n)
    (hpos : ∀ k ∈ kelvin, 0 < k) :
    (radiusMethod loop vol thick kelvin).volumes = succDiff vol := by
  subst hthick
  have hT := forall_mem_reverse_replicate (n := n) (x := (0 : α))
  have hdT := diffNeg_eq_zero hT
  have havgK : ∀ x ∈ avgPairs kelvin.reverse, 0 < x :=
    avgPairs_pos (fun k hk' => hpos k (List.mem_reverse.mp hk'))
  have hrad : List.zipWith (· + ·) (List.replicate n 0).reverse kelvin.reverse = kelvin.reverse :=
    zipWith_add_zeros_left _ _ hT (by simp [hk])
  have hkd : List.zipWith (· + ·) (avgPairs kelvin.reverse) (diffNeg (List.replicate n (0 : α)).reverse)
      = avgPairs kelvin.reverse :=
    zipWith_add_zeros_right _ _ hdT (by simp [hk])
  unfold radiusMethod
  simp only []
  rw [hrad, hkd, List.zipWith_self]
  rw [hloop _ (fun r hr => by
    obtain ⟨-, h2, -, -, h5⟩ := mem_zipR _ _ _ _ _ r hr
    refine ⟨hdT _ h2, ?_⟩
    obtain ⟨a, ha, e⟩ := List.mem_map.1 h5
    rw [← e, div_self (havgK a ha).ne', one_pow])]
  rw [zipR_map_dV (m := n - 1), diffNeg_reverse]
  all_goals simp only [List.reverse_replicate, List.length_map, diffNeg_length, avgPairs_length, List.length_replicate,
    List.length_reverse, hk, hv]

lemma zero_thickness_volumes [LinearOrder α] [IsStrictOrderedRing α] {r : Result α} {vol thick kelvin : List α}
    (h : IsMethodResult r vol thick kelvin) (n : Nat)
    (hthick : thick = List.replicate n 0) (hk : kelvin.length = n) (hv : vol.length = n)
    (hpos : ∀ k ∈ kelvin, 0 < k) : r.volumes = succDiff vol := by
  rcases h with ⟨c, rfl⟩ | rfl | rfl
  · exact zero_thickness_volumes_pygapsDH c n vol thick kelvin hthick hk hv hpos
  · exact radiusMethod_zero_thickness _ (fun rows h => bjhLoop_volumes rows [] h) n vol thick kelvin hthick hk hv hpos
  · exact radiusMethod_zero_thickness _ (fun rows h => dollimoreLoop_volumes rows 0 0 h) n vol thick kelvin hthick hk hv
      hpos

theorem zero_thickness_volumes_bjh [LinearOrder α] [IsStrictOrderedRing α]
    (n : Nat) (vol thick kelvin : List α)
    (hthick : thick = List.replicate n 0) (hk : kelvin.length = n) (hv : vol.length = n)
    (hpos : ∀ k ∈ kelvin, 0 < k) :
    (bjh vol thick kelvin).volumes = succDiff vol :=
  zero_thickness_volumes .bjh n hthick hk hv hpos

theorem zero_thickness_volumes_dollimoreHeal [LinearOrder α] [IsStrictOrderedRing α]
    (n : Nat) (vol thick kelvin : List α)
    (hthick : thick = List.replicate n 0) (hk : kelvin.length = n) (hv : vol.length = n)
    (hpos : ∀ k ∈ kelvin, 0 < k) :
    (dollimoreHeal vol thick kelvin).volumes = succDiff vol :=
  zero_thickness_volumes .dollimoreHeal n hthick hk hv hpos

/-! ### 9. telescoping -/

theorem succDiff_sum (l : List α) (h : l ≠ []) : (succDiff l).sum = l.getLast h - l.head h := by
  induction l with
  | nil => exact absurd rfl h
  | cons a l ih =>
    cases l with
    | nil => simp [succDiff]
    | cons b r =>
      have := ih (by simp)
      simp only [succDiff, List.sum_cons, this, List.getLast_cons_cons, List.head_cons]
      ring

lemma linear_sum_eq (l : List α) : PgVerif.Model.Linear.sum l = l.sum := rfl

lemma volumes_sum [LinearOrder α] [IsStrictOrderedRing α] {r : Result α} {vol thick kelvin : List α}
    (h : IsMethodResult r vol thick kelvin) (n : Nat)
    (hthick : thick = List.replicate n 0) (hk : kelvin.length = n) (hv : vol.length = n)
    (hpos : ∀ k ∈ kelvin, 0 < k) (hne : vol ≠ []) : r.volumes.sum = vol.getLast hne - vol.head hne := by
  rw [zero_thickness_volumes h n hthick hk hv hpos, succDiff_sum]

theorem volumes_sum_total_change_pygapsDH [LinearOrder α] [IsStrictOrderedRing α]
    (c n : Nat) (vol thick kelvin : List α)
    (hthick : thick = List.replicate n 0) (hk : kelvin.length = n) (hv : vol.length = n)
    (hpos : ∀ k ∈ kelvin, 0 < k) (hne : vol ≠ []) :
    (pygapsDH c vol thick kelvin).volumes.sum = vol.getLast hne - vol.head hne :=
  volumes_sum .pygapsDH n hthick hk hv hpos hne

theorem volumes_sum_total_change_bjh [LinearOrder α] [IsStrictOrderedRing α]
    (n : Nat) (vol thick kelvin : List α)
    (hthick : thick = List.replicate n 0) (hk : kelvin.length = n) (hv : vol.length = n)
    (hpos : ∀ k ∈ kelvin, 0 < k) (hne : vol ≠ []) :
    (bjh vol thick kelvin).volumes.sum = vol.getLast hne - vol.head hne :=
  volumes_sum .bjh n hthick hk hv hpos hne

theorem volumes_sum_total_change_dollimoreHeal [LinearOrder α] [IsStrictOrderedRing α]
    (n : Nat) (vol thick kelvin : List α)
    (hthick : thick = List.replicate n 0) (hk : kelvin.length = n) (hv : vol.length = n)
    (hpos : ∀ k ∈ kelvin, 0 < k) (hne : vol ≠ []) :
    (dollimoreHeal vol thick kelvin).volumes.sum = vol.getLast hne - vol.head hne :=
  volumes_sum .dollimoreHeal n hthick hk hv hpos hne

/-- the same with the project's own `sum` -/
theorem volumes_sum_total_change [LinearOrder α] [IsStrictOrderedRing α]
    (c n : Nat) (vol thick kelvin : List α)
    (hthick : thick = List.replicate n 0) (hk : kelvin.length = n) (hv : vol.length = n)
    (hpos : ∀ k ∈ kelvin, 0 < k) (hne : vol ≠ []) :
    PgVerif.Model.Linear.sum (pygapsDH c vol thick kelvin).volumes = vol.getLast hne - vol.head hne ∧
    PgVerif.Model.Linear.sum (bjh vol thick kelvin).volumes = vol.getLast hne - vol.head hne ∧
    PgVerif.Model.Linear.sum (dollimoreHeal vol thick kelvin).volumes = vol.getLast hne - vol.head hne := by
  simp only [linear_sum_eq]
  exact ⟨volumes_sum_total_change_pygapsDH c n vol thick kelvin hthick hk hv hpos hne,
    volumes_sum_total_change_bjh n vol thick kelvin hthick hk hv hpos hne,
    volumes_sum_total_change_dollimoreHeal n vol thick kelvin hthick hk hv hpos hne⟩

/-! ### 11. the cumulative curve -/

theorem cumsum_length (xs : List α) (a : α) : (cumsum xs a).length = xs.length := by
  induction xs generalizing a with
  | nil => rfl
  | cons x xs ih => simp [cumsum, ih]

lemma cumsum_ne_nil (xs : List α) (a : α) (h : xs ≠ []) : cumsum xs a ≠ [] := by
  cases xs with
  | nil => exact absurd rfl h
  | cons x xs => simp [cumsum]

theorem cumulative_length (vols vol : List α) : (cumulative vols vol).length = vols.length := by
  simp [cumulative, cumsum_length]

theorem cumulative_last (vols vol : List α) (h : vols ≠ []) :
    (cumulative vols vol).getLastD 0 = vol.getLastD 0 := by
  have hne := cumsum_ne_nil vols 0 h
  unfold cumulative
  simp only []
  rw [List.getLastD_eq_getLast?, List.getLast?_map, List.getLast?_eq_some_getLast hne]
  simp [List.getLastD_eq_getLast?, List.getLast?_eq_some_getLast hne]

lemma succDiff_map_add (l : List α) (c : α) : succDiff (l.map (fun x => x + c)) = succDiff l := by
  induction l with
  | nil => rfl
  | cons a l ih =>
    cases l with
    | nil => rfl
    | cons b r =>
      simp only [List.map_cons, succDiff] at ih ⊢
      rw [ih]; congr 1; ring

lemma succDiff_cumsum (xs : List α) (a : α) : succDiff (cumsum xs a) = xs.tail := by
  induction xs generalizing a with
  | nil => rfl
  | cons x xs ih =>
    cases xs with
    | nil => rfl
    | cons y r =>
      have := ih (a + x)
      simp only [cumsum, succDiff, List.tail_cons] at this ⊢
      rw [this]; congr 1; ring

/-- the curve is the running sum shifted by a constant -/
theorem cumulative_succDiff (vols vol : List α) : succDiff (cumulative vols vol) = vols.tail := by
  unfold cumulative
  simp only []
  have : (fun x => x - (cumsum vols 0).getLastD 0 + vol.getLastD 0)
      = (fun x => x + (vol.getLastD 0 - (cumsum vols 0).getLastD 0)) := by
    funext x; ring
  rw [this, succDiff_map_add, succDiff_cumsum]

/-! ### 7. widths -/

lemma reverse_drop_one_reverse {β : Type} (l : List β) : (l.reverse.drop 1).reverse = l.dropLast := by
  rw [List.drop_one, List.tail_reverse, List.reverse_reverse]

lemma widths_spec_radiusMethod (loop : List (RRow α) → List (α × α)) (vol thick kelvin : List α)
    (h : thick.length = kelvin.length) :
    (radiusMethod loop vol thick kelvin).widths = (List.zipWith (fun t k => 2 * (t + k)) thick kelvin).dropLast := by
  unfold radiusMethod
  simp only []
  rw [← List.reverse_zipWith h, reverse_drop_one_reverse, List.map_dropLast, List.map_zipWith]
  simp only [mul_comm _ (2 : α)]

lemma widths_spec {r : Result α} {vol thick kelvin : List α} (h : IsMethodResult r vol thick kelvin)
    (hl : thick.length = kelvin.length) :
    r.widths = (List.zipWith (fun t k => 2 * (t + k)) thick kelvin).dropLast := by
  rcases h with ⟨c, rfl⟩ | rfl | rfl
  · unfold pygapsDH
    simp only []
    rw [← List.reverse_zipWith hl, reverse_drop_one_reverse]
  all_goals exact widths_spec_radiusMethod _ vol thick kelvin hl

theorem widths_spec_pygapsDH (c : Nat) (vol thick kelvin : List α) (h : thick.length = kelvin.length) :
    (pygapsDH c vol thick kelvin).widths = (List.zipWith (fun t k => 2 * (t + k)) thick kelvin).dropLast :=
  widths_spec .pygapsDH h

theorem widths_spec_bjh (vol thick kelvin : List α) (h : thick.length = kelvin.length) :
    (bjh vol thick kelvin).widths = (List.zipWith (fun t k => (t + k) * 2) thick kelvin).dropLast := by
  rw [widths_spec .bjh h]
  simp only [mul_comm _ (2 : α)]

theorem widths_spec_dollimoreHeal (vol thick kelvin : List α) (h : thick.length = kelvin.length) :
    (dollimoreHeal vol thick kelvin).widths = (List.zipWith (fun t k => (t + k) * 2) thick kelvin).dropLast := by
  rw [widths_spec .dollimoreHeal h]
  simp only [mul_comm _ (2 : α)]

/-! ### 13. lengths -/

lemma pygapsDH_rows_length (c n : Nat) (vol thick kelvin : List α)
    (hv : vol.length = n) (ht : thick.length = n) (hk : kelvin.length = n) (s : α) :
    (dhLoop c (zip5 (diffNeg vol.reverse) (diffNeg thick.reverse)
      (avgPairs thick.reverse)
      (avgPairs (List.zipWith (fun t k => 2 * (t + k)) thick.reverse kelvin.reverse))
      (List.zipWith (fun aw at' => (aw / (aw - 2 * at')) ^ 2)
        (avgPairs (List.zipWith (fun t k => 2 * (t + k)) thick.reverse kelvin.reverse))
        (avgPairs thick.reverse))) s).length = n - 1 := by
  rw [dhLoop_length, zip5_length (m := n - 1)] <;>
    simp only [diffNeg_length, avgPairs_length, List.length_zipWith, List.length_reverse, hv, ht, hk, min_self]

theorem lengths_pygapsDH (c n : Nat) (vol thick kelvin : List α)
    (hv : vol.length = n) (ht : thick.length = n) (hk : kelvin.length = n) :
    (pygapsDH c vol thick kelvin).widths.length = n - 1 ∧
    (pygapsDH c vol thick kelvin).areas.length = n - 1 ∧
    (pygapsDH c vol thick kelvin).volumes.length = n - 1 ∧
    (pygapsDH c vol thick kelvin).distribution.length = n - 1 := by
  have h := pygapsDH_rows_length c n vol thick kelvin hv ht hk 0
  unfold pygapsDH
  simp only [List.length_reverse, List.length_map, List.length_zipWith, List.length_drop, h, diffNeg_length,
    ht, hk, min_self]
  simp

lemma radiusMethod_rows_length (n : Nat) (vol thick kelvin : List α)
    (hv : vol.length = n) (ht : thick.length = n) (hk : kelvin.length = n) :
    (zipR (diffNeg vol.reverse) (diffNeg thick.reverse) (avgPairs thick.reverse)
      (avgPairs (List.zipWith (· + ·) thick.reverse kelvin.reverse))
      (List.zipWith (fun (ar : α) (kd : α) => (ar / kd) ^ 2)
        (avgPairs (List.zipWith (· + ·) thick.reverse kelvin.reverse))
        (List.zipWith (· + ·) (avgPairs kelvin.reverse) (diffNeg thick.reverse)))).length = n - 1 := by
  rw [zipR_length (m := n - 1)] <;>
    simp only [diffNeg_length, avgPairs_length, List.length_zipWith, List.length_reverse, hv, ht, hk, min_self]

lemma lengths_radiusMethod (loop : List (RRow α) → List (α × α))
    (hloop : ∀ rows, (loop rows).length = rows.length) (n : Nat) (vol thick kelvin : List α)
    (hv : vol.length = n) (ht : thick.length = n) (hk : kelvin.length = n) :
    (radiusMethod loop vol thick kelvin).widths.length = n - 1 ∧
    (radiusMethod loop vol thick kelvin).areas.length = n - 1 ∧
    (radiusMethod loop vol thick kelvin).volumes.length = n - 1 ∧
    (radiusMethod loop vol thick kelvin).distribution.length = n - 1 := by
  have h := radiusMethod_rows_length n vol thick kelvin hv ht hk
  unfold radiusMethod
  simp only [List.length_reverse, List.length_map, List.length_zipWith, List.length_drop, hloop, h, diffNeg_length,
    ht, hk, min_self]
  simp

theorem lengths_bjh (n : Nat) (vol thick kelvin : List α)
    (hv : vol.length = n) (ht : thick.length = n) (hk : kelvin.length = n) :
    (bjh vol thick kelvin).widths.length = n - 1 ∧
    (bjh vol thick kelvin).areas.length = n - 1 ∧
    (bjh vol thick kelvin).volumes.length = n - 1 ∧
    (bjh vol thick kelvin).distribution.length = n - 1 :=
  lengths_radiusMethod _ (fun rows => bjhLoop_length rows []) n vol thick kelvin hv ht hk

theorem lengths_dollimoreHeal (n : Nat) (vol thick kelvin : List α)
    (hv : vol.length = n) (ht : thick.length = n) (hk : kelvin.length = n) :
    (dollimoreHeal vol thick kelvin).widths.length = n - 1 ∧
    (dollimoreHeal vol thick kelvin).areas.length = n - 1 ∧
    (dollimoreHeal vol thick kelvin).volumes.length = n - 1 ∧
    (dollimoreHeal vol thick kelvin).distribution.length = n - 1 :=
  lengths_radiusMethod _ (fun rows => dollimoreLoop_length rows 0 0) n vol thick kelvin hv ht hk

/-! ### 10. distribution × width increment = pore volume -/

lemma zipWith_cancel (f : α → α → α) (g : α → α) (V D : List α) (hl : V.length ≤ D.length)
    (h : ∀ v, ∀ d ∈ D, f v d * g d = v) :
    List.zipWith (· * ·) (List.zipWith f V D) (D.map g) = V := by
  induction V generalizing D with
  | nil => simp
  | cons v V ih =>
    cases D with
    | nil => simp at hl
    | cons d D =>
      simp only [List.zipWith_cons_cons, List.map_cons]
      rw [h v d (by simp), ih D (by simpa using hl) (fun v d hd => h v d (List.mem_cons_of_mem _ hd))]

lemma zipWith_cancel_reverse (f : α → α → α) (g : α → α) (V D : List α) (hl : V.length = D.length)
    (h : ∀ v, ∀ d ∈ D, f v d * g d = v) :
    List.zipWith (· * ·) (List.zipWith f V D).reverse (D.map g).reverse = V.reverse := by
  rw [← List.reverse_zipWith (by simp [hl]), zipWith_cancel f g V D hl.le h]

lemma succDiff_map_mul (l : List α) (c : α) : succDiff (l.map (fun x => c * x)) = (succDiff l).map (fun x => c * x) := by
  induction l with
  | nil => rfl
  | cons a l ih =>
    cases l with
    | nil => rfl
    | cons b r =>
      simp only [List.map_cons, succDiff] at ih ⊢
      rw [ih]; congr 1; ring

lemma dist_cancel_div (V D : List α) (hl : V.length = D.length) (hD : ∀ d ∈ D.reverse, d ≠ 0) :
    List.zipWith (· * ·) (List.zipWith (· / ·) V D).reverse D.reverse = V.reverse := by
  have := zipWith_cancel_reverse (· / ·) id V D hl
    (fun v d hd => div_mul_cancel₀ v (hD d (by simpa using hd)))
  simpa only [List.map_id] using this

theorem distribution_times_increment_pygapsDH (c n : Nat) (vol thick kelvin : List α)
    (hv : vol.length = n) (ht : thick.length = n) (hk : kelvin.length = n)
    (hw : ∀ x ∈ succDiff (List.zipWith (fun t k => 2 * (t + k)) thick kelvin), x ≠ 0) :
    List.zipWith (· * ·) (pygapsDH c vol thick kelvin).distribution
      (succDiff (List.zipWith (fun t k => 2 * (t + k)) thick kelvin))
      = (pygapsDH c vol thick kelvin).volumes := by
  have htk : thick.length = kelvin.length := by omega
  have hlen := pygapsDH_rows_length c n vol thick kelvin hv ht hk 0
  rw [← diffNeg_reverse, List.reverse_zipWith htk] at hw ⊢
  unfold pygapsDH
  simp only []
  have hD : (diffNeg (List.zipWith (fun t k => 2 * (t + k)) thick.reverse kelvin.reverse)).length = n - 1 := by
    simp [diffNeg_length, ht, hk]
  apply dist_cancel_div
  · rw [List.length_map, hlen, hD]
  · exact hw

lemma dist_cancel_half (V D : List α) (hl : V.length = D.length)
    (hD : ∀ d ∈ (D.map (fun x => 2 * x)).reverse, d ≠ 0) :
    List.zipWith (· * ·) (List.zipWith (fun v d => v / d / 2) V D).reverse (D.map (fun x => 2 * x)).reverse
      = V.reverse := by
  refine zipWith_cancel_reverse (fun v d => v / d / 2) (fun x => 2 * x) V D hl (fun v d hd => ?_)
  have h2d : 2 * d ≠ 0 := hD _ (by simp only [List.mem_reverse, List.mem_map]; exact ⟨d, hd, rfl⟩)
  have h2 : (2 : α) ≠ 0 := left_ne_zero_of_mul h2d
  have hd0 : d ≠ 0 := right_ne_zero_of_mul h2d
  field_simp

lemma distribution_times_increment_radiusMethod (loop : List (RRow α) → List (α × α))
    (hloop : ∀ rows, (loop rows).length = rows.length) (n : Nat) (vol thick kelvin : List α)
    (hv : vol.length = n) (ht : thick.length = n) (hk : kelvin.length = n)
    (hw : ∀ x ∈ succDiff (List.zipWith (fun t k => 2 * (t + k)) thick kelvin), x ≠ 0) :
    List.zipWith (· * ·) (radiusMethod loop vol thick kelvin).distribution
      (succDiff (List.zipWith (fun t k => 2 * (t + k)) thick kelvin))
      = (radiusMethod loop vol thick kelvin).volumes := by
  have htk : thick.length = kelvin.length := by omega
  have hlen := radiusMethod_rows_length n vol thick kelvin hv ht hk
  have e : List.zipWith (fun t k => 2 * (t + k)) thick kelvin
      = (List.zipWith (· + ·) thick kelvin).map (fun x => 2 * x) := by
    rw [List.map_zipWith]
  rw [e, succDiff_map_mul, ← diffNeg_reverse, List.reverse_zipWith htk, List.map_reverse] at hw ⊢
  unfold radiusMethod
  simp only []
  have hD : (diffNeg (List.zipWith (· + ·) thick.reverse kelvin.reverse)).length = n - 1 := by
    simp [diffNeg_length, ht, hk]
  apply dist_cancel_half
  · rw [List.length_map, hloop, hlen, hD]
  · exact hw

lemma distribution_times_increment {r : Result α} {vol thick kelvin : List α} (h : IsMethodResult r vol thick kelvin)
    (n : Nat) (hv : vol.length = n) (ht : thick.length = n) (hk : kelvin.length = n)
    (hw : ∀ x ∈ succDiff (List.zipWith (fun t k => 2 * (t + k)) thick kelvin), x ≠ 0) :
    List.zipWith (· * ·) r.distribution (succDiff (List.zipWith (fun t k => 2 * (t + k)) thick kelvin)) = r.volumes := by
  rcases h with ⟨c, rfl⟩ | rfl | rfl
  · exact distribution_times_increment_pygapsDH c n vol thick kelvin hv ht hk hw
  · exact distribution_times_increment_radiusMethod _ (fun rows => bjhLoop_length rows []) n vol thick kelvin hv ht hk hw
  · exact distribution_times_increment_radiusMethod _ (fun rows => dollimoreLoop_length rows 0 0) n vol thick kelvin hv ht
      hk hw

theorem distribution_times_increment_bjh (n : Nat) (vol thick kelvin : List α)
    (hv : vol.length = n) (ht : thick.length = n) (hk : kelvin.length = n)
    (hw : ∀ x ∈ succDiff (List.zipWith (fun t k => 2 * (t + k)) thick kelvin), x ≠ 0) :
    List.zipWith (· * ·) (bjh vol thick kelvin).distribution
      (succDiff (List.zipWith (fun t k => 2 * (t + k)) thick kelvin))
      = (bjh vol thick kelvin).volumes :=
  distribution_times_increment .bjh n hv ht hk hw

theorem distribution_times_increment_dollimoreHeal (n : Nat) (vol thick kelvin : List α)
    (hv : vol.length = n) (ht : thick.length = n) (hk : kelvin.length = n)
    (hw : ∀ x ∈ succDiff (List.zipWith (fun t k => 2 * (t + k)) thick kelvin), x ≠ 0) :
    List.zipWith (· * ·) (dollimoreHeal vol thick kelvin).distribution
      (succDiff (List.zipWith (fun t k => 2 * (t + k)) thick kelvin))
      = (dollimoreHeal vol thick kelvin).volumes :=
  distribution_times_increment .dollimoreHeal n hv ht hk hw

/-! ### 12. a single condensation step gives a single peak -/

lemma succDiff_replicate (k : Nat) (x : α) : succDiff (List.replicate k x) = List.replicate (k - 1) 0 := by
  induction k with
  | zero => rfl
  | succ k ih =>
    cases k with
    | zero => rfl
    | succ k =>
      simp only [List.replicate_succ, succDiff, sub_self] at ih ⊢
      rw [ih]; simp only [add_tsub_cancel_right, List.replicate_succ]

theorem succDiff_single_step (j m : Nat) (hm : 1 ≤ m) (a d : α) :
    succDiff (List.replicate (j + 1) a ++ List.replicate m (a + d))
      = List.replicate j 0 ++ [d] ++ List.replicate (m - 1) 0 := by
  induction j with
  | zero =>
    obtain ⟨m, rfl⟩ : ∃ m', m = m' + 1 := ⟨m - 1, by omega⟩
    have := succDiff_replicate (m + 1) (a + d)
    simp only [List.replicate_succ, List.replicate_zero, List.cons_append, List.nil_append, succDiff,
      Nat.add_sub_cancel, add_sub_cancel_left] at this ⊢
    rw [this]
  | succ j ih =>
    simp only [List.replicate_succ, List.cons_append, succDiff, sub_self] at ih ⊢
    rw [ih]

lemma widths_at (f : α → α → α) (n j : Nat) (kelvin : List α) (hk : kelvin.length = n) (hj : j + 1 < n) :
    ((List.zipWith f (List.replicate n 0) kelvin).dropLast)[j]? = some (f 0 (kelvin[j]'(by omega))) := by
  rw [List.dropLast_eq_take, List.getElem?_take_of_lt (by rw [List.length_zipWith, List.length_replicate, hk, min_self]; omega), List.getElem?_zipWith]
  have h1 : (List.replicate n (0 : α))[j]? = some 0 := by
    rw [List.getElem?_replicate, if_pos (by omega)]
  have h2 : kelvin[j]? = some (kelvin[j]'(by omega)) := List.getElem?_eq_getElem (by omega)
  rw [h1, h2]

lemma single_step_single_peak [LinearOrder α] [IsStrictOrderedRing α] {r : Result α} {vol thick kelvin : List α}
    (h : IsMethodResult r vol thick kelvin) (n j m : Nat) (hm : 1 ≤ m) (a d : α)
    (hthick : thick = List.replicate n 0) (hk : kelvin.length = n)
    (hvol : vol = List.replicate (j + 1) a ++ List.replicate m (a + d)) (hn : n = j + 1 + m)
    (hpos : ∀ k ∈ kelvin, 0 < k) :
    r.volumes = List.replicate j 0 ++ [d] ++ List.replicate (m - 1) 0 ∧
    r.widths[j]? = some (2 * kelvin[j]'(by omega)) := by
  have hv : vol.length = n := by rw [hvol, hn]; simp
  refine ⟨?_, ?_⟩
  · rw [zero_thickness_volumes h n hthick hk hv hpos, hvol, succDiff_single_step j m hm]
  · rw [widths_spec h (by rw [hthick, hk]; simp), hthick, widths_at _ n j kelvin hk (by omega), zero_add]

theorem single_step_single_peak_pygapsDH [LinearOrder α] [IsStrictOrderedRing α]
    (c n j m : Nat) (hm : 1 ≤ m) (a d : α) (vol thick kelvin : List α)
    (hthick : thick = List.replicate n 0) (hk : kelvin.length = n)
    (hvol : vol = List.replicate (j + 1) a ++ List.replicate m (a + d)) (hn : n = j + 1 + m)
    (hpos : ∀ k ∈ kelvin, 0 < k) :
    (pygapsDH c vol thick kelvin).volumes = List.replicate j 0 ++ [d] ++ List.replicate (m - 1) 0 ∧
    (pygapsDH c vol thick kelvin).widths[j]? = some (2 * kelvin[j]'(by omega)) :=
  single_step_single_peak .pygapsDH n j m hm a d hthick hk hvol hn hpos

theorem single_step_single_peak_bjh [LinearOrder α] [IsStrictOrderedRing α]
    (n j m : Nat) (hm : 1 ≤ m) (a d : α) (vol thick kelvin : List α)
    (hthick : thick = List.replicate n 0) (hk : kelvin.length = n)
    (hvol : vol = List.replicate (j + 1) a ++ List.replicate m (a + d)) (hn : n = j + 1 + m)
    (hpos : ∀ k ∈ kelvin, 0 < k) :
    (bjh vol thick kelvin).volumes = List.replicate j 0 ++ [d] ++ List.replicate (m - 1) 0 ∧
    (bjh vol thick kelvin).widths[j]? = some (2 * kelvin[j]'(by omega)) :=
  single_step_single_peak .bjh n j m hm a d hthick hk hvol hn hpos

theorem single_step_single_peak_dollimoreHeal [LinearOrder α] [IsStrictOrderedRing α]
    (n j m : Nat) (hm : 1 ≤ m) (a d : α) (vol thick kelvin : List α)
    (hthick : thick = List.replicate n 0) (hk : kelvin.length = n)
    (hvol : vol = List.replicate (j + 1) a ++ List.replicate m (a + d)) (hn : n = j + 1 + m)
    (hpos : ∀ k ∈ kelvin, 0 < k) :
    (dollimoreHeal vol thick kelvin).volumes = List.replicate j 0 ++ [d] ++ List.replicate (m - 1) 0 ∧
    (dollimoreHeal vol thick kelvin).widths[j]? = some (2 * kelvin[j]'(by omega)) :=
  single_step_single_peak .dollimoreHeal n j m hm a d hthick hk hvol hn hpos

/-! ### 14. method dispatch, 15. default limits -/

theorem method_dispatch_bjh (g : String) (vol thick kelvin : List α) :
    method "BJH" g vol thick kelvin = none ↔ g ≠ "cylinder" := by
  unfold method
  rw [if_neg (by decide), if_pos rfl]
  by_cases h : g = "cylinder" <;> simp [h]

theorem method_dispatch_dh (g : String) (vol thick kelvin : List α) :
    method "DH" g vol thick kelvin = none ↔ g ≠ "cylinder" := by
  unfold method
  rw [if_neg (by decide), if_neg (by decide), if_pos rfl]
  by_cases h : g = "cylinder" <;> simp [h]

theorem method_dispatch_pygapsDH (g : String) (vol thick kelvin : List α) :
    (method "pygaps-DH" g vol thick kelvin).isSome ↔ (g = "slit" ∨ g = "cylinder" ∨ g = "sphere") := by
  unfold method cLength
  rw [if_pos rfl]
  by_cases h1 : g = "slit"
  · simp [h1]
  by_cases h2 : g = "cylinder"
  · simp [h2]
  by_cases h3 : g = "sphere"
  · simp [h3]
  simp [h1, h2, h3]

theorem method_dispatch_pygapsDH_value (vol thick kelvin : List α) :
    method "pygaps-DH" "slit" vol thick kelvin = some (pygapsDH 1 vol thick kelvin) ∧
    method "pygaps-DH" "cylinder" vol thick kelvin = some (pygapsDH 2 vol thick kelvin) ∧
    method "pygaps-DH" "sphere" vol thick kelvin = some (pygapsDH 3 vol thick kelvin) ∧
    method "BJH" "cylinder" vol thick kelvin = some (bjh vol thick kelvin) ∧
    method "DH" "cylinder" vol thick kelvin = some (dollimoreHeal vol thick kelvin) := by
  refine ⟨?_, ?_, ?_, ?_, ?_⟩ <;> simp [method, cLength]

theorem method_dispatch_unknown (name g : String) (vol thick kelvin : List α)
    (h1 : name ≠ "pygaps-DH") (h2 : name ≠ "BJH") (h3 : name ≠ "DH") :
    method name g vol thick kelvin = none := by
  unfold method
  rw [if_neg h1, if_neg h2, if_neg h3]

/-- `p_limits = None` means `(0.1, 0.99)`; otherwise the given pair is used -/
theorem mesoWindow_default [LinearOrder α] (ps : List α) (c10 c99 : α) (lo hi : Option α) :
    mesoWindow ps c10 c99 none = decide3 (limitWindow ps (some c10) (some c99)) ∧
    mesoWindow ps c10 c99 (some (lo, hi)) = decide3 (limitWindow ps lo hi) :=
  ⟨rfl, rfl⟩

end Recurrences

/-! ## A. Kelvin and thickness formulas (generated from the source) -/

section Formulas

open PgVerif.Gen.CharR

/-- the gas constant as it appears in the generated text -/
noncomputable def Rgas : ℝ := 207861565453831 / 25000000000000

lemma Rgas_pos : 0 < Rgas := by unfold Rgas; norm_num

lemma kelvin_radius_eq (p T γ Vm f : ℝ) :
    kelvin_radius p T γ Vm f = (2 * γ * Vm / (f * Rgas * T)) / (-Real.log p) := by
  rw [div_neg, div_div, ← neg_div]
  rfl

lemma eq_neg_div_mul_of_eq {A B L r : ℝ} (hA : A ≠ 0) (hB : B ≠ 0) (hr : r = A / B / -L) : L = -A / (B * r) := by
  by_cases hL : L = 0
  · rw [hr, hL, neg_zero, div_zero, mul_zero, div_zero]
  · rw [hr]; field_simp

/-- `p = 1` and `p ≤ 0` are excluded because Lean totalises `x / 0` and `log`: on `0 < p < 1` the radius is positive and `log p ≠ 0`. -/
theorem kelvin_equation (p T γ Vm f : ℝ) (hp : 0 < p) (hp1 : p < 1) (hT : 0 < T) (hγ : 0 < γ) (hVm : 0 < Vm)
    (hf : 0 < f) :
    0 < kelvin_radius p T γ Vm f ∧
    Real.log p = -(2 * γ * Vm) / (f * Rgas * T * kelvin_radius p T γ Vm f) := by
  have hA : 0 < 2 * γ * Vm := mul_pos (mul_pos two_pos hγ) hVm
  have hB : 0 < f * Rgas * T := mul_pos (mul_pos hf Rgas_pos) hT
  have hr := kelvin_radius_eq p T γ Vm f
  exact ⟨hr ▸ div_pos (div_pos hA hB) (neg_pos.mpr (Real.log_neg hp hp1)), eq_neg_div_mul_of_eq hA.ne' hB.ne' hr⟩

/-- the geometry factors as (numerator, denominator): 2, 1, 1/2 -/
theorem geometry_factor_table :
    geometryFactor.lookup "cylindrical" = some (2, 1) ∧
    geometryFactor.lookup "hemispherical" = some (1, 1) ∧
    geometryFactor.lookup "hemicylindrical" = some (1, 2) := by
  refine ⟨?_, ?_, ?_⟩ <;> decide

/-- the published branch × pore-geometry → meniscus table -/
theorem meniscus_table :
    meniscusGeometry.lookup ("ads", "slit") = some "hemicylindrical" ∧
    meniscusGeometry.lookup ("ads", "cylinder") = some "cylindrical" ∧
    meniscusGeometry.lookup ("ads", "halfopen-cylinder") = some "hemispherical" ∧
    meniscusGeometry.lookup ("ads", "sphere") = some "hemispherical" ∧
    meniscusGeometry.lookup ("des", "slit") = some "hemicylindrical" ∧
    meniscusGeometry.lookup ("des", "cylinder") = some "hemispherical" ∧
    meniscusGeometry.lookup ("des", "halfopen-cylinder") = some "hemispherical" ∧
    meniscusGeometry.lookup ("des", "sphere") = some "hemispherical" ∧
    meniscusGeometry.length = 8 := by
  refine ⟨?_, ?_, ?_, ?_, ?_, ?_, ?_, ?_, ?_⟩ <;> decide

lemma neg_log_anti {p q : ℝ} (hp : 0 < p) (hpq : p < q) (hq1 : q < 1) :
    0 < -Real.log q ∧ -Real.log q < -Real.log p :=
  ⟨neg_pos.mpr (Real.log_neg (hp.trans hpq) hq1), neg_lt_neg (Real.log_lt_log hp hpq)⟩

theorem kelvin_strictMonoOn (T γ Vm f : ℝ) (hT : 0 < T) (hγ : 0 < γ) (hVm : 0 < Vm) (hf : 0 < f) :
    StrictMonoOn (fun p => kelvin_radius p T γ Vm f) (Set.Ioo 0 1) := by
  intro p hp q hq hpq
  obtain ⟨h1, h2⟩ := neg_log_anti hp.1 hpq hq.2
  simp only [kelvin_radius_eq]
  exact div_lt_div_of_pos_left (div_pos (mul_pos (mul_pos two_pos hγ) hVm) (mul_pos (mul_pos hf Rgas_pos) hT)) h1 h2

/-- the KJS correction adds 0.3 nm to the hemispherical (factor 1) Kelvin radius -/
theorem kelvin_kjs_eq (p T γ Vm : ℝ) :
    kelvin_radius_kjs p T γ Vm = kelvin_radius p T γ Vm 1 + 3 / 10 := by
  unfold kelvin_radius_kjs kelvin_radius
  rw [one_mul]

lemma halsey_eq (p : ℝ) : thickness_halsey p = 177 / 500 * (5 / (-Real.log p)) ^ ((333 : ℝ) / 1000) := by
  unfold thickness_halsey
  simp only [Real.rpow_eq_pow]
  rw [neg_div, ← div_neg]

/-- both closed-form thickness models are `(a / den p) ^ e` with a positive, strictly decreasing `den` -/
lemma rpow_div_strictMonoOn {a e : ℝ} {den : ℝ → ℝ} {s : Set ℝ} (ha : 0 < a) (he : 0 < e)
    (hpos : ∀ p ∈ s, 0 < den p) (hanti : StrictAntiOn den s) : StrictMonoOn (fun p => (a / den p) ^ e) s :=
  fun p hp q hq hpq =>
    Real.rpow_lt_rpow (div_pos ha (hpos p hp)).le (div_lt_div_of_pos_left ha (hpos q hq) (hanti hp hq hpq)) he

theorem halsey_pos (p : ℝ) (hp : 0 < p) (hp1 : p < 1) : 0 < thickness_halsey p := by
  rw [halsey_eq]
  exact mul_pos (by norm_num)
    (Real.rpow_pos_of_pos (div_pos (by norm_num) (neg_pos.mpr (Real.log_neg hp hp1))) _)

theorem halsey_strictMonoOn : StrictMonoOn thickness_halsey (Set.Ioo 0 1) := by
  intro p hp q hq hpq
  rw [halsey_eq, halsey_eq]
  exact mul_lt_mul_of_pos_left
    (rpow_div_strictMonoOn (s := Set.Ioo 0 1) (by norm_num) (by norm_num)
      (fun x hx => neg_pos.mpr (Real.log_neg hx.1 hx.2))
      (fun x hx y hy hxy => (neg_log_anti hx.1 hxy hy.2).2) hp hq hpq) (by norm_num)

lemma harkins_jura_eq (p : ℝ) :
    thickness_harkins_jura p = (1399 / 10000 / (17 / 500 + (-Real.log p) / Real.log 10)) ^ ((1 : ℝ) / 2) := by
  unfold thickness_harkins_jura
  simp only [Real.rpow_eq_pow]
  rw [neg_div, sub_eq_add_neg]

lemma log_ten_pos : 0 < Real.log 10 := Real.log_pos (by norm_num)

lemma harkins_jura_den_pos {p : ℝ} (hp : 0 < p) (hp1 : p < 1) : 0 < 17 / 500 + (-Real.log p) / Real.log 10 :=
  add_pos (by norm_num) (div_pos (neg_pos.mpr (Real.log_neg hp hp1)) log_ten_pos)

theorem harkins_jura_pos (p : ℝ) (hp : 0 < p) (hp1 : p < 1) : 0 < thickness_harkins_jura p := by
  rw [harkins_jura_eq]
  exact Real.rpow_pos_of_pos (div_pos (by norm_num) (harkins_jura_den_pos hp hp1)) _

theorem harkins_jura_strictMonoOn : StrictMonoOn thickness_harkins_jura (Set.Ioo 0 1) := by
  intro p hp q hq hpq
  rw [harkins_jura_eq, harkins_jura_eq]
  exact rpow_div_strictMonoOn (s := Set.Ioo 0 1) (by norm_num) (by norm_num)
    (fun x hx => harkins_jura_den_pos hx.1 hx.2)
    (fun x hx y hy hxy => add_lt_add_right (div_lt_div_of_pos_right (neg_log_anti hx.1 hxy hy.2).2 log_ten_pos) _)
    hp hq hpq

lemma width_strictMono_of_monotoneOn (th : ℝ → ℝ) (hth : MonotoneOn th (Set.Ioo 0 1))
    (T γ Vm f : ℝ) (hT : 0 < T) (hγ : 0 < γ) (hVm : 0 < Vm) (hf : 0 < f) :
    StrictMonoOn (fun p => 2 * (th p + kelvin_radius p T γ Vm f)) (Set.Ioo 0 1) := by
  intro p hp q hq hpq
  have h1 := hth hp hq hpq.le
  have h2 := kelvin_strictMonoOn T γ Vm f hT hγ hVm hf hp hq hpq
  simp only at h2 ⊢
  linarith

theorem width_strictMono (T γ Vm f : ℝ) (hT : 0 < T) (hγ : 0 < γ) (hVm : 0 < Vm) (hf : 0 < f) :
    StrictMonoOn (fun p => 2 * (thickness_halsey p + kelvin_radius p T γ Vm f)) (Set.Ioo 0 1) ∧
    StrictMonoOn (fun p => 2 * (thickness_harkins_jura p + kelvin_radius p T γ Vm f)) (Set.Ioo 0 1) ∧
    StrictMonoOn (fun p => 2 * ((0 : ℝ) + kelvin_radius p T γ Vm f)) (Set.Ioo 0 1) :=
  ⟨width_strictMono_of_monotoneOn _ halsey_strictMonoOn.monotoneOn T γ Vm f hT hγ hVm hf,
   width_strictMono_of_monotoneOn _ harkins_jura_strictMonoOn.monotoneOn T γ Vm f hT hγ hVm hf,
   width_strictMono_of_monotoneOn (fun _ => 0) (fun _ _ _ _ _ => le_rfl) T γ Vm f hT hγ hVm hf⟩

end Formulas

/-! ## C. non-vacuity -/

section Examples

/-- the hypotheses of 8 are satisfiable and give the stated result -/
example : (pygapsDH 2 [1, 2, 4, 5] [0, 0, 0, 0] [1, 2, 3, 4] : Result ℚ).volumes = [1, 2, 1] := by decide +kernel
example : (bjh [1, 2, 4, 5] [0, 0, 0, 0] [1, 2, 3, 4] : Result ℚ).volumes = [1, 2, 1] := by decide +kernel
example : (dollimoreHeal [1, 2, 4, 5] [0, 0, 0, 0] [1, 2, 3, 4] : Result ℚ).volumes = [1, 2, 1] := by decide +kernel
example : succDiff ([1, 2, 4, 5] : List ℚ) = [1, 2, 1] := by decide +kernel
example : ([0, 0, 0, 0] : List ℚ) = List.replicate 4 0 ∧ ([1, 2, 3, 4] : List ℚ).length = 4 ∧
    ∀ k ∈ ([1, 2, 3, 4] : List ℚ), 0 < k := by decide +kernel
example : (pygapsDH 2 [1, 2, 4, 5] [0, 0, 0, 0] [1, 2, 3, 4] : Result ℚ).widths = [2, 4, 6] := by decide +kernel
example : (pygapsDH 2 [1, 2, 4, 5] [0, 0, 0, 0] [1, 2, 3, 4] : Result ℚ).distribution = [1 / 2, 1, 1 / 2] := by
  decide +kernel
/-- with a non-zero thickness the volumes are *not* the raw changes (the statement of 8 is not trivial) -/
example : (pygapsDH 2 [1, 2, 4, 5] [1, 2, 3, 4] [1, 2, 3, 4] : Result ℚ).volumes ≠ [1, 2, 1] := by decide +kernel
example : (bjh [1, 2, 4, 5] [1, 2, 3, 4] [1, 2, 3, 4] : Result ℚ).volumes ≠ [1, 2, 1] := by decide +kernel
example : (pygapsDH 2 [1, 1, 3, 3] [0, 0, 0, 0] [1, 2, 3, 4] : Result ℚ).volumes = [0, 2, 0] := by decide +kernel
example : (dollimoreHeal [1, 1, 3, 3] [0, 0, 0, 0] [1, 2, 3, 4] : Result ℚ).widths = [2, 4, 6] := by decide +kernel
example : cumulative ([1, 2, 1] : List ℚ) [1, 2, 4, 5] = [2, 4, 5] := by decide +kernel
example : (method "BJH" "slit" [1, 2] [0, 0] [1, 2] : Option (Result ℚ)).isNone = true := by decide +kernel
example : (method "pygaps-DH" "slit" [1, 2] [0, 0] [1, 2] : Option (Result ℚ)).isSome = true := by decide +kernel

end Examples

end PgVerif.Props.C16
