/-
C04, `model='guess'` and the module-level list of candidate models (seeded change C04-m16).

`ModelIsotherm.guess` walks the candidate list `pygaps.modelling._GUESS_MODELS`, tries a fit with every candidate, skips the ones whose fit is
refused (`CalculationError`) and keeps the best of the rest.  The list is a module-level object that every later guess in the process reads:
the property ("the outcome of a query is the same whether issued first or after other queries") holds because a guess READS the list and
never writes it.  The model keeps exactly that bookkeeping (the fit is any function `fit : Model → Data → Option Err`, `none` = refused):
one guess leaves the list as it found it, hence so does any history of guesses, and the last answer is the answer of the same guess
issued first.  The defect class of C04-m16 strikes refused candidates off the shared list: invisible on data that every candidate
fits, visible to a later guess otherwise (kernel-checked witness).

The tie to the code is section 6b of harness/props/c04.py (guess fits on five data shapes through four entry points, every ordered pair)
and the oracle `follow_module_leads` (all module-level containers compared by content after every history).
-/
import Mathlib.Tactic

namespace PgVerif.Props.C04.Guess

variable {M D : Type}

/-- The best fitted candidate: smallest error, the first one wins a tie; refused candidates (`none`) are skipped. -/
def best (fit : M → D → Option Nat) (d : D) : List M → Option (M × Nat)
  | [] => none
  | m :: ms =>
    match fit m d, best fit d ms with
    | none, r => r
    | some e, none => some (m, e)
    | some e, some (m', e') => if e ≤ e' then some (m, e) else some (m', e')

/-- One guess as the code has it: the shared list is read, not written. -/
def guess (fit : M → D → Option Nat) (cands : List M) (d : D) : List M × Option (M × Nat) := (cands, best fit d cands)

theorem guess_list_unchanged (fit : M → D → Option Nat) (cands : List M) (d : D) : (guess fit cands d).1 = cands := rfl

/-- A history of guesses on the shared list: the list left behind and the answers. -/
def guessRun (step : List M → D → List M × Option (M × Nat)) : List M → List D → List M × List (Option (M × Nat))
  | cands, [] => (cands, [])
  | cands, d :: ds =>
    let r := step cands d
    let rest := guessRun step r.1 ds
    (rest.1, r.2 :: rest.2)

theorem guessRun_list_unchanged (fit : M → D → Option Nat) (cands : List M) (ds : List D) :
    (guessRun (guess fit) cands ds).1 = cands := by
  induction ds generalizing cands with
  | nil => rfl
  | cons d ds ih => simp [guessRun, guess, ih]

theorem guessRun_last_eq_fresh (fit : M → D → Option Nat) (cands : List M) (ds : List D) (d : D) :
    (guess fit (guessRun (guess fit) cands ds).1 d).2 = (guess fit cands d).2 := by
  rw [guessRun_list_unchanged]

/-- The defect class of C04-m16: a candidate whose fit is refused is struck off the shared list. -/
def guessRemoving (fit : M → D → Option Nat) (cands : List M) (d : D) : List M × Option (M × Nat) :=
  (cands.filter (fun m => (fit m d).isSome), best fit d cands)

/-- The defect is invisible on data that every candidate fits. -/
theorem guessRemoving_list_eq_iff (fit : M → D → Option Nat) (cands : List M) (d : D) :
    (guessRemoving fit cands d).1 = cands ↔ ∀ m ∈ cands, (fit m d).isSome = true :=
  List.filter_eq_self

/-- The answer of ONE guess is the same under the defect: only a LATER guess can show it. -/
theorem guessRemoving_answer_eq (fit : M → D → Option Nat) (cands : List M) (d : D) :
    (guessRemoving fit cands d).2 = (guess fit cands d).2 := rfl

/-- Candidates 0, 1, 2; data 0 refuses candidate 0 (errors 5, 7 for the others); on data 1 candidate 0 is the best (error 1 against 4, 6).
After a guess on data 0 the defective bookkeeping answers data 1 with candidate 1; issued first it answers with candidate 0. -/
def witnessFit : Nat → Nat → Option Nat
  | 0, 0 => none
  | 1, 0 => some 5
  | 2, 0 => some 7
  | 0, 1 => some 1
  | 1, 1 => some 4
  | 2, 1 => some 6
  | _, _ => none

theorem guessRemoving_history_witness :
    (guessRun (guessRemoving witnessFit) [0, 1, 2] [0, 1]).2 = [some (1, 5), some (1, 4)]
    ∧ (guessRun (guessRemoving witnessFit) [0, 1, 2] [1]).2 = [some (0, 1)]
    ∧ (guessRun (guess witnessFit) [0, 1, 2] [0, 1]).2 = [some (1, 5), some (0, 1)] := by
  decide +kernel

/-- Non-vacuity of `guessRemoving_list_eq_iff`: on data 1 every candidate is fitted and the list survives. -/
example : (guessRemoving witnessFit [0, 1, 2] 1).1 = [0, 1, 2] :=
  (guessRemoving_list_eq_iff witnessFit [0, 1, 2] 1).2 (by decide)

end PgVerif.Props.C04.Guess
