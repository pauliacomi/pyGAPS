/-
C14 — linearised characterisation methods recover the generating parameters.

Statements are about
  * the GENERATED per-point transforms and parameter formulas `PgVerif.Gen.CharR.*` (characterisation/*.py now), and
  * the hand-written, harness-tested model `PgVerif.Model.Linear` of window selection and least squares.

A. least squares: exact data on a line are fitted exactly (guard: two distinct abscissae).
B. recovery, one scheme for BET, Langmuir, t-plot, alpha-s and Dubinin–Astakhov: the transform of exact model data is a line in the
   method's abscissa, the fit returns that line, the parameter formulas invert slope and intercept.
C. window selection on a sorted pressure list: what `searchsorted`, the two limits, the refusal below three points and the Rouquerol
   maximum select, method by method.
D. non-vacuity examples and concrete evaluations of the model.
-/
import PgVerif.Gen.CharR
import PgVerif.Model.Linear
import Mathlib.Tactic
import Mathlib.Data.List.GetD

namespace PgVerif.Props.C14
open PgVerif.Gen.CharR PgVerif.Model.Linear

/-! ## A. least squares -/
section OlsAlgebra
variable {α : Type} [Field α]

@[simp] lemma sum_nil : sum ([] : List α) = 0 := rfl
@[simp] lemma sum_cons (x : α) (xs : List α) : sum (x :: xs) = x + sum xs := rfl

lemma sum_map_affine (a b : α) (xs : List α) :
    sum (xs.map fun x => a * x + b) = a * sum xs + b * (xs.length : α) := by
  induction xs with
  | nil => simp
  | cons x xs ih => simp only [List.map_cons, sum_cons, ih, List.length_cons]; push_cast; ring

lemma sum_map_mul_left (a : α) (g : α → α) (xs : List α) :
    sum (xs.map fun x => a * g x) = a * sum (xs.map g) :=
  List.sum_map_mul_left xs g a

lemma sxy_self_eq (xs : List α) :
    sxy xs xs = sum (xs.map fun x => (x - mean xs) * (x - mean xs)) :=
  congrArg sum List.zipWith_self

lemma sum_zipWith_scale (k m m' : α) (xs ys : List α) :
    sum (List.zipWith (fun x y => (x - m) * (y - k * m')) xs (ys.map fun y => k * y))
      = k * sum (List.zipWith (fun x y => (x - m) * (y - m')) xs ys) := by
  induction xs generalizing ys with
  | nil => simp
  | cons x xs ih =>
    cases ys with
    | nil => simp
    | cons y ys => simp only [List.map_cons, List.zipWith_cons_cons, sum_cons, ih]; ring

lemma sxy_nil_left (ys : List α) : sxy ([] : List α) ys = 0 := rfl

lemma mean_map_scale (k : α) (ys : List α) : mean (ys.map fun y => k * y) = k * mean ys := by
  have h := sum_map_mul_left k (fun y => y) ys
  rw [List.map_id'] at h
  rw [mean, h, List.length_map, mul_div_assoc, mean]

variable [CharZero α]

lemma length_cast_ne_zero {xs : List α} (h : xs ≠ []) : (xs.length : α) ≠ 0 :=
  Nat.cast_ne_zero.mpr (mt List.length_eq_zero_iff.mp h)

lemma mean_map_affine (a b : α) (xs : List α) (h : xs ≠ []) :
    mean (xs.map fun x => a * x + b) = a * mean xs + b := by
  unfold mean
  rw [sum_map_affine, List.length_map, add_div, mul_div_assoc, mul_div_cancel_right₀ b (length_cast_ne_zero h)]

lemma sxy_map_affine (a b : α) (xs : List α) (h : xs ≠ []) :
    sxy xs (xs.map fun x => a * x + b) = a * sxy xs xs := by
  rw [sxy_self_eq, sxy, mean_map_affine a b xs h, List.zipWith_map_right, List.zipWith_self, ← sum_map_mul_left]
  congr 1
  apply List.map_congr_left
  intro x _
  ring

/-- The guard `sxy xs xs ≠ 0` says that the abscissae are not all equal (`sxy_self_pos_of_ne`, `sxy_self_pos`). -/
theorem ols_exact (a b : α) (xs ys : List α) (hys : ys = xs.map fun x => a * x + b)
    (hx : sxy xs xs ≠ 0) : ols xs ys = (a, b) := by
  have hne : xs ≠ [] := by
    rintro rfl; exact hx (sxy_nil_left _)
  subst hys
  unfold ols
  simp only [sxy_map_affine a b xs hne, mean_map_affine a b xs hne]
  rw [mul_div_assoc, div_self hx, mul_one]
  simp

theorem ols_scale (k : α) (xs ys : List α) :
    ols xs (ys.map fun y => k * y) = (k * (ols xs ys).1, k * (ols xs ys).2) := by
  have hs : sxy xs (ys.map fun y => k * y) = k * sxy xs ys := by
    unfold sxy
    rw [mean_map_scale, sum_zipWith_scale]
  unfold ols
  simp only [hs, mean_map_scale, Prod.mk.injEq]
  constructor <;> ring

end OlsAlgebra

section OlsOrder
variable {α : Type} [Field α] [LinearOrder α] [IsStrictOrderedRing α]

lemma sxy_self_nonneg (xs : List α) : 0 ≤ sxy xs xs := by
  rw [sxy_self_eq]
  -- `Model.Linear.sum` is `List.sum` by definition, so Mathlib's lemmas on sums over lists apply as they stand
  exact List.sum_nonneg (List.forall_mem_map.mpr fun x _ => mul_self_nonneg _)

/-- one of two distinct abscissae is not the mean, and its squared deviation is one of the non-negative terms of the sum -/
theorem sxy_self_pos_of_ne (xs : List α) {u v : α} (hu : u ∈ xs) (hv : v ∈ xs) (huv : u ≠ v) :
    0 < sxy xs xs := by
  rw [sxy_self_eq]
  have key : ∀ w ∈ xs, w ≠ mean xs → 0 < sum (xs.map fun x => (x - mean xs) * (x - mean xs)) := fun w hw hwm =>
    lt_of_lt_of_le (mul_self_pos.mpr (sub_ne_zero.mpr hwm))
      (List.single_le_sum (List.forall_mem_map.mpr fun x _ => mul_self_nonneg _) _
        (List.mem_map_of_mem (f := fun x => (x - mean xs) * (x - mean xs)) hw))
  by_cases hum : u = mean xs
  · exact key v hv (fun hvm => huv (hum.trans hvm.symm))
  · exact key u hu hum

omit [Field α] [LinearOrder α] [IsStrictOrderedRing α] in
lemma exists_two_of_pairwise {R : α → α → Prop} (hR : ∀ a b, R a b → a ≠ b) (xs : List α)
    (hp : xs.Pairwise R) (hl : 2 ≤ xs.length) : ∃ u ∈ xs, ∃ v ∈ xs, u ≠ v := by
  match xs, hp, hl with
  | a :: b :: rest, hp, _ =>
    refine ⟨a, by simp, b, by simp, ?_⟩
    rw [List.pairwise_cons] at hp
    exact hR a b (hp.1 b (by simp))

theorem sxy_self_pos (xs : List α) (hs : xs.Pairwise (· < ·)) (hl : 2 ≤ xs.length) : 0 < sxy xs xs := by
  obtain ⟨u, hu, v, hv, huv⟩ := exists_two_of_pairwise (fun a b h => ne_of_lt h) xs hs hl
  exact sxy_self_pos_of_ne xs hu hv huv

theorem sxy_self_pos_of_desc (xs : List α) (hs : xs.Pairwise (· > ·)) (hl : 2 ≤ xs.length) : 0 < sxy xs xs := by
  obtain ⟨u, hu, v, hv, huv⟩ := exists_two_of_pairwise (fun a b h => ne_of_gt h) xs hs hl
  exact sxy_self_pos_of_ne xs hu hv huv

theorem ols_exact_of_sorted (a b : α) (xs ys : List α) (hys : ys = xs.map fun x => a * x + b)
    (hs : xs.Pairwise (· < ·)) (hl : 2 ≤ xs.length) : ols xs ys = (a, b) :=
  ols_exact a b xs ys hys (sxy_self_pos xs hs hl).ne'

theorem ols_exact_of_sorted_desc (a b : α) (xs ys : List α) (hys : ys = xs.map fun x => a * x + b)
    (hs : xs.Pairwise (· > ·)) (hl : 2 ≤ xs.length) : ols xs ys = (a, b) :=
  ols_exact a b xs ys hys (sxy_self_pos_of_desc xs hs hl).ne'

theorem ols_exact_of_two_distinct (a b : α) (xs ys : List α) (hys : ys = xs.map fun x => a * x + b)
    {u v : α} (hu : u ∈ xs) (hv : v ∈ xs) (huv : u ≠ v) : ols xs ys = (a, b) :=
  ols_exact a b xs ys hys (sxy_self_pos_of_ne xs hu hv huv).ne'

/-- **The scheme of every linearised method.** The data `ps` are plotted with abscissae `X p` and ordinates `Y p`; if the
method's transform makes the ordinates the line `a * X p + b` at every datum, and two data have different abscissae, the
fit returns `(a, b)`.  (For `X = id` this is `ols_exact_of_two_distinct` / `ols_exact_of_sorted` with
`List.map_congr_left`.)  Each method below adds its two algebra facts: the transform of exact model data is that line,
and the parameter formulas invert `(a, b)`. -/
lemma ols_map_of_affine {β : Type} (X Y : β → α) (a b : α) (ps : List β) (hY : ∀ p ∈ ps, Y p = a * X p + b)
    {u v : β} (hu : u ∈ ps) (hv : v ∈ ps) (huv : X u ≠ X v) : ols (ps.map X) (ps.map Y) = (a, b) :=
  ols_exact_of_two_distinct a b _ _ (by rw [List.map_map]; exact List.map_congr_left hY)
    (List.mem_map_of_mem hu) (List.mem_map_of_mem hv) huv

/-- Conversely the guard is necessary: when all abscissae are equal `sxy xs xs = 0` and the
regression is degenerate (the totalised division returns slope 0). -/
theorem sxy_self_eq_zero_of_const (c : α) (n : ℕ) : sxy (List.replicate n c) (List.replicate n c) = 0 := by
  -- a constant list is its own image under `x ↦ 0 * x + c`
  rcases n with _ | n
  · exact sxy_nil_left _
  · have h := sxy_map_affine 0 c (List.replicate (n + 1) c) (List.cons_ne_nil _ _)
    rwa [List.map_replicate, zero_mul, zero_add, zero_mul] at h

end OlsOrder

/-! ## B. recovery of the generating parameters (statements about the generated formulas `Gen.CharR`) -/
section Recovery

/-! ### BET -/

/-- Guards: `0 < p < 1` (relative pressure strictly inside the range; at `p = 0` and `p = 1` the transform divides by zero),
`0 < n_m`, `0 < c`. -/
theorem bet_transform_linear (nm c p : ℝ) (hp0 : 0 < p) (hp1 : p < 1) (hnm : 0 < nm) (hc : 0 < c) :
    bet_transform p (simple_bet p nm c) = ((c - 1) / (nm * c)) * p + 1 / (nm * c) := by
  unfold bet_transform roq_transform simple_bet
  have h1 : (1 - p) ≠ 0 := (sub_pos.2 hp1).ne'
  have h2 : (1 - p) + c * p ≠ 0 := (add_pos (sub_pos.2 hp1) (mul_pos hc hp0)).ne'
  have h3 : p ≠ 0 := hp0.ne'
  have h4 : nm ≠ 0 := hnm.ne'
  have h5 : c ≠ 0 := hc.ne'
  field_simp
  ring

lemma avogadro_scaled : ((10 : ℝ) ^ (-18 : ℤ)) * (602214076000000000000000 : ℝ) = 602214.076 := by
  norm_num

/-- (`bet_area` has the generated argument order `cross_section n_monolayer`.) -/
theorem bet_parameters_recover (nm c cs : ℝ) (hnm : 0 < nm) (hc : 0 < c) :
    bet_c_const ((c - 1) / (nm * c)) (1 / (nm * c)) = c ∧
    bet_n_monolayer (1 / (nm * c)) c = nm ∧
    bet_p_monolayer c = 1 / (Real.sqrt c + 1) ∧
    bet_area cs nm = nm * cs * (10 : ℝ) ^ (-18 : ℤ) * 602214076000000000000000 ∧
    bet_area cs nm = nm * cs * 602214.076 := by
  have h4 : nm ≠ 0 := hnm.ne'
  have h5 : c ≠ 0 := hc.ne'
  refine ⟨?_, ?_, rfl, rfl, ?_⟩
  · unfold bet_c_const; field_simp; ring
  · unfold bet_n_monolayer; field_simp
  · unfold bet_area; rw [mul_assoc, avogadro_scaled]

/-- The last conjunct chains as the code does: `n_monolayer` is computed from the computed `c_const`. -/
theorem bet_recovers (nm c : ℝ) (ps : List ℝ) (hnm : 0 < nm) (hc : 0 < c)
    (hs : ps.Pairwise (· < ·)) (hl : 2 ≤ ps.length) (hp : ∀ p ∈ ps, 0 < p ∧ p < 1) :
    let r := ols ps (ps.map fun p => bet_transform p (simple_bet p nm c))
    r = ((c - 1) / (nm * c), 1 / (nm * c)) ∧
    bet_c_const r.1 r.2 = c ∧ bet_n_monolayer r.2 (bet_c_const r.1 r.2) = nm := by
  intro r
  have hr : r = ((c - 1) / (nm * c), 1 / (nm * c)) := ols_exact_of_sorted _ _ _ _
    (List.map_congr_left fun p hpm => bet_transform_linear nm c p (hp p hpm).1 (hp p hpm).2 hnm hc) hs hl
  obtain ⟨h1, h2, -⟩ := bet_parameters_recover nm c 0 hnm hc
  rw [hr]
  exact ⟨rfl, h1, (congrArg _ h1).trans h2⟩

theorem bet_p_monolayer_is_knee (nm c : ℝ) (hc : 0 < c) : simple_bet (bet_p_monolayer c) nm c = nm := by
  unfold simple_bet bet_p_monolayer
  have hs : 0 < Real.sqrt c := Real.sqrt_pos.2 hc
  have hcs : c = Real.sqrt c * Real.sqrt c := (Real.mul_self_sqrt hc.le).symm
  set s := Real.sqrt c with hsdef
  have h1 : s + 1 ≠ 0 := by positivity
  have e1 : 1 - 1 / (s + 1) = s / (s + 1) := by field_simp; ring
  have e2 : s / (s + 1) + c * (1 / (s + 1)) = s := by rw [hcs]; field_simp; ring
  rw [e1, e2, hcs]
  field_simp

/-! ### Langmuir -/

/-- Guards `0 < p`, `0 < n_m`, `0 < K` (at `p = 0` the loading is 0 and the transform divides by zero). -/
theorem langmuir_transform_linear (nm K p : ℝ) (hnm : 0 < nm) (hK : 0 < K) (hp : 0 < p) :
    langmuir_transform p (simple_lang p nm K) = (1 / nm) * p + 1 / (nm * K) := by
  unfold langmuir_transform simple_lang
  have h1 : 1 + K * p ≠ 0 := by positivity
  have h2 : nm ≠ 0 := hnm.ne'
  have h3 : K ≠ 0 := hK.ne'
  have h4 : p ≠ 0 := hp.ne'
  field_simp
  ring

theorem langmuir_parameters_recover (nm K cs : ℝ) (hnm : 0 < nm) (hK : 0 < K) :
    lang_n_monolayer (1 / nm) = nm ∧
    lang_const (1 / (nm * K)) nm = K ∧
    lang_area cs nm = nm * cs * (10 : ℝ) ^ (-18 : ℤ) * 602214076000000000000000 ∧
    lang_area cs nm = nm * cs * 602214.076 := by
  have h2 : nm ≠ 0 := hnm.ne'
  have h3 : K ≠ 0 := hK.ne'
  refine ⟨?_, ?_, rfl, ?_⟩
  · unfold lang_n_monolayer; field_simp
  · unfold lang_const; field_simp
  · unfold lang_area; rw [mul_assoc, avogadro_scaled]

theorem langmuir_recovers (nm K : ℝ) (ps : List ℝ) (hnm : 0 < nm) (hK : 0 < K)
    (hs : ps.Pairwise (· < ·)) (hl : 2 ≤ ps.length) (hp : ∀ p ∈ ps, 0 < p) :
    let r := ols ps (ps.map fun p => langmuir_transform p (simple_lang p nm K))
    r = (1 / nm, 1 / (nm * K)) ∧
    lang_n_monolayer r.1 = nm ∧ lang_const r.2 (lang_n_monolayer r.1) = K := by
  intro r
  have hr : r = (1 / nm, 1 / (nm * K)) := ols_exact_of_sorted _ _ _ _
    (List.map_congr_left fun p hpm => langmuir_transform_linear nm K p hnm hK (hp p hpm)) hs hl
  obtain ⟨h1, h2, -⟩ := langmuir_parameters_recover nm K 0 hnm hK
  rw [hr]
  exact ⟨rfl, h1, (congrArg _ h1).trans h2⟩

/-! ### t-plot -/

/-- (generated argument order `molar_mass liquid_density slope|intercept`) -/
theorem tplot_recovers (s i M ρ : ℝ) (ts : List ℝ) (hs : ts.Pairwise (· < ·)) (hl : 2 ≤ ts.length) :
    let r := ols ts (ts.map fun t => s * t + i)
    r = (s, i) ∧ tplot_area M ρ r.1 = s * M / ρ ∧ tplot_adsorbed_volume M ρ r.2 = i * M / ρ / 1000 := by
  intro r
  have hr : r = (s, i) := ols_exact_of_sorted s i ts _ rfl hs hl
  rw [hr]
  exact ⟨rfl, rfl, rfl⟩

/-! ### alpha-s -/

lemma alphas_curve_ne {apt : ℝ} (hapt : apt ≠ 0) {u v : ℝ} (h : u ≠ v) : alphas_curve u apt ≠ alphas_curve v apt :=
  fun e => h ((div_left_inj' hapt).mp e)

/-- (generated argument order `alphas_area alpha_s_point reference_area slope`) -/
theorem alphas_recovers (s i apt Aref : ℝ) (ref : List ℝ) (hapt : 0 < apt)
    (hs : ref.Pairwise (· < ·)) (hl : 2 ≤ ref.length) :
    let curve := ref.map fun x => alphas_curve x apt
    let r := ols curve (curve.map fun a => s * a + i)
    r = (s, i) ∧ alphas_area apt Aref r.1 = Aref / apt * s := by
  intro curve r
  obtain ⟨u, hu, v, hv, huv⟩ := exists_two_of_pairwise (fun _ _ => ne_of_lt) ref hs hl
  have hr : r = (s, i) := ols_exact_of_two_distinct s i curve _ rfl (List.mem_map_of_mem hu)
    (List.mem_map_of_mem hv) (alphas_curve_ne hapt.ne' huv)
  rw [hr]
  exact ⟨rfl, rfl⟩

/-- alpha-s of an isotherm against itself -/
theorem alphas_self_returns_reference_area (apt Aref : ℝ) (ref : List ℝ) (hapt : 0 < apt)
    (hs : ref.Pairwise (· < ·)) (hl : 2 ≤ ref.length) :
    let curve := ref.map fun x => alphas_curve x apt
    let r := ols curve ref
    r = (apt, 0) ∧ alphas_area apt Aref r.1 = Aref := by
  intro curve r
  obtain ⟨u, hu, v, hv, huv⟩ := exists_two_of_pairwise (fun _ _ => ne_of_lt) ref hs hl
  have hr : r = (apt, 0) := by
    refine ols_exact_of_two_distinct apt 0 curve ref ?_ (List.mem_map_of_mem hu) (List.mem_map_of_mem hv)
      (alphas_curve_ne hapt.ne' huv)
    rw [List.map_map]
    exact (List.map_id'' (fun x => by rw [Function.comp, alphas_curve, add_zero, mul_div_cancel₀ x hapt.ne']) ref).symm
  rw [hr]
  exact ⟨rfl, div_mul_cancel₀ Aref hapt.ne'⟩

/-! ### Dubinin–Astakhov / Dubinin–Radushkevich -/

/-- the gas constant literal of the generated code (`scipy.constants.gas_constant`, 8.31446261815324) -/
noncomputable def Rgas : ℝ := 207861565453831 / 25000000000000

/-- the Dubinin–Astakhov governing equation (generator; loading in mmol/g from the micropore volume `V0` cm³/g) -/
noncomputable def nDA (V0 ρ M T E k p : ℝ) : ℝ :=
  V0 * ρ / M * Real.exp (-((Rgas * T * (-(Real.log p)) / (1000 * E)) ^ k))

lemma Rgas_pos : 0 < Rgas := by unfold Rgas; norm_num

/-- `RT / (1000 E)`, the scale of the adsorption potential in the DA exponent -/
lemma DA_scale_pos {T E : ℝ} (hT : 0 < T) (hE : 0 < E) : 0 < Rgas * T / (1000 * E) :=
  div_pos (mul_pos Rgas_pos hT) (mul_pos (by norm_num) hE)

/-- the volume conversion `n ↦ n M / ρ` undoes the `ρ / M` of the generating equation -/
lemma mul_div_mul_div_cancel {V ρ M x : ℝ} (hρ : ρ ≠ 0) (hM : M ≠ 0) : V * ρ / M * x * M / ρ = V * x := by
  field_simp

/-- Guards: `0 < p < 1` (so `-log p > 0`; the real power of a negative base is not the code's value), positive constants
(`0 < k` plays no part in this identity; it is a guard of the inversion `da_parameters_recover`). -/
theorem da_transform_linear (V0 ρ M T E k p : ℝ) (hp0 : 0 < p) (hp1 : p < 1) (hV : 0 < V0) (hρ : 0 < ρ)
    (hM : 0 < M) (hT : 0 < T) (hE : 0 < E) (_hk : 0 < k) :
    log_v_adj (nDA V0 ρ M T E k p) M ρ
      = Real.log V0 + (-((Rgas * T / (1000 * E)) ^ k)) * log_p_exp p k := by
  have hL : 0 ≤ -(Real.log p) := (neg_pos.2 (Real.log_neg hp0 hp1)).le
  have hA : 0 ≤ Rgas * T / (1000 * E) := (DA_scale_pos hT hE).le
  unfold log_v_adj nDA log_p_exp
  simp only [Real.rpow_eq_pow]
  rw [mul_div_mul_div_cancel hρ.ne' hM.ne', Real.log_mul hV.ne' (Real.exp_pos _).ne', Real.log_exp,
    mul_div_right_comm (Rgas * T), Real.mul_rpow hA hL]
  ring

/-- (generated argument order `da_potential iso_temp exp slope`) -/
theorem da_parameters_recover (V0 T E k : ℝ) (hV : 0 < V0) (hT : 0 < T) (hE : 0 < E) (hk : 0 < k) :
    da_microp_volume (Real.log V0) = V0 ∧
    da_potential T k (-((Rgas * T / (1000 * E)) ^ k)) = E := by
  have hA : 0 ≤ Rgas * T / (1000 * E) := (DA_scale_pos hT hE).le
  constructor
  · unfold da_microp_volume; exact Real.exp_log hV
  · unfold da_potential
    simp only [Real.rpow_eq_pow, neg_neg]
    rw [← Real.rpow_mul hA, mul_one_div_cancel hk.ne', Real.rpow_one]
    change Rgas * T / (Rgas * T / (1000 * E)) / 1000 = E
    rw [div_div_cancel₀ (mul_pos Rgas_pos hT).ne', mul_div_cancel_left₀ _ (by norm_num)]

theorem log_p_exp_strictAntiOn (k : ℝ) (hk : 0 < k) :
    StrictAntiOn (fun p => log_p_exp p k) (Set.Ioo 0 1) := by
  intro a ha b hb hab
  unfold log_p_exp
  simp only [Real.rpow_eq_pow]
  have h1 : Real.log a < Real.log b := Real.log_lt_log ha.1 hab
  have h2 : 0 ≤ -(Real.log b) := (neg_pos.2 (Real.log_neg hb.1 hb.2)).le
  exact Real.rpow_lt_rpow h2 (neg_lt_neg h1) hk

/-- for any two distinct pressures of `(0,1)` in the list: their abscissae `(-log p)^k` differ -/
theorem da_ols_eq (V0 ρ M T E k : ℝ) (ps : List ℝ) (hV : 0 < V0) (hρ : 0 < ρ)
    (hM : 0 < M) (hT : 0 < T) (hE : 0 < E) (hk : 0 < k) (hp : ∀ p ∈ ps, 0 < p ∧ p < 1)
    {u v : ℝ} (hu : u ∈ ps) (hv : v ∈ ps) (huv : u ≠ v) :
    let r := ols (ps.map fun p => log_p_exp p k) (ps.map fun p => log_v_adj (nDA V0 ρ M T E k p) M ρ)
    r = (-((Rgas * T / (1000 * E)) ^ k), Real.log V0) ∧
    da_microp_volume r.2 = V0 ∧ da_potential T k r.1 = E := by
  intro r
  have hr : r = (-((Rgas * T / (1000 * E)) ^ k), Real.log V0) :=
    ols_map_of_affine _ _ _ _ ps
      (fun p hpm =>
        (da_transform_linear V0 ρ M T E k p (hp p hpm).1 (hp p hpm).2 hV hρ hM hT hE hk).trans (add_comm _ _))
      hu hv (fun e => huv ((log_p_exp_strictAntiOn k hk).injOn (hp u hu) (hp v hv) e))
  rw [hr]
  exact ⟨rfl, da_parameters_recover V0 T E k hV hT hE hk⟩

/-- **B14.** over a strictly increasing pressure list (the abscissae `(-log p)^k` are then strictly decreasing) -/
theorem da_recovers (V0 ρ M T E k : ℝ) (ps : List ℝ) (hV : 0 < V0) (hρ : 0 < ρ)
    (hM : 0 < M) (hT : 0 < T) (hE : 0 < E) (hk : 0 < k)
    (hs : ps.Pairwise (· < ·)) (hl : 2 ≤ ps.length) (hp : ∀ p ∈ ps, 0 < p ∧ p < 1) :
    let r := ols (ps.map fun p => log_p_exp p k) (ps.map fun p => log_v_adj (nDA V0 ρ M T E k p) M ρ)
    r = (-((Rgas * T / (1000 * E)) ^ k), Real.log V0) ∧
    da_microp_volume r.2 = V0 ∧ da_potential T k r.1 = E := by
  obtain ⟨u, hu, v, hv, huv⟩ := exists_two_of_pairwise (fun _ _ => ne_of_lt) ps hs hl
  exact da_ols_eq V0 ρ M T E k ps hV hρ hM hT hE hk hp hu hv huv

/-- B14 for a strictly decreasing pressure list (desorption order). -/
theorem da_recovers_desc (V0 ρ M T E k : ℝ) (ps : List ℝ) (hV : 0 < V0) (hρ : 0 < ρ)
    (hM : 0 < M) (hT : 0 < T) (hE : 0 < E) (hk : 0 < k)
    (hs : ps.Pairwise (· > ·)) (hl : 2 ≤ ps.length) (hp : ∀ p ∈ ps, 0 < p ∧ p < 1) :
    let r := ols (ps.map fun p => log_p_exp p k) (ps.map fun p => log_v_adj (nDA V0 ρ M T E k p) M ρ)
    r = (-((Rgas * T / (1000 * E)) ^ k), Real.log V0) ∧
    da_microp_volume r.2 = V0 ∧ da_potential T k r.1 = E := by
  obtain ⟨u, hu, v, hv, huv⟩ := exists_two_of_pairwise (fun _ _ => ne_of_gt) ps hs hl
  exact da_ols_eq V0 ρ M T E k ps hV hρ hM hT hE hk hp hu hv huv

theorem da_abscissae_desc (k : ℝ) (hk : 0 < k) (ps : List ℝ) (hs : ps.Pairwise (· < ·))
    (hp : ∀ p ∈ ps, 0 < p ∧ p < 1) : (ps.map fun p => log_p_exp p k).Pairwise (· > ·) :=
  List.pairwise_map.mpr (hs.imp_of_mem fun ha hb hab => log_p_exp_strictAntiOn k hk (hp _ ha) (hp _ hb) hab)

/-- so the standard error that the exponent search minimises attains its global minimum 0 at the generating exponent -/
theorem da_true_exponent_has_zero_residual (V0 ρ M T E k : ℝ) (ps : List ℝ) (hV : 0 < V0) (hρ : 0 < ρ)
    (hM : 0 < M) (hT : 0 < T) (hE : 0 < E) (hk : 0 < k)
    (hs : ps.Pairwise (· < ·)) (hl : 2 ≤ ps.length) (hp : ∀ p ∈ ps, 0 < p ∧ p < 1) :
    let r := ols (ps.map fun p => log_p_exp p k) (ps.map fun p => log_v_adj (nDA V0 ρ M T E k p) M ρ)
    ∀ p ∈ ps, r.2 + r.1 * log_p_exp p k = log_v_adj (nDA V0 ρ M T E k p) M ρ := by
  intro r p hpm
  have hr := (da_recovers V0 ρ M T E k ps hV hρ hM hT hE hk hs hl hp).1
  change r = _ at hr
  rw [hr, da_transform_linear V0 ρ M T E k p (hp p hpm).1 (hp p hpm).2 hV hρ hM hT hE hk]

end Recovery

/-! ## C. window selection -/
section Search
variable {α : Type} [LinearOrder α]

lemma searchsorted_cons (x : α) (xs : List α) (v : α) :
    searchsorted (x :: xs) v = if x < v then searchsorted xs v + 1 else 0 := rfl

lemma searchsorted_le_length (ps : List α) (v : α) : searchsorted ps v ≤ ps.length := by
  induction ps with
  | nil => simp [searchsorted]
  | cons x xs ih =>
    rw [searchsorted_cons]; split_ifs <;> simp; exact ih

lemma lt_searchsorted_iff (ps : List α) (hs : ps.Pairwise (· ≤ ·)) (v : α) (i : ℕ) (h : i < ps.length) :
    i < searchsorted ps v ↔ ps[i] < v := by
  induction ps generalizing i with
  | nil => simp at h
  | cons x xs ih =>
    rw [List.pairwise_cons] at hs
    rw [searchsorted_cons]
    cases i with
    | zero => by_cases hx : x < v <;> simp [hx]
    | succ j =>
      have hj : j < xs.length := Nat.lt_of_succ_lt_succ h
      split_ifs with hx
      · simpa using ih hs.2 j hj
      -- `x` is not below `v`, and everything after `x` is at least `x`
      · simpa using (not_lt.mp hx).trans (hs.1 _ (List.getElem_mem hj))

lemma filter_eq_drop_take {β : Type} (P : β → Bool) (l : List β) (a b : ℕ)
    (h : ∀ i (hi : i < l.length), P l[i] = true ↔ (a ≤ i ∧ i < b)) :
    l.filter P = (l.take b).drop a := by
  induction l generalizing a b with
  | nil => simp
  | cons x xs ih =>
    have h0 : P x = true ↔ a = 0 ∧ 0 < b := by simpa using h 0 (Nat.succ_pos _)
    have iht := ih (a - 1) (b - 1) fun j hj => (h (j + 1) (Nat.succ_lt_succ hj)).trans (by omega)
    by_cases hx : P x = true
    · obtain ⟨rfl, hb⟩ := h0.mp hx
      obtain ⟨b, rfl⟩ := Nat.exists_eq_succ_of_ne_zero hb.ne'
      rw [List.filter_cons_of_pos hx, iht]
      rfl
    · rw [List.filter_cons_of_neg hx, iht]
      rcases b with _ | b
      · simp
      · rcases a with _ | a
        · exact absurd (h0.mpr ⟨rfl, Nat.succ_pos _⟩) hx
        · rfl

lemma searchsorted_eq_length_filter (ps : List α) (hs : ps.Pairwise (· ≤ ·)) (v : α) :
    searchsorted ps v = (ps.filter (fun p => decide (p < v))).length := by
  rw [filter_eq_drop_take _ ps 0 (searchsorted ps v) fun i hi => by simp [lt_searchsorted_iff ps hs v i hi],
    List.drop_zero, List.length_take, min_eq_left (searchsorted_le_length ps v)]

/-- `numpy.searchsorted(ps, v)` (side = left) on a sorted (non-decreasing) list -/
theorem searchsorted_spec (ps : List α) (hs : ps.Pairwise (· ≤ ·)) (v : α) :
    searchsorted ps v = (ps.filter (fun p => decide (p < v))).length ∧
    searchsorted ps v ≤ ps.length ∧
    (∀ i (h : i < ps.length), i < searchsorted ps v → ps[i] < v) ∧
    (∀ i (h : i < ps.length), searchsorted ps v ≤ i → v ≤ ps[i]) := by
  refine ⟨searchsorted_eq_length_filter ps hs v, searchsorted_le_length ps v, ?_, ?_⟩
  · intro i h hi; exact (lt_searchsorted_iff ps hs v i h).1 hi
  · intro i h hi
    by_contra hc
    exact absurd ((lt_searchsorted_iff ps hs v i h).2 (not_le.mp hc)) (not_lt.mpr hi)

end Search

section Window
variable {α : Type} [Field α] [LinearOrder α]

/-! `decide3` read in both directions: everything about accepted and refused windows is arithmetic on these. -/

omit [Field α] [LinearOrder α] in
lemma decide3_eq_none_iff {w : ℕ × ℤ} : decide3 w = none ↔ w.2 - w.1 < 2 := by
  unfold decide3
  split_ifs with h <;> simp [h]

omit [Field α] [LinearOrder α] in
lemma decide3_eq_some_iff {w : ℕ × ℤ} {a b : ℕ} : decide3 w = some (a, b) ↔ w.1 = a ∧ w.2 = b ∧ a + 2 ≤ b := by
  unfold decide3
  split_ifs with h
  · simp only [false_iff]; omega
  · simp only [Option.some.injEq, Prod.mk.injEq]; omega

lemma given_none : given (none : Option α) = none := rfl
lemma given_some_zero : given (some (0 : α)) = none := by simp [given]
lemma given_some_ne {v : α} (h : v ≠ 0) : given (some v) = some v := by simp [given, h]

/-- `None` and `0` both mean "not given" -/
lemma given_eq_none {l : Option α} (h : l = none ∨ l = some 0) : given l = none := by
  rcases h with rfl | rfl
  exacts [rfl, given_some_zero]

lemma limitWindow_fst_of_not_given (ps : List α) {lo : Option α} (hi : Option α) (h : given lo = none) :
    (limitWindow ps lo hi).1 = 0 := by
  simp only [limitWindow, h]

lemma limitWindow_snd_of_not_given (ps : List α) (lo : Option α) {hi : Option α} (h : given hi = none) :
    (limitWindow ps lo hi).2 = (ps.length : ℤ) - 1 := by
  simp only [limitWindow, h]

lemma limitWindow_fst_of_given (ps : List α) {lo : Option α} (hi : Option α) {v : α} (h : given lo = some v) :
    (limitWindow ps lo hi).1 = searchsorted ps v := by
  simp only [limitWindow, h]

lemma limitWindow_snd_of_given (ps : List α) (lo : Option α) {hi : Option α} {v : α} (h : given hi = some v) :
    (limitWindow ps lo hi).2 = (searchsorted ps v : ℤ) - 1 := by
  simp only [limitWindow, h]

/-- "inside the user's limits" with the Python truthiness of the limits (`None` and `0` = not given):
`lo ≤ p` if the lower limit is given, `p < hi` if the upper limit is given. -/
def inLimits (lo hi : Option α) (p : α) : Bool :=
  (match given lo with | some v => decide (v ≤ p) | none => true) &&
  (match given hi with | some v => decide (p < v) | none => true)

lemma inLimits_both {lo hi : α} (hlo : lo ≠ 0) (hhi : hi ≠ 0) :
    inLimits (some lo) (some hi) = fun p => decide (lo ≤ p ∧ p < hi) := by
  funext p
  simp [inLimits, given_some_ne hlo, given_some_ne hhi]

lemma limitWindow_snd_ge (ps : List α) (lo hi : Option α) : -1 ≤ (limitWindow ps lo hi).2 := by
  cases h : given hi with
  | none => rw [limitWindow_snd_of_not_given ps lo h]; omega
  | some v => rw [limitWindow_snd_of_given ps lo h]; omega

lemma limitWindow_snd_lt (ps : List α) (lo hi : Option α) : (limitWindow ps lo hi).2 < ps.length := by
  cases h : given hi with
  | none => rw [limitWindow_snd_of_not_given ps lo h]; omega
  | some v => have := searchsorted_le_length ps v; rw [limitWindow_snd_of_given ps lo h]; omega

/-- every combination of given / `None` / `0` limits -/
theorem limitWindow_spec_general (ps : List α) (hs : ps.Pairwise (· ≤ ·)) (lo hi : Option α)
    (i : ℕ) (h : i < ps.length) :
    ((limitWindow ps lo hi).1 ≤ i ∧ (i : ℤ) ≤ (limitWindow ps lo hi).2) ↔ inLimits lo hi ps[i] = true := by
  unfold limitWindow inLimits
  have key : ∀ v, i < searchsorted ps v ↔ ps[i] < v := fun v => lt_searchsorted_iff ps hs v i h
  cases hglo : given lo with
  | none =>
    cases hghi : given hi with
    | none =>
      simp only [zero_le, Order.le_sub_one_iff, Nat.cast_lt, true_and, Bool.and_self, iff_true]
      exact h
    | some vh =>
      simp only [zero_le, Order.le_sub_one_iff, Nat.cast_lt, true_and, Bool.true_and, decide_eq_true_eq]
      rw [← key vh]
  | some vl =>
    have kl : searchsorted ps vl ≤ i ↔ vl ≤ ps[i] := by
      rw [← not_lt, key vl, not_lt]
    cases hghi : given hi with
    | none =>
      simp only [Order.le_sub_one_iff, Nat.cast_lt, Bool.and_true, decide_eq_true_eq]
      rw [kl]; exact and_iff_left h
    | some vh =>
      simp only [Order.le_sub_one_iff, Nat.cast_lt, Bool.and_eq_true, decide_eq_true_eq]
      rw [kl, ← key vh]

/-- a half-open pressure interval: a point equal to the upper limit is excluded -/
theorem limitWindow_spec (ps : List α) (hs : ps.Pairwise (· ≤ ·)) (lo hi : α) (hlo : lo ≠ 0) (hhi : hi ≠ 0)
    (i : ℕ) (h : i < ps.length) :
    ((limitWindow ps (some lo) (some hi)).1 ≤ i ∧ (i : ℤ) ≤ (limitWindow ps (some lo) (some hi)).2)
      ↔ (lo ≤ ps[i] ∧ ps[i] < hi) := by
  rw [limitWindow_spec_general ps hs _ _ i h, inLimits_both hlo hhi]; simp

theorem limitWindow_spec_hi_only (ps : List α) (hs : ps.Pairwise (· ≤ ·)) (lo : Option α) (hi : α)
    (hlo : lo = none ∨ lo = some 0) (hhi : hi ≠ 0) (i : ℕ) (h : i < ps.length) :
    ((limitWindow ps lo (some hi)).1 ≤ i ∧ (i : ℤ) ≤ (limitWindow ps lo (some hi)).2) ↔ ps[i] < hi := by
  rw [limitWindow_spec_general ps hs _ _ i h]; simp [inLimits, given_eq_none hlo, given_some_ne hhi]

theorem limitWindow_spec_lo_only (ps : List α) (hs : ps.Pairwise (· ≤ ·)) (lo : α) (hi : Option α)
    (hlo : lo ≠ 0) (hhi : hi = none ∨ hi = some 0) (i : ℕ) (h : i < ps.length) :
    ((limitWindow ps (some lo) hi).1 ≤ i ∧ (i : ℤ) ≤ (limitWindow ps (some lo) hi).2) ↔ lo ≤ ps[i] := by
  rw [limitWindow_spec_general ps hs _ _ i h]; simp [inLimits, given_eq_none hhi, given_some_ne hlo]

theorem limitWindow_none (ps : List α) (lo hi : Option α)
    (hlo : lo = none ∨ lo = some 0) (hhi : hi = none ∨ hi = some 0) :
    limitWindow ps lo hi = (0, (ps.length : ℤ) - 1) :=
  Prod.ext (limitWindow_fst_of_not_given ps hi (given_eq_none hlo))
    (limitWindow_snd_of_not_given ps lo (given_eq_none hhi))

theorem filter_inLimits_eq (ps : List α) (hs : ps.Pairwise (· ≤ ·)) (lo hi : Option α) :
    ps.filter (inLimits lo hi)
      = (ps.take ((limitWindow ps lo hi).2 + 1).toNat).drop (limitWindow ps lo hi).1 := by
  apply filter_eq_drop_take
  intro i h
  rw [← limitWindow_spec_general ps hs lo hi i h]
  have := limitWindow_snd_ge ps lo hi
  omega

theorem countP_inLimits_eq (ps : List α) (hs : ps.Pairwise (· ≤ ·)) (lo hi : Option α) :
    (ps.countP (inLimits lo hi) : ℤ)
      = max 0 ((limitWindow ps lo hi).2 + 1 - (limitWindow ps lo hi).1) := by
  rw [List.countP_eq_length_filter, filter_inLimits_eq ps hs lo hi]
  have h1 := limitWindow_snd_ge ps lo hi
  have h2 := limitWindow_snd_lt ps lo hi
  simp only [List.length_drop, List.length_take]
  omega

/-- the refusal is pyGAPS's `CalculationError` -/
theorem window_refused_iff_general (ps : List α) (hs : ps.Pairwise (· ≤ ·)) (lo hi : Option α) :
    decide3 (limitWindow ps lo hi) = none ↔ ps.countP (inLimits lo hi) < 3 := by
  have hc := countP_inLimits_eq ps hs lo hi
  rw [decide3_eq_none_iff]
  omega

theorem window_refused_iff (ps : List α) (hs : ps.Pairwise (· ≤ ·)) (lo hi : α) (hlo : lo ≠ 0) (hhi : hi ≠ 0) :
    decide3 (limitWindow ps (some lo) (some hi)) = none
      ↔ ps.countP (fun p => decide (lo ≤ p ∧ p < hi)) < 3 := by
  rw [window_refused_iff_general ps hs, inLimits_both hlo hhi]

theorem decide3_some (w : ℕ × ℤ) (a b : ℕ) (h : decide3 w = some (a, b)) :
    a = w.1 ∧ (b : ℤ) = w.2 ∧ 3 ≤ b + 1 - a := by
  have := decide3_eq_some_iff.mp h
  omega

omit [LinearOrder α] [Field α] in
lemma slice_length (xs : List α) (a b : ℕ) : (slice xs (a, b)).length = min (b + 1) xs.length - a := by
  simp [slice]

omit [LinearOrder α] [Field α] in
theorem slice_length_ge_three (ps : List α) (w : ℕ × ℤ) (a b : ℕ) (h : decide3 w = some (a, b))
    (hb : b < ps.length) : 3 ≤ (slice ps (a, b)).length := by
  have := decide3_eq_some_iff.mp h
  rw [slice_length]; omega

theorem decide3_limitWindow_lt (ps : List α) (lo hi : Option α) (a b : ℕ)
    (h : decide3 (limitWindow ps lo hi) = some (a, b)) : b < ps.length := by
  have h1 := decide3_eq_some_iff.mp h
  have h2 := limitWindow_snd_lt ps lo hi
  omega

theorem slice_eq_filter_general (ps : List α) (hs : ps.Pairwise (· ≤ ·)) (lo hi : Option α) (w : ℕ × ℕ)
    (h : decide3 (limitWindow ps lo hi) = some w) : slice ps w = ps.filter (inLimits lo hi) := by
  obtain ⟨a, b⟩ := w
  obtain ⟨h1, h2, -⟩ := decide3_eq_some_iff.mp h
  rw [filter_inLimits_eq ps hs lo hi, h1, h2]
  rfl

theorem slice_eq_filter (ps : List α) (hs : ps.Pairwise (· ≤ ·)) (lo hi : α) (hlo : lo ≠ 0) (hhi : hi ≠ 0)
    (w : ℕ × ℕ) (h : decide3 (limitWindow ps (some lo) (some hi)) = some w) :
    slice ps w = ps.filter (fun p => decide (lo ≤ p ∧ p < hi)) := by
  rw [slice_eq_filter_general ps hs _ _ w h, inLimits_both hlo hhi]

/-! ### the per-method windows -/

theorem betWindow_limits (ps roq : List α) (tenth : α) (lo hi : Option α) :
    betWindow ps roq tenth (some (lo, hi)) = decide3 (limitWindow ps lo hi) := rfl

theorem langWindow_limits (ps : List α) (c05 c90 : α) (lo hi : Option α) :
    langWindow ps c05 c90 (some (lo, hi)) = decide3 (limitWindow ps lo hi) := rfl

theorem daWindow_limits (ps : List α) (lo hi : Option α) :
    daWindow ps (some (lo, hi)) = decide3 (limitWindow ps lo hi) := rfl

theorem langWindow_default (ps : List α) (c05 c90 : α) :
    langWindow ps c05 c90 none
      = decide3 (limitWindow ps (some (ps.getD (ps.length - 1) 0 * c05)) (some (ps.getD (ps.length - 1) 0 * c90))) := rfl

theorem daWindow_default (ps : List α) : daWindow ps none = decide3 (0, (ps.length : ℤ) - 1) := rfl

theorem daWindow_default_accepts_iff (ps : List α) :
    daWindow ps none = some (0, ps.length - 1) ↔ 3 ≤ ps.length := by
  rw [daWindow_default, decide3_eq_some_iff]
  simp only [true_and]
  omega

theorem daWindow_default_refused_iff (ps : List α) : daWindow ps none = none ↔ ps.length < 3 := by
  rw [daWindow_default, decide3_eq_none_iff]
  simp only
  omega

end Window

/-! ### the Rouquerol maximum -/
section Rouquerol
variable {α : Type} [LinearOrder α]

/-- the scan stops at the first decrease: `m = i + j + 1` for the first `j` with `l[j] > l[j+1]` -/
lemma rouquerolMaxAux_some {l : List α} {i m : ℕ} (h : rouquerolMaxAux l i = some m) :
    ∃ (j : ℕ) (hj : j + 1 < l.length), m = i + j + 1 ∧ l[j + 1] < l[j]'(Nat.lt_of_succ_lt hj) ∧
      ∀ j' (hj' : j' < j), l[j']'(hj'.trans (Nat.lt_of_succ_lt hj)) ≤ l[j' + 1]'((Nat.succ_lt_succ hj').trans hj) := by
  fun_induction rouquerolMaxAux l i with
  | case1 a b rest i hab =>
    exact ⟨0, Nat.succ_lt_succ (Nat.succ_pos _), (Option.some.inj h).symm, hab,
      fun _ hj' => absurd hj' (Nat.not_lt_zero _)⟩
  | case2 a b rest i hab ih =>
    obtain ⟨j, hj, hm, hdec, hbefore⟩ := ih h
    refine ⟨j + 1, Nat.succ_lt_succ hj, by omega, hdec, fun j' hj' => ?_⟩
    cases j' with
    | zero => exact not_lt.mp hab
    | succ k => exact hbefore k (Nat.lt_of_succ_lt_succ hj')
  | case3 l i hl => cases h

lemma rouquerolMaxAux_none {l : List α} {i : ℕ} (h : rouquerolMaxAux l i = none) : l.IsChain (· ≤ ·) := by
  fun_induction rouquerolMaxAux l i with
  | case1 a b rest i hab => cases h
  | case2 a b rest i hab ih => exact .cons_cons (not_lt.mp hab) (ih h)
  | case3 l i hl =>
    match l, hl with
    | [], _ => exact .nil
    | [a], _ => exact .singleton a
    | a :: b :: r, hl => exact absurd rfl (hl a b r)

/-- The `for index, value in enumerate(roq[:-1])` loop of `area_BET_raw`: `m` is one past the FIRST decrease of the transform, or the
last index when there is none (the list is then sorted). -/
theorem rouquerolMax_spec (roq : List α) (hne : roq ≠ []) :
    rouquerolMax roq < roq.length ∧
    (∀ j (hj : j + 1 < roq.length), j + 1 < rouquerolMax roq → roq[j]'(Nat.lt_of_succ_lt hj) ≤ roq[j + 1]) ∧
    ((∃ (j : ℕ) (hj : j + 1 < roq.length), rouquerolMax roq = j + 1 ∧ roq[j + 1] < roq[j]'(Nat.lt_of_succ_lt hj)) ∨
     (rouquerolMax roq = roq.length - 1 ∧
        (∀ j (hj : j + 1 < roq.length), roq[j]'(Nat.lt_of_succ_lt hj) ≤ roq[j + 1]) ∧ roq.Pairwise (· ≤ ·))) := by
  unfold rouquerolMax
  cases haux : rouquerolMaxAux roq 0 with
  | none =>
    have hc := rouquerolMaxAux_none haux
    exact ⟨Nat.sub_lt (List.length_pos_iff.mpr hne) one_pos, fun j hj _ => hc.getElem j hj,
      Or.inr ⟨rfl, hc.getElem, hc.pairwise⟩⟩
  | some m =>
    obtain ⟨j, hj, rfl, hdec, hbefore⟩ := rouquerolMaxAux_some haux
    rw [Option.getD_some, Nat.zero_add]
    exact ⟨hj, fun j' hj' hlt => hbefore j' (Nat.lt_of_succ_lt_succ hlt), Or.inl ⟨j, hj, rfl, hdec⟩⟩

/-- the same with the two indices of the decrease themselves -/
theorem rouquerolMax_decrease_form (roq : List α) (hne : roq ≠ []) :
    (∃ (_ : 1 ≤ rouquerolMax roq) (_ : rouquerolMax roq < roq.length),
        roq[rouquerolMax roq] < roq[rouquerolMax roq - 1]) ∨
    (rouquerolMax roq = roq.length - 1 ∧ roq.Pairwise (· ≤ ·)) := by
  obtain ⟨_, _, ⟨j, hj, hm, hdec⟩ | h⟩ := rouquerolMax_spec roq hne
  · have key : ∀ m, m = j + 1 → ∃ (_ : 1 ≤ m) (h : m < roq.length),
        roq[m] < roq[m - 1]'(Nat.lt_of_le_of_lt (Nat.sub_le m 1) h) := by
      rintro m rfl
      exact ⟨Nat.succ_pos j, hj, hdec⟩
    exact Or.inl (key _ hm)
  · exact Or.inr ⟨h.1, h.2.2⟩

theorem rouquerolMax_lt (roq : List α) (hne : roq ≠ []) : rouquerolMax roq < roq.length :=
  (rouquerolMax_spec roq hne).1

theorem rouquerolMax_of_sorted (roq : List α) (hs : roq.Pairwise (· ≤ ·)) :
    rouquerolMax roq = roq.length - 1 := by
  by_cases hne : roq = []
  · subst hne; rfl
  obtain ⟨_, _, h | h⟩ := rouquerolMax_spec roq hne
  · obtain ⟨j, hj, _, hdec⟩ := h
    rw [List.pairwise_iff_getElem] at hs
    exact absurd (hs j (j + 1) (by omega) hj (by omega)) (not_le.mpr hdec)
  · exact h.1

end Rouquerol

/-! ### the automatic BET window -/
section AutoWindow
variable {α : Type} [Field α] [LinearOrder α]

theorem betWindow_auto (ps roq : List α) (tenth : α) :
    betWindow ps roq tenth none
      = decide3 (searchsorted ps (ps.getD (rouquerolMax roq) 0 * tenth), (rouquerolMax roq : ℤ)) := rfl

omit [Field α] in
theorem autoWindow_index_iff (ps : List α) (hs : ps.Pairwise (· ≤ ·)) (v : α) (m i : ℕ) (h : i < ps.length) :
    (searchsorted ps v ≤ i ∧ i ≤ m) ↔ (v ≤ ps[i] ∧ i ≤ m) := by
  rw [← not_lt, lt_searchsorted_iff ps hs v i h, not_lt]

omit [Field α] in
theorem autoWindow_filter (ps : List α) (hs : ps.Pairwise (· ≤ ·)) (v : α) (m : ℕ) :
    (ps.take (m + 1)).filter (fun p => decide (v ≤ p)) = (ps.take (m + 1)).drop (searchsorted ps v) := by
  have := filter_eq_drop_take (fun p => decide (v ≤ p)) (ps.take (m + 1)) (searchsorted ps v) (m + 1) ?_
  · rw [this, List.take_take, min_self]
  · intro i hi
    have hi' : i < ps.length := by
      rw [List.length_take] at hi; omega
    have hi'' : i < m + 1 := by
      rw [List.length_take] at hi; omega
    rw [List.getElem_take, decide_eq_true_eq, ← not_lt, ← lt_searchsorted_iff ps hs v i hi', not_lt]
    exact (and_iff_left hi'').symm

omit [Field α] in
theorem autoWindow_refused_iff (ps : List α) (hs : ps.Pairwise (· ≤ ·)) (v : α) (m : ℕ) (hm : m < ps.length) :
    decide3 (searchsorted ps v, (m : ℤ)) = none
      ↔ (ps.take (m + 1)).countP (fun p => decide (v ≤ p)) < 3 := by
  rw [List.countP_eq_length_filter, autoWindow_filter ps hs v m, List.length_drop, List.length_take,
    decide3_eq_none_iff]
  simp only
  omega

/-- `area_BET_raw` with `p_limits = None`: `roq` is the Rouquerol transform of the same (non-empty) table, `m` its maximum, the lower
limit `0.1·ps[m]`. -/
theorem betWindow_auto_spec (ps roq : List α) (tenth : α) (hs : ps.Pairwise (· ≤ ·))
    (hlen : roq.length = ps.length) (hne : ps ≠ []) :
    ∃ hm : rouquerolMax roq < ps.length,
      betWindow ps roq tenth none
        = decide3 (searchsorted ps (ps[rouquerolMax roq] * tenth), (rouquerolMax roq : ℤ)) ∧
      (∀ i (h : i < ps.length),
        (searchsorted ps (ps[rouquerolMax roq] * tenth) ≤ i ∧ i ≤ rouquerolMax roq)
          ↔ (ps[rouquerolMax roq] * tenth ≤ ps[i] ∧ i ≤ rouquerolMax roq)) ∧
      (betWindow ps roq tenth none = none
        ↔ (ps.take (rouquerolMax roq + 1)).countP (fun p => decide (ps[rouquerolMax roq] * tenth ≤ p)) < 3) ∧
      (∀ w, betWindow ps roq tenth none = some w →
        slice ps w = (ps.take (rouquerolMax roq + 1)).filter (fun p => decide (ps[rouquerolMax roq] * tenth ≤ p))) := by
  have hroq : roq ≠ [] := by
    intro h; rw [h] at hlen; exact hne (List.length_eq_zero_iff.mp hlen.symm)
  have hm : rouquerolMax roq < ps.length := hlen ▸ rouquerolMax_lt roq hroq
  have hget : ps.getD (rouquerolMax roq) 0 = ps[rouquerolMax roq] := List.getD_eq_getElem _ _ hm
  have hbw : betWindow ps roq tenth none
        = decide3 (searchsorted ps (ps[rouquerolMax roq] * tenth), (rouquerolMax roq : ℤ)) := by
    rw [betWindow_auto, hget]
  refine ⟨hm, hbw, fun i h => autoWindow_index_iff ps hs _ _ i h, ?_, ?_⟩
  · rw [hbw]; exact autoWindow_refused_iff ps hs _ _ hm
  · intro w hw
    obtain ⟨a, b⟩ := w
    obtain ⟨rfl, h2, -⟩ := decide3_eq_some_iff.mp (hbw.symm.trans hw)
    obtain rfl : b = rouquerolMax roq := by simp only at h2; omega
    rw [autoWindow_filter ps hs]
    rfl

end AutoWindow

/-! ### the open section of the t-plot / alpha-s methods -/
section OpenSection
variable {α : Type} [Field α] [LinearOrder α]

theorem mem_openSection (curve : List α) (lo hi : α) (i : ℕ) :
    i ∈ openSection curve lo hi ↔ ∃ h : i < curve.length, lo < curve[i] ∧ curve[i] < hi := by
  unfold openSection
  rw [List.mem_filter, List.mem_range]
  constructor
  · rintro ⟨h, hp⟩
    rw [List.getD_eq_getElem _ _ h] at hp
    exact ⟨h, by simpa using hp⟩
  · rintro ⟨h, hp⟩
    refine ⟨h, ?_⟩
    rw [List.getD_eq_getElem _ _ h]
    simpa using hp

theorem openSection_sorted (curve : List α) (lo hi : α) : (openSection curve lo hi).Pairwise (· < ·) := by
  unfold openSection
  exact List.Pairwise.filter _ List.pairwise_lt_range

theorem openSection_spec (curve : List α) (lo hi : α) :
    (∀ i, i ∈ openSection curve lo hi ↔ ∃ h : i < curve.length, lo < curve[i] ∧ curve[i] < hi) ∧
    (openSection curve lo hi).Pairwise (· < ·) :=
  ⟨mem_openSection curve lo hi, openSection_sorted curve lo hi⟩

theorem pick_openSection (curve : List α) (lo hi : α) :
    pick curve (openSection curve lo hi) = curve.filter (fun t => decide (lo < t ∧ t < hi)) := by
  have hmap : (List.range curve.length).map (fun i => curve.getD i 0) = curve := by
    apply List.ext_getElem
    · simp
    · intro i h1 h2
      simp only [List.getElem_map, List.getElem_range]
      exact List.getD_eq_getElem _ _ h2
  unfold pick openSection
  conv_rhs => rw [← hmap, List.filter_map]
  rfl

end OpenSection

/-! ### the per-method defaults -/
section Defaults
variable {α : Type} [Field α] [LinearOrder α]

theorem betWindow_limits_refused_iff (ps roq : List α) (tenth : α) (hs : ps.Pairwise (· ≤ ·)) (lo hi : Option α) :
    betWindow ps roq tenth (some (lo, hi)) = none ↔ ps.countP (inLimits lo hi) < 3 :=
  window_refused_iff_general ps hs lo hi

theorem langWindow_limits_refused_iff (ps : List α) (c05 c90 : α) (hs : ps.Pairwise (· ≤ ·)) (lo hi : Option α) :
    langWindow ps c05 c90 (some (lo, hi)) = none ↔ ps.countP (inLimits lo hi) < 3 :=
  window_refused_iff_general ps hs lo hi

theorem daWindow_limits_refused_iff (ps : List α) (hs : ps.Pairwise (· ≤ ·)) (lo hi : Option α) :
    daWindow ps (some (lo, hi)) = none ↔ ps.countP (inLimits lo hi) < 3 :=
  window_refused_iff_general ps hs lo hi

/-- The two hypotheses say that the last pressure makes both default limits non-zero (e.g. `p_last > 0`, `c05, c90 ≠ 0`). -/
theorem langWindow_default_spec (ps : List α) (c05 c90 : α) (hs : ps.Pairwise (· ≤ ·))
    (hlo : ps.getD (ps.length - 1) 0 * c05 ≠ 0) (hhi : ps.getD (ps.length - 1) 0 * c90 ≠ 0) :
    (langWindow ps c05 c90 none = none ↔
      ps.countP (fun p => decide (ps.getD (ps.length - 1) 0 * c05 ≤ p ∧ p < ps.getD (ps.length - 1) 0 * c90)) < 3) ∧
    (∀ w, langWindow ps c05 c90 none = some w →
      slice ps w
        = ps.filter (fun p => decide (ps.getD (ps.length - 1) 0 * c05 ≤ p ∧ p < ps.getD (ps.length - 1) 0 * c90))) := by
  rw [langWindow_default]
  exact ⟨window_refused_iff ps hs _ _ hlo hhi, fun w hw => slice_eq_filter ps hs _ _ hlo hhi w hw⟩

theorem daWindow_default_slice (ps : List α) (w : ℕ × ℕ) (h : daWindow ps none = some w) : slice ps w = ps := by
  obtain ⟨a, b⟩ := w
  obtain ⟨ha, hb, -⟩ := decide3_eq_some_iff.mp ((daWindow_default ps).symm.trans h)
  have hb' : b + 1 = ps.length := by simp only at hb; omega
  rw [slice, ← ha, hb', List.take_length, List.drop_zero]

end Defaults

/-! ### a table of fewer than three points is refused by every fit, whatever the limits (also none at all) -/
section ShortTables
variable {α : Type} [Field α] [LinearOrder α]

omit [Field α] [LinearOrder α] in
lemma decide3_none_of_le_one (w : ℕ × ℤ) (h : w.2 ≤ 1) : decide3 w = none :=
  decide3_eq_none_iff.mpr (by omega)

omit [Field α] in
lemma rouquerolMax_le (roq : List α) : rouquerolMax roq ≤ roq.length - 1 := by
  rcases eq_or_ne roq [] with h | h
  · subst h; simp [rouquerolMax, rouquerolMaxAux]
  · have := rouquerolMax_lt roq h; omega

theorem limitWindow_refused_of_short (ps : List α) (lo hi : Option α) (h : ps.length < 3) :
    decide3 (limitWindow ps lo hi) = none := by
  apply decide3_none_of_le_one
  have := limitWindow_snd_lt ps lo hi
  omega

theorem betWindow_refused_of_short (ps roq : List α) (tenth : α) (limits : Option (Option α × Option α))
    (h : ps.length < 3) (hlen : roq.length = ps.length) : betWindow ps roq tenth limits = none := by
  cases limits with
  | none =>
    rw [betWindow_auto]
    apply decide3_none_of_le_one
    have := rouquerolMax_le roq
    simp only
    omega
  | some l => exact limitWindow_refused_of_short ps l.1 l.2 h

theorem langWindow_refused_of_short (ps : List α) (c05 c90 : α) (limits : Option (Option α × Option α))
    (h : ps.length < 3) : langWindow ps c05 c90 limits = none := by
  cases limits with
  | none => rw [langWindow_default]; exact limitWindow_refused_of_short ps _ _ h
  | some l => exact limitWindow_refused_of_short ps l.1 l.2 h

theorem daWindow_refused_of_short (ps : List α) (limits : Option (Option α × Option α))
    (h : ps.length < 3) : daWindow ps limits = none := by
  cases limits with
  | none => exact limitWindow_refused_of_short ps none none h
  | some l => exact limitWindow_refused_of_short ps l.1 l.2 h

/-- "A BET, Langmuir or Dubinin fit on fewer than three points is refused" for a table that has fewer than three
points in total: for EVERY value of `p_limits` — `None`, `(None, None)`, one-sided, `0`, all-including. -/
theorem short_table_refused (ps roq : List α) (tenth c05 c90 : α) (limits : Option (Option α × Option α))
    (h : ps.length < 3) (hlen : roq.length = ps.length) :
    betWindow ps roq tenth limits = none ∧ langWindow ps c05 c90 limits = none ∧ daWindow ps limits = none :=
  ⟨betWindow_refused_of_short ps roq tenth limits h hlen, langWindow_refused_of_short ps c05 c90 limits h,
    daWindow_refused_of_short ps limits h⟩

/-- hypotheses of `short_table_refused` on a two-point table, and the three evaluations without limits -/
example : ([1/10, 2/10] : List ℚ).length < 3 ∧ ([9/100, 16/100] : List ℚ).length = ([1/10, 2/10] : List ℚ).length := by
  decide
example : betWindow (α := ℚ) [1/10, 2/10] [9/100, 16/100] (1/10) none = none := by decide +kernel
example : langWindow (α := ℚ) [1/10, 2/10] (1/20) (9/10) none = none := by decide +kernel
example : daWindow (α := ℚ) [1/10] (some (none, some (1/2))) = none := by decide +kernel

end ShortTables

/-! ## D. non-vacuity: the hypothesis bundles are satisfiable, and concrete evaluations of the model -/
section Examples

private lemma tenths_sorted : ([1/10, 2/10, 3/10] : List ℝ).Pairwise (· < ·) := by
  simp only [List.pairwise_cons, List.mem_cons, List.not_mem_nil, or_false, forall_eq_or_imp, forall_eq,
    IsEmpty.forall_iff, implies_true, List.Pairwise.nil, and_true]
  norm_num

private lemma tenths_in_unit : ∀ p ∈ ([1/10, 2/10, 3/10] : List ℝ), 0 < p ∧ p < 1 := by
  simp only [List.mem_cons, List.not_mem_nil, or_false, forall_eq_or_imp, forall_eq]
  norm_num

/-- the hypothesis bundle of `bet_recovers` / `da_recovers` / `langmuir_recovers` is satisfiable -/
example : ([1/10, 2/10, 3/10] : List ℝ).Pairwise (· < ·) ∧ 2 ≤ ([1/10, 2/10, 3/10] : List ℝ).length ∧
    ∀ p ∈ ([1/10, 2/10, 3/10] : List ℝ), 0 < p ∧ p < 1 :=
  ⟨tenths_sorted, by decide, tenths_in_unit⟩

example :
    let r := ols ([1/10, 2/10, 3/10] : List ℝ) (([1/10, 2/10, 3/10] : List ℝ).map fun p => bet_transform p (simple_bet p 2 100))
    bet_c_const r.1 r.2 = 100 ∧ bet_n_monolayer r.2 (bet_c_const r.1 r.2) = 2 :=
  (bet_recovers 2 100 [1/10, 2/10, 3/10] (by norm_num) (by norm_num) tenths_sorted (by decide)
    tenths_in_unit).2

example :
    let r := ols ([1, 2, 5] : List ℝ) (([1, 2, 5] : List ℝ).map fun p => langmuir_transform p (simple_lang p 3 (1/2)))
    lang_n_monolayer r.1 = 3 ∧ lang_const r.2 (lang_n_monolayer r.1) = 1/2 := by
  have h := langmuir_recovers 3 (1/2) [1, 2, 5] (by norm_num) (by norm_num) (by simp; norm_num) (by simp)
    (by intro p hp
        simp only [List.mem_cons, List.not_mem_nil, or_false] at hp
        rcases hp with rfl | rfl | rfl <;> norm_num)
  exact h.2

/-- Dubinin–Radushkevich: `k = 2` -/
example :
    let r := ols (([1/10, 2/10, 3/10] : List ℝ).map fun p => log_p_exp p 2)
      (([1/10, 2/10, 3/10] : List ℝ).map fun p => log_v_adj (nDA (1/2) (4/5) 28 77 6 2 p) 28 (4/5))
    da_microp_volume r.2 = 1/2 ∧ da_potential 77 2 r.1 = 6 :=
  (da_recovers (1/2) (4/5) 28 77 6 2 [1/10, 2/10, 3/10] (by norm_num) (by norm_num) (by norm_num)
    (by norm_num) (by norm_num) (by norm_num) tenths_sorted (by decide) tenths_in_unit).2

example : (ols ([1, 2, 4] : List ℝ) (([1, 2, 4] : List ℝ).map fun t => 3 * t + 7)) = (3, 7) :=
  (tplot_recovers 3 7 1 1 [1, 2, 4] (by simp; norm_num) (by simp)).1

example : alphas_area 5 100 (ols (([1, 2, 4] : List ℝ).map fun x => alphas_curve x 5) [1, 2, 4]).1 = 100 :=
  (alphas_self_returns_reference_area 5 100 [1, 2, 4] (by norm_num) (by simp; norm_num) (by simp)).2

/-! concrete evaluations of the model at ℚ -/

example : ols (α := ℚ) [1, 2, 3] [3, 5, 7] = (2, 1) := by
  norm_num [ols, sxy, mean, PgVerif.Model.Linear.sum]

/-- all abscissae equal: degenerate, the totalised division returns slope 0 (this is why `ols_exact` carries a guard) -/
example : ols (α := ℚ) [2, 2, 2] [3, 5, 7] = (0, 5) := by
  norm_num [ols, sxy, mean, PgVerif.Model.Linear.sum]

example : searchsorted (α := ℚ) [1/10, 2/10, 3/10, 4/10] (1/4) = 2 := by decide +kernel
example : searchsorted (α := ℚ) [1/10, 2/10, 3/10, 4/10] (2/10) = 1 := by decide +kernel

/-- half-open: a point equal to the lower limit is kept, a point equal to the upper limit is dropped -/
example : limitWindow (α := ℚ) [1/20, 1/10, 2/10, 3/10, 4/10] (some (1/10)) (some (3/10)) = (1, 2) := by decide +kernel
/-- Python truthiness: a limit `0` is "not given" -/
example : limitWindow (α := ℚ) [1/20, 1/10, 2/10, 3/10, 4/10] (some 0) (some 0) = (0, 4) := by decide +kernel
/-- upper limit below every point: `maximum = -1`, refused -/
example : limitWindow (α := ℚ) [1/20, 1/10, 2/10] (some 5) (some (1/1000)) = (3, -1) := by decide +kernel
example : decide3 (limitWindow (α := ℚ) [1/20, 1/10, 2/10] (some 5) (some (1/1000))) = none := by decide +kernel
/-- two points inside the limits: refused; three: accepted -/
example : betWindow (α := ℚ) [1/20, 1/10, 2/10, 3/10, 4/10] [] (1/10) (some (some (1/10), some (3/10))) = none := by decide +kernel
example : betWindow (α := ℚ) [1/20, 1/10, 2/10, 3/10, 4/10] [] (1/10) (some (some (1/10), some (7/20))) = some (1, 3) := by
  decide +kernel

/-- automatic BET window on a 6-point list: Rouquerol transform first decreases from index 3 to 4, so `m = 4`,
`0.1·ps[4] = 0.03`, window `[1, 4]` -/
example : rouquerolMax (α := ℚ) [1, 2, 3, 4, 3, 2] = 4 := by decide +kernel
example : betWindow (α := ℚ) [1/100, 1/20, 1/10, 2/10, 3/10, 1/2] [1, 2, 3, 4, 3, 2] (1/10) none = some (1, 4) := by
  decide +kernel
/-- never-decreasing Rouquerol transform: `m` is the last index -/
example : rouquerolMax (α := ℚ) [1, 2, 2, 4] = 3 := by decide +kernel

example : langWindow (α := ℚ) [1/100, 1/10, 2/10, 1/2, 8/10, 1] (1/20) (9/10) none = some (1, 4) := by decide +kernel
example : daWindow (α := ℚ) [1/100, 1/10] none = none := by decide +kernel
example : daWindow (α := ℚ) [1/100, 1/10, 2/10] none = some (0, 2) := by decide +kernel

/-- hypothesis bundle of `betWindow_auto_spec` / `limitWindow_spec` / `window_refused_iff` -/
example : ([1/100, 1/20, 1/10, 2/10, 3/10, 1/2] : List ℚ).Pairwise (· ≤ ·) ∧
    ([1, 2, 3, 4, 3, 2] : List ℚ).length = ([1/100, 1/20, 1/10, 2/10, 3/10, 1/2] : List ℚ).length ∧
    ([1/100, 1/20, 1/10, 2/10, 3/10, 1/2] : List ℚ) ≠ [] ∧ (1/10 : ℚ) ≠ 0 ∧ (3/10 : ℚ) ≠ 0 := by
  refine ⟨by decide +kernel, rfl, by simp, by norm_num, by norm_num⟩
/-- `window_refused_iff` on a concrete list: two points in `[0.1, 0.3)`, refused -/
example : ([1/20, 1/10, 2/10, 3/10, 4/10] : List ℚ).countP (fun p => decide ((1/10 : ℚ) ≤ p ∧ p < 3/10)) = 2 := by
  decide +kernel

example : slice (α := ℚ) [10, 11, 12, 13, 14, 15] (1, 4) = [11, 12, 13, 14] := by decide +kernel
example : openSection (α := ℚ) [1/10, 3/10, 5/10, 7/10, 3/10] (2/10) (6/10) = [1, 2, 4] := by decide +kernel

end Examples

end PgVerif.Props.C14
