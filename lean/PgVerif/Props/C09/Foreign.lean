/-
C09 — the exception that leaves a planted statement, exactly; exceptions OUTSIDE the sqlite3 hierarchy.

`Props/C09.lean` proves, for every fault kind, that the committed content after a fault is the content before the call or the
complete effect (`atomic`), and that a fault planted inside the body makes the call fail (`fault_inside_body_fails`: `out ≠ ok`).
Here the outcome is determined exactly: a fault of a kind that is raised INSTEAD of statement `k` (every kind but `exitAfter`),
planted at a statement the fault-free run issues, leaves the body with precisely the exception of that kind — no statement of any
operation, and nothing in the operation bodies, catches or converts it — and `with_connection` maps it as its `except` clauses
say: IntegrityError or InterfaceError → `ParsingError`, every other `sqlite3.Error` AND every exception that is no `sqlite3.Error`
(`FaultKind.foreign`: OverflowError / UnicodeEncodeError raised by the driver while it binds a value, an exception of the module
itself between two statements, KeyboardInterrupt, MemoryError, SystemExit …) → propagated unchanged; in every case nothing is
committed, and the repeated operation commits what the fault-free call would have committed.

Reading of `(k, .foreign)` for exceptions raised BETWEEN two statements (after statement `k-1` returned, before statement `k` is
handed to the driver: the module's own `ParsingError` for an unsupported column type, whatever `json.dumps` raises): the planted
exception replaces statement `k`, which therefore has no effect — the same state as when the exception comes just before it.
-/
import PgVerif.Props.C09

namespace PgVerif.C09
open PgVerif.Model.Store PgVerif.StoreL

/-- the exception with which a hit fault of this kind leaves the statement -/
def errOf : FaultKind → SqlErr
  | .integrity => .integrity
  | .interface => .interface
  | .operational => .operational
  | .foreign => .foreign
  | .exitBefore => .exit
  | .exitAfter => .exit

/-- what `with_connection` reports for it -/
def outcomeOfKind : FaultKind → Outcome
  | .integrity => .parsingError
  | .interface => .parsingError
  | .operational => .otherError
  | .foreign => .otherError
  | .exitBefore => .died
  | .exitAfter => .died

lemma injected_hit (k : Nat) (kind : FaultKind) (h : kind ≠ .exitAfter) :
    injected (some (k, kind)) k = some (errOf kind) := by
  cases kind <;> simp [injected, errOf] at h ⊢

lemma injected_some (k n : Nat) (kind : FaultKind) (e : SqlErr) (h : injected (some (k, kind)) n = some e) :
    e = errOf kind := by
  cases kind <;> simp only [injected] at h <;> first | (split_ifs at h; cases h; rfl) | cases h

/-- The planted exception is the one that leaves the body.  A fault of a kind raised instead of the statement (every kind
but `exitAfter`), planted at a statement index the fault-free run reaches, ends the body with exactly that exception: no
operation body catches, converts or outruns it. -/
theorem fault_before_statement_raises (db : Db) (mem : Mem) (op : Op) (k : Nat) (kind : FaultKind)
    (hkind : kind ≠ .exitAfter) (hk : k < stmtCount db mem op) :
    (exec (prog op) ⟨db, mem, 0, some (k, kind)⟩).1 = .error (errOf kind) := by
  rcases rel_prog (E := fun e => e = errOf kind)
      (fun b => notYet_stmt k kind (fun e h => injected_some k k kind e h) (fun h => absurd h hkind) b) (notYet_modifyMem k kind) op
      ⟨db, mem, 0, some (k, kind)⟩ _ ⟨rfl, rfl, Nat.zero_le _⟩ with ⟨e, he, hr⟩ | ⟨_, _, _, h3⟩
  · rw [hr, he]
  · rcases rel_prog (E := fun e => e = errOf kind)
        (fun b => faultR_stmt k kind (fun n e => injected_some k n kind e) (by rintro rfl; rfl) b) (faultR_modifyMem k kind) op
        ⟨db, mem, 0, some (k, kind)⟩ ⟨db, mem, 0, none⟩ ⟨rfl, rfl, rfl, rfl, rfl⟩ with ⟨e, he, hr⟩ | ⟨_, _, h3', _⟩
    · rw [hr, he]
    · rw [stmtCount_eq] at hk
      omega

/-- Outcome of a statement fault, exactly: `ParsingError` for IntegrityError or InterfaceError, the exception itself for every other
`sqlite3.Error` and for every exception outside the sqlite3 hierarchy, death for a process exit — and the file is unchanged. -/
theorem fault_before_statement_outcome (db : Db) (mem : Mem) (op : Op) (k : Nat) (kind : FaultKind)
    (hkind : kind ≠ .exitAfter) (hk : k < stmtCount db mem op) :
    (runOp db mem op (some (k, kind))).out = outcomeOfKind kind ∧ (runOp db mem op (some (k, kind))).db = db := by
  have h := fault_before_statement_raises db mem op k kind hkind hk
  obtain ⟨h1, h2⟩ := finish_error db mem (some (k, kind)) h
  rw [runOp_eq, h1, h2]
  cases kind <;> exact ⟨rfl, rfl⟩

/-- An exception that is no `sqlite3.Error`, at any statement of any operation, commits nothing: the call ends with that
exception (`otherError`: it is neither translated nor swallowed), the file holds exactly what it held before, and the same
operation repeated afterwards — whatever the failed call left in the process-global lists — commits what the fault-free call
would have committed, with the same outcome. -/
theorem foreign_exception_commits_nothing (db : Db) (mem : Mem) (op : Op) (k : Nat) (hk : k < stmtCount db mem op) :
    (runOp db mem op (some (k, .foreign))).out = .otherError ∧
    (runOp db mem op (some (k, .foreign))).db = db ∧
    (runOp (runOp db mem op (some (k, .foreign))).db (runOp db mem op (some (k, .foreign))).mem op none).db =
      (runOp db mem op none).db ∧
    (runOp (runOp db mem op (some (k, .foreign))).db (runOp db mem op (some (k, .foreign))).mem op none).out =
      (runOp db mem op none).out := by
  obtain ⟨h1, h2⟩ := fault_before_statement_outcome db mem op k .foreign (by decide) hk
  exact ⟨h1, h2, retry_after_failure db mem op _ h2⟩

/-- as far as the file and the outcome are concerned, an exception outside the sqlite3 hierarchy is handled like the
`sqlite3.Error`s the wrapper does not translate: at every statement the fault-free run issues -/
theorem foreign_like_untranslated_db_error (db : Db) (mem : Mem) (op : Op) (k : Nat) (hk : k < stmtCount db mem op) :
    (runOp db mem op (some (k, .foreign))).out = (runOp db mem op (some (k, .operational))).out ∧
    (runOp db mem op (some (k, .foreign))).db = (runOp db mem op (some (k, .operational))).db := by
  obtain ⟨h1, h2⟩ := fault_before_statement_outcome db mem op k .foreign (by decide) hk
  obtain ⟨h3, h4⟩ := fault_before_statement_outcome db mem op k .operational (by decide) hk
  exact ⟨h1.trans h3.symm, h2.trans h4.symm⟩

/-- `exitAfter` is excluded above for a reason: when statement `k` fails by itself the process does not get to die after it.
(Witness: uploading a material that is already stored; statement 1, the INSERT, is refused: `ParsingError`, not death.) -/
example : 1 < stmtCount db0 mem0 (.matToDb (some "MOF-1") [] false false) ∧
    (runOp db0 mem0 (.matToDb (some "MOF-1") [] false false) (some (1, .exitAfter))).out = .parsingError ∧
    outcomeOfKind .exitAfter = .died := by decide +kernel

/-! ### non-vacuity -/

/-- the hypotheses are satisfiable (13 statements, fault at statement 3 … 12), and the conclusions are what the executable model
computes: a foreign exception inside the material auto-insertion (3), inside the metadata (11) and at the last data row (12) -/
example : stmtCount db0 mem0 (.isoToDb iso2 true true) = 13 ∧
    (runOp db0 mem0 (.isoToDb iso2 true true) (some (3, .foreign))).out = .otherError ∧
    (runOp db0 mem0 (.isoToDb iso2 true true) (some (3, .foreign))).db = db0 ∧
    (runOp db0 mem0 (.isoToDb iso2 true true) (some (11, .foreign))).db = db0 ∧
    (runOp db0 mem0 (.isoToDb iso2 true true) (some (12, .foreign))).out = .otherError ∧
    (runOp db0 mem0 (.isoToDb iso2 true true) (some (12, .foreign))).db = db0 ∧
    (runOp db0 mem0 (.isoToDb iso2 true true) (some (12, .foreign))).stmts = 13 := by decide +kernel

/-- beyond the last statement the plan is never hit: the call succeeds (so `k < stmtCount` is needed) -/
example : (runOp db0 mem0 (.isoToDb iso2 true true) (some (13, .foreign))).out = .ok := by decide +kernel

/-- after the foreign exception the same upload, repeated, succeeds and commits the fault-free effect -/
example :
    (runOp (runOp db0 mem0 (.isoToDb iso2 true true) (some (11, .foreign))).db
           (runOp db0 mem0 (.isoToDb iso2 true true) (some (11, .foreign))).mem (.isoToDb iso2 true true) none).db =
      (runOp db0 mem0 (.isoToDb iso2 true true) none).db := by decide +kernel

end PgVerif.C09
