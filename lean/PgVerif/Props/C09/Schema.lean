/-
C09 — what the atomicity / "no orphans" theorems assume about the schema of the CURRENT source, decided by kernel evaluation on the
generated `PgVerif.Gen.Schema` (the full tie of the store model to the schema is C08's: `Props/C08/Schema.lean`; here only the
facts the fault model depends on, so that a schema edit irrelevant to atomicity does not touch C09).

The model's transaction (`runOp`) issues `PRAGMA foreign_keys = ON` first and lets every statement fail immediately; its invariant
`Db.wellFormed` ("no isotherm without a known material / adsorbate / class, no property or data row without its owner") is what SQLite
enforces only if every clause is an IMMEDIATE foreign key.  A DEFERRABLE foreign key would move the failure to the commit (outside the
`try` of `with_connection`: a raw IntegrityError after the statements succeeded), a cascading one or a trigger would write rows no
statement of the model writes.

No Mathlib.
-/
import PgVerif.Lemmas.SchemaFacts

namespace PgVerif.C09

/-- foreign keys are switched on for every connection; each referential clause of `Db.wellFormed` is a foreign key of the schema with
no ON DELETE / ON UPDATE action; no CREATE statement carries DEFERRABLE (or any other constraint clause besides AUTOINCREMENT) and the
schema has no trigger or view — so a statement either takes effect exactly as modelled or fails at once, which is the fault model of
`Props/C09.atomic` and of `Props/C08.wellFormed_preserved` (no orphans). -/
theorem schema_supports_immediate_integrity :
    Spec.Schema.connPragma ∈ Gen.Schema.connPragmas ∧
    (∀ r ∈ Spec.Schema.wellFormedRefs, C08.SchemaTie.hasPlainFk r.1 r.2.1 r.2.2.1 r.2.2.2 = true) ∧
    Gen.Schema.tables.map (fun t => (t.name, t.extras)) = Spec.Schema.extras ∧
    Gen.Schema.otherObjects = [] :=
  ⟨C08.SchemaTie.connPragma_issued, C08.SchemaTie.wellFormedRefs_plainFk, C08.SchemaTie.extras_as_modelled⟩

/-- the write entry points address existing tables only, except the isotherm-property-type ones (finding S39), whose single statement
fails before anything is written -/
theorem write_ops_address_existing_tables :
    ∀ e ∈ Gen.Schema.opTables, ∀ t ∈ e.2,
      t ∈ C08.SchemaTie.tableNames ∨ (e.1 ∈ Spec.Schema.isoPropTypeEntryPoints ∧ t = "isotherm_properties_type") :=
  C08.SchemaTie.opTables_exist

example : Spec.Schema.wellFormedRefs.length = 9 := by decide +kernel

end PgVerif.C09
