/-
C09, the level below the statements — why "the process died ⇒ nothing is committed" (`Model.Store.runOp`, `.exit`) holds, and
exactly when it stops holding.

All statements are about `PgVerif.Model.Pager`: one rollback-journal transaction as a list of micro-events (page written in
the cache / dirty page spilled into the database file / commit point), death between any two of them, the journal played back
by the next connection.

In the order of the file: single steps and what a reader on the connection sees; a completed transaction leaves exactly the effect of
its writes, in every environment; with a journal FILE, death (and, if the journal is fsynced first, power loss) anywhere before the
commit point restores the content before the call, hence is atomic at ANY micro-step of a one-transaction call; without a spill
death is harmless in every environment (why deaths at statement boundaries with the default page cache could not see a journal
in memory); a volatile or unsynced journal, or more than one transaction per call, tears the file after one spilled page; so the
decidable verdict the driver evaluates on the environment read from the live connection is exactly "atomic for every schedule";
the hand-over to the statement-level model.
-/
import PgVerif.Model.Pager
import PgVerif.Model.Store
import Mathlib.Tactic

namespace PgVerif.C09.Crash
open PgVerif.Model.Pager

/-- the events of the statements of one call: page writes and spills, no commit point -/
def WritesOnly (evs : List Ev) : Prop := Ev.endTxn ∉ evs

/-- what a reader on this connection sees: the cache over the file -/
def view (s : Pager) : File := fun p => (s.cache p).getD (s.disk p)

variable {env : Env} {s : Pager}

/-! ### single steps -/

/-- journaling a page touches the journal and the dirty list only -/
lemma journalPage_frame (p : Nat) : (journalPage env s p).cache = s.cache ∧ (journalPage env s p).disk = s.disk ∧
    (journalPage env s p).synced = s.synced ∧ (journalPage env s p).jsynced = s.jsynced := by
  unfold journalPage; split
  · exact ⟨rfl, rfl, rfl, rfl⟩
  · split <;> exact ⟨rfl, rfl, rfl, rfl⟩

lemma journalPage_synced (env : Env) (s : Pager) (p : Nat) : (journalPage env s p).synced = s.synced :=
  (journalPage_frame p).2.2.1

lemma journalPage_jsynced (env : Env) (s : Pager) (p : Nat) : (journalPage env s p).jsynced = s.jsynced :=
  (journalPage_frame p).2.2.2

lemma mem_journalPage_dirty {p q : Nat} : q ∈ (journalPage env s p).dirty ↔ q = p ∨ q ∈ s.dirty := by
  unfold journalPage; split
  · next h => exact ⟨Or.inr, fun hq => hq.elim (fun e => e ▸ h) id⟩
  · split <;> exact List.mem_cons

lemma journalPage_dirty_cases (env : Env) (s : Pager) (p q : Nat) (h : q ∈ (journalPage env s p).dirty) : q = p ∨ q ∈ s.dirty :=
  mem_journalPage_dirty.1 h

lemma journalPage_jfile (p : Nat) (r : Nat × Nat) (h : r ∈ (journalPage env s p).jfile) : r ∈ s.jfile ∨ r = (p, s.disk p) := by
  unfold journalPage at h
  split at h
  · exact Or.inl h
  · split at h
    · simpa using h
    · exact Or.inl h
    · exact Or.inl h

lemma run_append (a b : List Ev) : run env s (a ++ b) = run env (run env s a) b :=
  List.foldl_append

lemma spill_cache (p q : Nat) : (step env s (.spill p)).cache q = if q = p then none else s.cache q := by
  simp only [step]
  cases h : s.cache p with
  | none => by_cases hq : q = p <;> simp [hq, h]
  | some v => rfl

lemma spill_dirty (p : Nat) : (step env s (.spill p)).dirty = s.dirty := by
  simp only [step]; cases s.cache p <;> rfl

lemma view_write (p v : Nat) : view (step env s (.write p v)) = upd (view s) p v := by
  funext q
  simp only [view, step, upd, journalPage_frame]
  by_cases h : q = p <;> simp [h]

lemma view_spill (p : Nat) : view (step env s (.spill p)) = view s := by
  funext q
  simp only [view, step]
  cases h : s.cache p with
  | none => rfl
  | some v =>
    by_cases hq : q = p
    · subst hq; simp [upd, h]
    · simp [upd, hq]

/-- dirty pages of the cache are registered -/
def CacheDirty (s : Pager) : Prop := ∀ p, s.cache p ≠ none → p ∈ s.dirty

lemma cacheDirty_step (e : Ev) (he : e ≠ .endTxn) (h : CacheDirty s) : CacheDirty (step env s e) := by
  intro q hq
  cases e with
  | write p v =>
    refine mem_journalPage_dirty.2 ?_
    by_cases hqp : q = p
    · exact Or.inl hqp
    · simp only [step, hqp, if_false, journalPage_frame] at hq
      exact Or.inr (h q hq)
  | spill p =>
    rw [spill_cache] at hq
    rw [spill_dirty]
    exact h q fun c => hq (by rw [c, ite_self])
  | endTxn => exact absurd rfl he

lemma cacheDirty_run (ws : List Ev) (hw : WritesOnly ws) (h : CacheDirty s) : CacheDirty (run env s ws) :=
  List.foldlRecOn ws _ h fun _ hs e he => cacheDirty_step e (fun c => hw (c ▸ he)) hs

lemma view_run (ws : List Ev) (hw : WritesOnly ws) : view (run env s ws) = effect ws (view s) := by
  induction ws generalizing s with
  | nil => rfl
  | cons e es ih =>
    have h := ih (s := step env s e) fun c => hw (List.mem_cons_of_mem _ c)
    cases e with
    | write p v => rwa [view_write] at h
    | spill p => rwa [view_spill] at h
    | endTxn => exact absurd List.mem_cons_self hw

/-! ### the commit -/

lemma run_spills (l : List Nat) : view (run env s (l.map Ev.spill)) = view s ∧
    ((∀ q, s.cache q ≠ none → q ∈ l) → ∀ q, (run env s (l.map Ev.spill)).cache q = none) := by
  induction l generalizing s with
  | nil => exact ⟨rfl, fun h q => not_not.1 fun c => List.not_mem_nil (h q c)⟩
  | cons p ps ih =>
    obtain ⟨h1, h2⟩ := ih (s := step env s (.spill p))
    refine ⟨h1.trans (view_spill p), fun h => h2 fun q hq => ?_⟩
    rw [spill_cache] at hq
    by_cases hqp : q = p
    · simp [hqp] at hq
    · rw [if_neg hqp] at hq
      exact (List.mem_cons.1 (h q hq)).resolve_left hqp

/-- A completed transaction leaves exactly the effect of its writes and a connection between transactions — in every
environment (the journal plays no part when nothing fails). -/
theorem txn_commits (env : Env) (d : File) (ws : List Ev) (hw : WritesOnly ws) :
    run env (fresh d) (txn env (fresh d) ws) = fresh (effect ws d) := by
  have hcd : CacheDirty (run env (fresh d) ws) := cacheDirty_run ws hw fun p hp => absurd rfl hp
  obtain ⟨hv, hc⟩ := run_spills (env := env) (s := run env (fresh d) ws) (run env (fresh d) ws).dirty
  have hview : view (run env (fresh d) ws) = effect ws d := view_run ws hw
  rw [txn, commitEvs, run_append, run_append]
  -- the commit point leaves a connection between transactions on the flushed file, and the flushed file is what readers saw
  show fresh (run env (run env (fresh d) ws) _).disk = _
  congr 1
  rw [← hview, ← hv]
  funext q
  simp [view, hc hcd q]

/-! ### journal playback -/

lemma restore_orig (base : File) (recs : List (Nat × Nat)) : ∀ (d : File), (∀ r ∈ recs, r.2 = base r.1) →
    ∀ q, restore recs d q = if q ∈ recs.map Prod.fst then base q else d q := by
  induction recs with
  | nil => intro d _ q; simp [restore]
  | cons r rs ih =>
    intro d h q
    obtain ⟨p, v⟩ := r
    have hv : v = base p := h (p, v) List.mem_cons_self
    rw [restore, ih (upd d p v) (fun r hr => h r (List.mem_cons_of_mem _ hr)) q]
    rw [List.map_cons]
    by_cases hq : q ∈ rs.map Prod.fst
    · rw [if_pos hq, if_pos (List.mem_cons_of_mem _ hq)]
    · rw [if_neg hq]
      by_cases hqp : q = p
      · rw [hqp, if_pos List.mem_cons_self, hv]
        exact if_pos rfl
      · rw [if_neg fun c => (List.mem_cons.1 c).elim hqp hq]
        exact if_neg hqp

lemma restore_eq_base (base : File) (recs : List (Nat × Nat)) (d : File) (horig : ∀ r ∈ recs, r.2 = base r.1)
    (hclean : ∀ q, q ∉ recs.map Prod.fst → d q = base q) : restore recs d = base := by
  funext q
  rw [restore_orig base recs d horig q]
  split
  · rfl
  · next hq => exact hclean q hq

/-- the invariant of a running transaction whose journal is a file (`d` = the content before the call) -/
structure JInv (env : Env) (d : File) (s : Pager) : Prop where
  cacheDirty : CacheDirty s
  recsOrig : ∀ r ∈ s.jfile, r.2 = d r.1
  dirtyKeys : ∀ p ∈ s.dirty, p ∈ s.jfile.map Prod.fst
  cleanDisk : ∀ p, p ∉ s.dirty → s.disk p = d p
  syncedEq : s.synced = d
  syncKeys : env.syncJournal = true → ∀ p, s.disk p ≠ d p → p ∈ (s.jfile.take s.jsynced).map Prod.fst

lemma jinv_fresh (d : File) : JInv env d (fresh d) :=
  ⟨fun p hp => absurd rfl hp, by simp [fresh], by simp [fresh], fun _ _ => rfl, rfl, fun _ p hp => absurd rfl hp⟩

lemma jinv_step (hj : env.journal = .file) (d : File) (e : Ev) (he : e ≠ .endTxn) (h : JInv env d s) :
    JInv env d (step env s e) := by
  have hcd := cacheDirty_step (env := env) e he h.cacheDirty
  cases e with
  | endTxn => exact absurd rfl he
  | write p v =>
    by_cases hp : p ∈ s.dirty
    · -- the page is journaled already: only the cache changes
      simp only [step, journalPage, hp, if_true] at hcd ⊢
      exact { h with cacheDirty := hcd }
    · simp only [step, journalPage, hp, if_false, hj] at hcd ⊢
      refine { h with cacheDirty := hcd, recsOrig := ?_, dirtyKeys := ?_, cleanDisk := ?_, syncKeys := ?_ }
      · -- the new record holds what the file holds for a clean page: the original
        exact List.forall_mem_append.2 ⟨h.recsOrig, List.forall_mem_singleton.2 (h.cleanDisk p hp)⟩
      · exact List.forall_mem_cons.2 ⟨List.mem_map.2 ⟨_, List.mem_append_right _ List.mem_cons_self, rfl⟩,
          fun q hq => List.map_subset _ (List.subset_append_left _ _) (h.dirtyKeys q hq)⟩
      · exact fun q hq => h.cleanDisk q fun c => hq (List.mem_cons_of_mem _ c)
      · intro hs q hq
        rw [List.take_append, List.map_append]
        exact List.mem_append_left _ (h.syncKeys hs q hq)
  | spill p =>
    cases hc : s.cache p with
    | none =>
      simp only [step, hc]
      exact h
    | some v =>
      have hpd : p ∈ s.dirty := h.cacheDirty p (hc ▸ Option.some_ne_none v)
      simp only [step, hc] at hcd ⊢
      refine { h with cacheDirty := hcd, cleanDisk := ?_, syncKeys := ?_ }
      · exact fun q hq => (if_neg fun c : q = p => hq (c ▸ hpd)).trans (h.cleanDisk q hq)
      · -- the journal is synced in full before the page goes to the file, and the page is dirty, hence journaled
        intro hs q hq
        simp only [hs, if_true, List.take_length]
        by_cases hqp : q = p
        · exact hqp ▸ h.dirtyKeys p hpd
        · simp only [upd, hqp, if_false] at hq
          exact List.map_subset _ (List.take_subset _ _) (h.syncKeys hs q hq)

lemma jinv_run (hj : env.journal = .file) (d : File) (evs : List Ev) (hw : WritesOnly evs) (h : JInv env d s) :
    JInv env d (run env s evs) :=
  List.foldlRecOn evs _ h fun _ hs e he => jinv_step hj d e (fun c => hw (c ▸ he)) hs

/-- Death before the commit point (journal file): whatever the statements wrote and whichever dirty pages SQLite had already
spilled into the database file, the next connection finds the content before the call. -/
theorem death_before_commit (env : Env) (hj : env.journal = .file) (d : File) (evs : List Ev) (hw : WritesOnly evs) :
    afterDeath (run env (fresh d) evs) = d := by
  have h := jinv_run hj d evs hw (jinv_fresh d)
  exact restore_eq_base d _ _ h.recsOrig fun q hq => h.cleanDisk q fun c => hq (h.dirtyKeys q c)

/-- … and the same for a power loss, when the journal is fsynced before the database file is touched: of the spilled pages an
arbitrary subset (`keep`) may have reached the disk. -/
theorem power_loss_before_commit (env : Env) (hj : env.journal = .file) (hs : env.syncJournal = true) (d : File)
    (evs : List Ev) (hw : WritesOnly evs) (keep : Nat → Bool) :
    afterPowerLoss keep (run env (fresh d) evs) = d := by
  have h := jinv_run hj d evs hw (jinv_fresh d)
  refine restore_eq_base d _ _ (fun r hr => h.recsOrig r (List.mem_of_mem_take hr)) fun q hq => ?_
  -- a page without a synced record has not been overwritten: both the disk and the last fsync hold the old content
  have hd : (run env (fresh d) evs).disk q = d q := by
    by_contra c
    exact hq (h.syncKeys hs q c)
  rw [hd, h.syncedEq, ite_self]

lemma afterPowerLoss_fresh (keep : Nat → Bool) (d : File) : afterPowerLoss keep (fresh d) = d := by
  funext q
  simp [afterPowerLoss, fresh, restore]

lemma txn_eq (ws : List Ev) : txn env s ws = (ws ++ (run env s ws).dirty.map Ev.spill) ++ [Ev.endTxn] := by
  simp [txn, commitEvs]

/-- A crash of any kind (`crash s` = what the next connection finds when the process ends in state `s`) in the middle of a one-transaction
call is atomic as soon as it is harmless before the commit point and between transactions: a proper prefix of the transaction has no
commit point, the whole transaction ends between transactions. -/
lemma atomic_of_harmless_before_commit (crash : Pager → File) (hfresh : ∀ d, crash (fresh d) = d) (d : File) (ws : List Ev)
    (hw : WritesOnly ws) (hbefore : ∀ evs, WritesOnly evs → crash (run env (fresh d) evs) = d)
    (pre : List Ev) (hpre : pre <+: txn env (fresh d) ws) :
    crash (run env (fresh d) pre) = d ∨ crash (run env (fresh d) pre) = effect ws d := by
  rw [txn_eq, List.prefix_concat_iff] at hpre
  rcases hpre with rfl | hpre
  · right
    rw [← txn_eq, txn_commits env d ws hw]
    exact hfresh _
  · left
    refine hbefore pre fun c => ?_
    rcases List.mem_append.1 (hpre.subset c) with c | c
    · exact hw c
    · simp at c

/-- Atomicity under process death: journal file, one transaction — death at ANY micro-step of the call (between statements,
in the middle of the flush of the commit, before or after the commit point) leaves the content before the call or the complete
effect of its writes. -/
theorem death_atomic (env : Env) (hj : env.journal = .file) (d : File) (ws : List Ev) (hw : WritesOnly ws)
    (pre : List Ev) (hpre : pre <+: txn env (fresh d) ws) :
    afterDeath (run env (fresh d) pre) = d ∨ afterDeath (run env (fresh d) pre) = effect ws d :=
  atomic_of_harmless_before_commit afterDeath (fun _ => rfl) d ws hw (death_before_commit env hj d) pre hpre

/-- Atomicity under power loss: additionally the journal is fsynced before the database file is overwritten. -/
theorem power_atomic (env : Env) (hj : env.journal = .file) (hs : env.syncJournal = true) (d : File) (ws : List Ev)
    (hw : WritesOnly ws) (pre : List Ev) (hpre : pre <+: txn env (fresh d) ws) (keep : Nat → Bool) :
    afterPowerLoss keep (run env (fresh d) pre) = d ∨ afterPowerLoss keep (run env (fresh d) pre) = effect ws d :=
  atomic_of_harmless_before_commit (afterPowerLoss keep) (afterPowerLoss_fresh keep) d ws hw
    (fun evs he => power_loss_before_commit env hj hs d evs he keep) pre hpre

/-! ### without a spill nothing can be seen -/

/-- the statements' page writes alone: nothing spilled -/
def NoSpill (ws : List Ev) : Prop := ∀ e ∈ ws, ∃ p v, e = Ev.write p v

lemma noSpill_inv (d : File) (ws : List Ev) (hn : NoSpill ws) (h1 : s.disk = d) (h2 : ∀ r ∈ s.jfile, r.2 = d r.1) :
    (run env s ws).disk = d ∧ ∀ r ∈ (run env s ws).jfile, r.2 = d r.1 :=
  List.foldlRecOn (motive := fun s : Pager => s.disk = d ∧ ∀ r ∈ s.jfile, r.2 = d r.1) ws _ ⟨h1, h2⟩ fun s hs e he => by
    obtain ⟨p, v, rfl⟩ := hn e he
    refine ⟨(journalPage_frame p).2.1.trans hs.1, fun r hr => ?_⟩
    rcases journalPage_jfile p r hr with h | rfl
    · exact hs.2 r h
    · exact congrFun hs.1 p

/-- Why a statement-boundary death with the default page cache shows nothing: as long as SQLite has not spilled a page, the
database file is untouched, and death before the commit is harmless in EVERY environment — journal in memory or switched off
included.  The defect of such an environment needs a spill (a page cache smaller than the transaction) to become observable. -/
theorem death_without_spill_harmless (env : Env) (d : File) (ws : List Ev) (h : NoSpill ws) :
    afterDeath (run env (fresh d) ws) = d := by
  obtain ⟨h1, h2⟩ := noSpill_inv (env := env) (s := fresh d) d ws h rfl fun _ hr => nomatch hr
  exact restore_eq_base d _ _ h2 fun q _ => congrFun h1 q

/-! ### what goes wrong outside that environment -/

/-- two pages written, the first one spilled (the cache was full): the state in which the process dies -/
def tornEvents (p q v w : Nat) : List Ev := [.write p v, .write q w, .spill p]

/-- a journal that is not a file never writes the journal file -/
lemma run_jfile_of_volatile (hj : env.journal ≠ .file) (evs : List Ev) (h : s.jfile = []) : (run env s evs).jfile = [] :=
  List.foldlRecOn (motive := fun s : Pager => s.jfile = []) evs _ h fun s hs e _ => by
    cases e with
    | write p v =>
      simp only [step, journalPage]
      split
      · exact hs
      · split
        · next hf => exact absurd hf hj
        · exact hs
        · exact hs
    | spill p =>
      simp only [step]
      split <;> exact hs
    | endTxn => rfl

/-- without `syncJournal` no record of the journal file is ever fsynced -/
lemma run_jsynced_of_unsynced (hs : env.syncJournal = false) (evs : List Ev) (h : s.jsynced = 0) : (run env s evs).jsynced = 0 :=
  List.foldlRecOn (motive := fun s : Pager => s.jsynced = 0) evs _ h fun s h0 e _ => by
    cases e with
    | write p v => exact (journalPage_jsynced env s p).trans h0
    | spill p =>
      simp only [step]
      split
      · exact h0
      · simp only [hs, Bool.false_eq_true, if_false, h0]
    | endTxn => rfl

lemma tornEvents_disk (d : File) (p q v w : Nat) (hpq : p ≠ q) : (run env (fresh d) (tornEvents p q v w)).disk = upd d p v := by
  simp [run, tornEvents, step, journalPage_frame, fresh, hpq]

lemma afterPowerLoss_torn (h : env.journal ≠ .file ∨ env.syncJournal = false) (d : File) (p q v w : Nat) (hpq : p ≠ q) :
    afterPowerLoss (fun _ => true) (run env (fresh d) (tornEvents p q v w)) = upd d p v := by
  have hrecs : (run env (fresh d) (tornEvents p q v w)).jfile.take (run env (fresh d) (tornEvents p q v w)).jsynced = [] := by
    rcases h with hj | hs
    · rw [run_jfile_of_volatile hj _ rfl, List.take_nil]
    · rw [run_jsynced_of_unsynced hs _ rfl, List.take_zero]
  rw [afterPowerLoss, hrecs, tornEvents_disk d p q v w hpq]
  rfl

lemma upd_torn (d : File) (p q v w : Nat) (hpq : p ≠ q) (hv : v ≠ d p) (hw : w ≠ d q) :
    upd d p v ≠ d ∧ upd d p v ≠ upd (upd d p v) q w := by
  refine ⟨fun c => hv ?_, fun c => hw ?_⟩
  · simpa [upd] using congrFun c p
  · simpa [upd, hpq.symm] using (congrFun c q).symm

/-- A journal that dies with the process tears the file: with the journal in memory (or none) a death after ONE spilled page
leaves a content that is neither the one before the call nor the complete effect — for any two distinct pages and any values that
actually change them.  The events are a prefix of the call's transaction. -/
theorem volatile_journal_tears (env : Env) (hj : env.journal ≠ .file) (d : File) (p q v w : Nat) (hpq : p ≠ q)
    (hv : v ≠ d p) (hw : w ≠ d q) :
    tornEvents p q v w <+: txn env (fresh d) (tornEvents p q v w) ∧
    afterDeath (run env (fresh d) (tornEvents p q v w)) ≠ d ∧
    afterDeath (run env (fresh d) (tornEvents p q v w)) ≠ effect (tornEvents p q v w) d := by
  refine ⟨List.prefix_append _ _, ?_⟩
  rw [afterDeath, run_jfile_of_volatile hj _ rfl, tornEvents_disk d p q v w hpq]
  exact upd_torn d p q v w hpq hv hw

/-- An unsynced journal file does not survive a power loss (synchronous = OFF): the spilled page reached the disk, its journal
record did not. -/
theorem unsynced_journal_power_tears (env : Env) (hs : env.syncJournal = false) (d : File) (p q v w : Nat) (hpq : p ≠ q)
    (hv : v ≠ d p) (hw : w ≠ d q) :
    tornEvents p q v w <+: txn env (fresh d) (tornEvents p q v w) ∧
    afterPowerLoss (fun _ => true) (run env (fresh d) (tornEvents p q v w)) ≠ d ∧
    afterPowerLoss (fun _ => true) (run env (fresh d) (tornEvents p q v w)) ≠ effect (tornEvents p q v w) d := by
  refine ⟨List.prefix_append _ _, ?_⟩
  rw [afterPowerLoss_torn (Or.inr hs) d p q v w hpq]
  exact upd_torn d p q v w hpq hv hw

lemma txn_prefix_of_split (h1 : env.oneTxn = false) (e : Ev) (es : List Ev) : txn env s [e] <+: opEvents env s (e :: es) := by
  simp only [opEvents, h1, Bool.false_eq_true, if_false, splitTxns]
  exact List.prefix_append _ _

lemma writesOnly_single_write (p v : Nat) : WritesOnly [Ev.write p v] := by simp [WritesOnly]

/-- More than one transaction per call tears the operation (autocommit / isolation_level=None, a commit in the middle, a second
connection): death after the first transaction's commit point leaves the first write without the second, in every journal mode. -/
theorem split_transaction_tears (env : Env) (h1 : env.oneTxn = false) (d : File) (p q v w : Nat) (hpq : p ≠ q)
    (hv : v ≠ d p) (hw : w ≠ d q) :
    txn env (fresh d) [.write p v] <+: opEvents env (fresh d) [.write p v, .write q w] ∧
    afterDeath (run env (fresh d) (txn env (fresh d) [.write p v])) ≠ d ∧
    afterDeath (run env (fresh d) (txn env (fresh d) [.write p v])) ≠ effect [.write p v, .write q w] d := by
  refine ⟨txn_prefix_of_split h1 _ _, ?_⟩
  rw [txn_commits env d _ (writesOnly_single_write p v)]
  exact upd_torn d p q v w hpq hv hw

/-! ### the verdict the driver evaluates -/

lemma deathSafe_iff : env.deathSafe = true ↔ env.journal = .file ∧ env.oneTxn = true := by
  simp [Env.deathSafe]

lemma powerSafe_iff : env.powerSafe = true ↔ env.journal = .file ∧ env.oneTxn = true ∧ env.syncJournal = true := by
  simp [Env.powerSafe, deathSafe_iff, and_assoc]

/-- `Env.deathSafe` is sound: in such an environment every call is atomic under process death, for every content, every write
schedule (spills included) and every instant of death. -/
theorem deathSafe_sound (env : Env) (h : env.deathSafe = true) (d : File) (ws : List Ev) (hw : WritesOnly ws)
    (pre : List Ev) (hpre : pre <+: opEvents env (fresh d) ws) :
    afterDeath (run env (fresh d) pre) = d ∨ afterDeath (run env (fresh d) pre) = effect ws d := by
  obtain ⟨hj, h1⟩ := deathSafe_iff.1 h
  simp only [opEvents, h1, if_true] at hpre
  exact death_atomic env hj d ws hw pre hpre

/-- An environment fails for a kind of crash (harmless between transactions) as soon as, with one transaction per call, that crash finds
the spilled page of `tornEvents` new and the other page old; with several transactions per call a crash between them tears anyway. -/
lemma tears_of_torn (crash : Pager → File) (hfresh : ∀ d, crash (fresh d) = d)
    (htorn : env.oneTxn = true → crash (run env (fresh fun _ => 0) (tornEvents 0 1 1 1)) = upd (fun _ => 0) 0 1) :
    ∃ (d : File) (ws pre : List Ev), WritesOnly ws ∧ pre <+: opEvents env (fresh d) ws ∧
      crash (run env (fresh d) pre) ≠ d ∧ crash (run env (fresh d) pre) ≠ effect ws d := by
  have ht := upd_torn (fun _ => 0) 0 1 1 1 (by decide) (by decide) (by decide)
  cases h1 : env.oneTxn with
  | true =>
    refine ⟨fun _ => 0, tornEvents 0 1 1 1, tornEvents 0 1 1 1, by simp [WritesOnly, tornEvents], ?_, htorn h1 ▸ ht⟩
    simp only [opEvents, h1, if_true]
    exact List.prefix_append _ _
  | false =>
    refine ⟨fun _ => 0, [.write 0 1, .write 1 1], _, by simp [WritesOnly], txn_prefix_of_split h1 _ _, ?_⟩
    rw [txn_commits env _ _ (writesOnly_single_write 0 1), hfresh]
    exact ht

/-- `Env.deathSafe` is complete: every other environment has a call and an instant of death that tear the file. -/
theorem deathSafe_complete (env : Env) (h : env.deathSafe = false) :
    ∃ (d : File) (ws pre : List Ev), WritesOnly ws ∧ pre <+: opEvents env (fresh d) ws ∧
      afterDeath (run env (fresh d) pre) ≠ d ∧ afterDeath (run env (fresh d) pre) ≠ effect ws d :=
  tears_of_torn afterDeath (fun _ => rfl) fun h1 => by
    have hj : env.journal ≠ .file := fun c => by rw [deathSafe_iff.2 ⟨c, h1⟩] at h; cases h
    rw [afterDeath, run_jfile_of_volatile hj _ rfl, tornEvents_disk _ 0 1 1 1 (by decide)]
    rfl

theorem powerSafe_sound (env : Env) (h : env.powerSafe = true) (d : File) (ws : List Ev) (hw : WritesOnly ws)
    (pre : List Ev) (hpre : pre <+: opEvents env (fresh d) ws) (keep : Nat → Bool) :
    afterPowerLoss keep (run env (fresh d) pre) = d ∨ afterPowerLoss keep (run env (fresh d) pre) = effect ws d := by
  obtain ⟨hj, h1, hs⟩ := powerSafe_iff.1 h
  simp only [opEvents, h1, if_true] at hpre
  exact power_atomic env hj hs d ws hw pre hpre keep

theorem powerSafe_complete (env : Env) (h : env.powerSafe = false) :
    ∃ (d : File) (ws pre : List Ev) (keep : Nat → Bool), WritesOnly ws ∧ pre <+: opEvents env (fresh d) ws ∧
      afterPowerLoss keep (run env (fresh d) pre) ≠ d ∧ afterPowerLoss keep (run env (fresh d) pre) ≠ effect ws d := by
  obtain ⟨d, ws, pre, hh⟩ := tears_of_torn (env := env) (afterPowerLoss fun _ => true) (afterPowerLoss_fresh _) fun h1 =>
    afterPowerLoss_torn (by
      by_contra c
      rw [not_or] at c
      rw [powerSafe_iff.2 ⟨not_not.1 c.1, h1, by simpa using c.2⟩] at h
      cases h) _ 0 1 1 1 (by decide)
  exact ⟨d, ws, pre, fun _ => true, hh⟩

/-- the environment `with_connection` sets up on the unchanged tree (what the harness reads from the live connection) is safe -/
theorem default_env_safe : Env.default.deathSafe = true ∧ Env.default.powerSafe = true := by decide

/-! ### hand-over to the statement-level model -/

open PgVerif.Model.Store in
/-- Why `runOp … (exit)` may say "nothing committed": lay the rows of the store out in pages in any way (`enc`); if the page
writes of an operation realise its fault-free effect, then in a death-safe environment the file found after a death at any
micro-step encodes the store before the call or the store the fault-free call commits — the two values `Props/C09.atomic` allows. -/
theorem store_death_justified (env : Env) (h : env.deathSafe = true) (enc : Db → File) (db : Db) (mem : Mem) (op : Op)
    (ws : List Ev) (hw : WritesOnly ws) (hws : effect ws (enc db) = enc (runOp db mem op none).db)
    (pre : List Ev) (hpre : pre <+: opEvents env (fresh (enc db)) ws) :
    afterDeath (run env (fresh (enc db)) pre) = enc db ∨
      afterDeath (run env (fresh (enc db)) pre) = enc (runOp db mem op none).db := by
  rw [← hws]
  exact deathSafe_sound env h (enc db) ws hw pre hpre

/-! ### non-vacuity: concrete schedules (kernel evaluation of the executable model) -/

/-- a file of zeros; a call writes pages 0 and 1, SQLite spills page 0 in between -/
def ex : List Ev := [.write 0 7, .spill 0, .write 1 8]

example : WritesOnly ex := by simp [WritesOnly, ex]

/-- default environment: the spilled page is in the database file when the process dies (`disk 0 = 7`), the journal file holds its
original, and the next connection finds the old content on both pages -/
example : (run Env.default (fresh fun _ => 0) ex).disk 0 = 7 ∧ (run Env.default (fresh fun _ => 0) ex).jfile = [(0, 0), (1, 0)] ∧
          afterDeath (run Env.default (fresh fun _ => 0) ex) 0 = 0 ∧ afterDeath (run Env.default (fresh fun _ => 0) ex) 1 = 0 := by
  decide

/-- the completed call: both pages new -/
example : (run Env.default (fresh fun _ => 0) (txn Env.default (fresh fun _ => 0) ex)).disk 0 = 7 ∧
          (run Env.default (fresh fun _ => 0) (txn Env.default (fresh fun _ => 0) ex)).disk 1 = 8 ∧
          (run Env.default (fresh fun _ => 0) (txn Env.default (fresh fun _ => 0) ex)).jfile = [] := by
  decide

/-- journal_mode = MEMORY: the same death leaves page 0 new and page 1 old -/
example : afterDeath (run ⟨.memory, true, true⟩ (fresh fun _ => 0) ex) 0 = 7 ∧
          afterDeath (run ⟨.memory, true, true⟩ (fresh fun _ => 0) ex) 1 = 0 := by
  decide

example : (⟨.memory, true, true⟩ : Env).deathSafe = false ∧ (⟨.file, false, true⟩ : Env).deathSafe = true ∧
          (⟨.file, false, true⟩ : Env).powerSafe = false ∧ (⟨.file, true, false⟩ : Env).deathSafe = false := by decide

end PgVerif.C09.Crash

