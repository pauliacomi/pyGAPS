/-
C17 — "each reported pore width solves the method's potential equation at the corresponding relative pressure" is a statement per point:
the loops `_solve_hk` / `_solve_hk_cy` (model: `PgVerif.Model.Micro.solveLoop`, `solveHK`, `solveHKCY`, tied to the code on every run by
the harness through `Drv/Char.lean`, request `hksolve`) hand every point to the same minimisation, so the width reported for a point does
not depend on the other points of the call, on their order, or on how many there are.

A. the loop is a prefix of `map solve`; entry `j` is `solve (points[j])`; where it stops
B. independence of the other points: single point, sub-sequences, re-ordering (`List.Perm`), repeated pressures, congruence in `solve`
   (the driver runs the loop with the measured single-point widths as `solve`)
C. widths are a non-decreasing function of pressure whatever the order of the points, provided the minimiser is monotone on them
D. slit HK: pressures computed from the published equation for chosen wall distances in any order are mapped back to those distances by
   any exact solver (with A4 of Props/C17.lean: the solution is unique)
E. the Cheng-Yang loop: per point (pressure, coverage)
G. adequacy of the generator: an (idealised) loop that carries its search interval over agrees with the library's loop on increasing
   sequences and differs at every point that lies below an earlier one — the harness therefore generates such points
F. non-vacuity examples

The hypothesis `∀ x ∈ xs, solve x ≤ wmax` ("no width above 10/geo") is the one under which the code reports every point; without it
the loop stops early (A4, A6) and WHICH points are reported does depend on the order — that part of the behaviour is stated, not hidden.
-/
import PgVerif.Props.C17
import Mathlib.Data.List.Perm.Basic
import Mathlib.Data.List.Sort

namespace PgVerif.Props.C17
open PgVerif.Gen.CharR PgVerif.Model.Micro

section Loop
variable {β γ : Type} [LinearOrder γ]

@[simp] lemma solveLoop_nil (solve : β → γ) (wmax : γ) : solveLoop solve wmax [] = [] := rfl

lemma solveLoop_cons (solve : β → γ) (wmax : γ) (x : β) (xs : List β) :
    solveLoop solve wmax (x :: xs) = if wmax < solve x then [solve x] else solve x :: solveLoop solve wmax xs := rfl

/-! ## A. structure of the result -/

/-- A1. the reported widths are the widths of the first points, in their order: a prefix of `map solve` -/
theorem solveLoop_prefix (solve : β → γ) (wmax : γ) (xs : List β) :
    solveLoop solve wmax xs <+: xs.map solve := by
  induction xs with
  | nil => simp
  | cons x xs ih =>
    rw [solveLoop_cons]
    split_ifs
    · simp [List.map_cons]
    · simpa [List.map_cons] using ih

theorem solveLoop_length_le (solve : β → γ) (wmax : γ) (xs : List β) :
    (solveLoop solve wmax xs).length ≤ xs.length := by
  simpa using (solveLoop_prefix solve wmax xs).length_le

/-- A2. per point: entry `j` of the result is the minimiser applied to point `j` — nothing else of the call enters -/
theorem solveLoop_getElem (solve : β → γ) (wmax : γ) (xs : List β) (j : Nat)
    (hj : j < (solveLoop solve wmax xs).length) :
    (solveLoop solve wmax xs)[j] = solve (xs[j]'(lt_of_lt_of_le hj (solveLoop_length_le solve wmax xs))) := by
  rw [(solveLoop_prefix solve wmax xs).getElem hj, List.getElem_map]

theorem solveLoop_length_pos (solve : β → γ) (wmax : γ) (xs : List β) (h : xs ≠ []) :
    0 < (solveLoop solve wmax xs).length := by
  cases xs with
  | nil => exact absurd rfl h
  | cons x xs => rw [solveLoop_cons]; split_ifs <;> simp

/-- A4. every point is reported when no width exceeds `wmax = 10 / geo` -/
theorem solveLoop_eq_map (solve : β → γ) (wmax : γ) (xs : List β) (h : ∀ x ∈ xs, solve x ≤ wmax) :
    solveLoop solve wmax xs = xs.map solve := by
  induction xs with
  | nil => rfl
  | cons x xs ih =>
    rw [solveLoop_cons, if_neg (not_lt.mpr (h x (by simp))), ih (fun y hy => h y (by simp [hy]))]
    rfl

theorem solveLoop_le_before_last (solve : β → γ) (wmax : γ) (xs : List β) (j : Nat)
    (hj : j + 1 < (solveLoop solve wmax xs).length) :
    (solveLoop solve wmax xs)[j]'(by omega) ≤ wmax := by
  induction xs generalizing j with
  | nil => simp at hj
  | cons x xs ih =>
    simp only [solveLoop_cons] at hj ⊢
    split_ifs at hj ⊢ with hx
    · simp at hj
    · cases j with
      | zero => exact not_lt.mp hx
      | succ j => exact ih j (by simpa using hj)

/-- A6. when points were dropped, the last reported width is the one that exceeded `wmax` (the `break`) -/
theorem solveLoop_last_of_short (solve : β → γ) (wmax : γ) (xs : List β)
    (h : (solveLoop solve wmax xs).length < xs.length) :
    ∃ hne : solveLoop solve wmax xs ≠ [], wmax < (solveLoop solve wmax xs).getLast hne := by
  induction xs with
  | nil => simp at h
  | cons x xs ih =>
    simp only [solveLoop_cons] at h ⊢
    split_ifs at h ⊢ with hx
    · exact ⟨by simp, by simpa using hx⟩
    · obtain ⟨hne, hlast⟩ := ih (by simpa using h)
      exact ⟨by simp, by rwa [List.getLast_cons hne]⟩

/-! ## B. independence of the other points -/

/-- B1. a call with one point: the reference against which the harness measures `solve` on the real code -/
theorem solveLoop_single (solve : β → γ) (wmax : γ) (x : β) : solveLoop solve wmax [x] = [solve x] := by
  rw [solveLoop_cons]; split_ifs <;> rfl

theorem solveLoop_head (solve : β → γ) (wmax : γ) (x : β) (xs : List β) :
    (solveLoop solve wmax (x :: xs)).head? = (solveLoop solve wmax [x]).head? := by
  rw [solveLoop_single, solveLoop_cons]; split_ifs <;> rfl

/-- B2. the width reported for point `j` of a call equals the width of the one-point call with that point -/
theorem solveLoop_getElem_eq_single (solve : β → γ) (wmax : γ) (xs : List β) (j : Nat)
    (hj : j < (solveLoop solve wmax xs).length) :
    [(solveLoop solve wmax xs)[j]]
      = solveLoop solve wmax [xs[j]'(lt_of_lt_of_le hj (solveLoop_length_le solve wmax xs))] := by
  rw [solveLoop_single, solveLoop_getElem]

/-- B3. two calls: a point that is reported by both gets the same width, wherever it stands and whatever surrounds it -/
theorem solveLoop_same_point (solve : β → γ) (wmax : γ) (xs ys : List β) (i j : Nat)
    (hi : i < (solveLoop solve wmax xs).length) (hj : j < (solveLoop solve wmax ys).length)
    (h : xs[i]'(lt_of_lt_of_le hi (solveLoop_length_le solve wmax xs))
        = ys[j]'(lt_of_lt_of_le hj (solveLoop_length_le solve wmax ys))) :
    (solveLoop solve wmax xs)[i] = (solveLoop solve wmax ys)[j] := by
  rw [solveLoop_getElem, solveLoop_getElem, h]

theorem solveLoop_duplicate (solve : β → γ) (wmax : γ) (xs : List β) (i j : Nat)
    (hi : i < (solveLoop solve wmax xs).length) (hj : j < (solveLoop solve wmax xs).length)
    (h : xs[i]'(lt_of_lt_of_le hi (solveLoop_length_le solve wmax xs))
        = xs[j]'(lt_of_lt_of_le hj (solveLoop_length_le solve wmax xs))) :
    (solveLoop solve wmax xs)[i] = (solveLoop solve wmax xs)[j] :=
  solveLoop_same_point solve wmax xs xs i j hi hj h

/-- B5. re-ordering the points re-orders the (point, width) pairs and changes none of them -/
theorem solveLoop_perm (solve : β → γ) (wmax : γ) (xs ys : List β) (hp : xs.Perm ys) (h : ∀ x ∈ xs, solve x ≤ wmax) :
    (xs.zip (solveLoop solve wmax xs)).Perm (ys.zip (solveLoop solve wmax ys)) := by
  rw [solveLoop_eq_map solve wmax xs h, solveLoop_eq_map solve wmax ys (fun y hy => h y (hp.mem_iff.mpr hy))]
  have e : ∀ l : List β, l.zip (l.map solve) = l.map (fun x => (x, solve x)) := by
    intro l
    induction l with
    | nil => rfl
    | cons a l ih => simp [ih]
  rw [e, e]
  exact hp.map _

theorem solveLoop_perm_widths (solve : β → γ) (wmax : γ) (xs ys : List β) (hp : xs.Perm ys) (h : ∀ x ∈ xs, solve x ≤ wmax) :
    (solveLoop solve wmax xs).Perm (solveLoop solve wmax ys) := by
  rw [solveLoop_eq_map solve wmax xs h, solveLoop_eq_map solve wmax ys (fun y hy => h y (hp.mem_iff.mpr hy))]
  exact hp.map _

/-- B6. leaving points out (any sub-sequence) leaves the widths of the remaining points unchanged -/
theorem solveLoop_sublist (solve : β → γ) (wmax : γ) (xs ys : List β) (hs : ys.Sublist xs) (h : ∀ x ∈ xs, solve x ≤ wmax) :
    (solveLoop solve wmax ys).Sublist (solveLoop solve wmax xs) := by
  rw [solveLoop_eq_map solve wmax xs h, solveLoop_eq_map solve wmax ys (fun y hy => h y (hs.subset hy))]
  exact hs.map _

theorem solveLoop_append (solve : β → γ) (wmax : γ) (xs ys : List β) (h : ∀ x ∈ xs, solve x ≤ wmax) :
    solveLoop solve wmax (xs ++ ys) = solveLoop solve wmax xs ++ solveLoop solve wmax ys := by
  induction xs with
  | nil => rfl
  | cons x xs ih =>
    have hx : ¬ wmax < solve x := not_lt.mpr (h x (by simp))
    rw [List.cons_append, solveLoop_cons, if_neg hx, solveLoop_cons, if_neg hx, ih (fun y hy => h y (by simp [hy]))]
    rfl

/-- B8. only the values of the minimiser at the points matter: the loop run with measured single-point widths (driver request
`hksolve`, `tableSolve`) is the loop run with the minimiser itself -/
theorem solveLoop_congr (solve solve' : β → γ) (wmax : γ) (xs : List β) (h : ∀ x ∈ xs, solve x = solve' x) :
    solveLoop solve wmax xs = solveLoop solve' wmax xs := by
  induction xs with
  | nil => rfl
  | cons x xs ih =>
    rw [solveLoop_cons, solveLoop_cons, h x (by simp), ih (fun y hy => h y (by simp [hy]))]

end Loop

section Table
variable {α : Type} [Field α] {β : Type} [DecidableEq β]

/-- B9. the table of measured widths reproduces a minimiser on the points it was measured on (first entry wins, as `List.lookup`) -/
theorem tableSolve_map (solve : β → α) (pts : List β) (x : β) (hx : x ∈ pts) :
    tableSolve (pts.map fun y => (y, solve y)) x = solve x := by
  unfold tableSolve
  induction pts with
  | nil => simp at hx
  | cons y pts ih =>
    by_cases hxy : x = y
    · subst hxy; simp
    · simpa [List.lookup_cons, beq_false_of_ne hxy] using ih ((List.mem_cons.1 hx).resolve_left hxy)

/-- B9'. hence the driver's computation is the model loop for every minimiser that has the measured values -/
theorem solveLoop_table [LinearOrder α] (solve : β → α) (wmax : α) (xs : List β) :
    solveLoop (tableSolve (xs.map fun y => (y, solve y))) wmax xs = solveLoop solve wmax xs :=
  solveLoop_congr _ _ wmax xs (fun x hx => tableSolve_map solve xs x hx)

end Table

/-! ## C. widths as a function of pressure -/
section Mono
variable {α : Type} [Field α] [LinearOrder α]

/-- C1. `_solve_hk`: entry `j` is the minimiser at pressure `j` -/
theorem solveHK_getElem (solve : α → α) (geo : α) (ps : List α) (j : Nat) (hj : j < (solveHK solve geo ps).length) :
    (solveHK solve geo ps)[j] = solve (ps[j]'(lt_of_lt_of_le hj (solveLoop_length_le solve (10 / geo) ps))) :=
  solveLoop_getElem solve (10 / geo) ps j hj

/-- C2. widths are non-decreasing in pressure whatever the order in which the points are given, when the minimiser is monotone on the
pressures of the call (plain HK slit: A4 of Props/C17.lean; not the Rege-Yang potentials, finding S32) -/
theorem solveHK_mono_in_pressure (solve : α → α) (geo : α) (ps : List α)
    (hm : ∀ p ∈ ps, ∀ q ∈ ps, p ≤ q → solve p ≤ solve q) (i j : Nat)
    (hi : i < (solveHK solve geo ps).length) (hj : j < (solveHK solve geo ps).length)
    (h : ps[i]'(lt_of_lt_of_le hi (solveLoop_length_le solve (10 / geo) ps))
          ≤ ps[j]'(lt_of_lt_of_le hj (solveLoop_length_le solve (10 / geo) ps))) :
    (solveHK solve geo ps)[i] ≤ (solveHK solve geo ps)[j] := by
  rw [solveHK_getElem, solveHK_getElem]
  exact hm _ (List.getElem_mem _) _ (List.getElem_mem _) h

/-- C3. increasing pressures give non-decreasing widths (the usual call) -/
theorem solveHK_sorted (solve : α → α) (geo : α) (ps : List α)
    (hm : ∀ p ∈ ps, ∀ q ∈ ps, p ≤ q → solve p ≤ solve q) (hs : ps.Pairwise (· ≤ ·)) :
    (solveHK solve geo ps).Pairwise (· ≤ ·) := by
  have hp : (solveHK solve geo ps) <+: ps.map solve := solveLoop_prefix solve (10 / geo) ps
  refine List.Pairwise.sublist hp.sublist ?_
  rw [List.pairwise_map]
  exact List.Pairwise.imp_of_mem (fun {a b} ha hb hab => hm a ha b hb hab) hs

/-- C4. a point with a lower pressure than an earlier point is given a width that is not larger (the clause a carried-over search
interval breaks: there the later point cannot get below the earlier width) -/
theorem solveHK_dip (solve : α → α) (geo : α) (ps : List α)
    (hm : ∀ p ∈ ps, ∀ q ∈ ps, p ≤ q → solve p ≤ solve q) (i j : Nat) (_hij : i < j)
    (hi : i < (solveHK solve geo ps).length) (hj : j < (solveHK solve geo ps).length)
    (h : ps[j]'(lt_of_lt_of_le hj (solveLoop_length_le solve (10 / geo) ps))
          ≤ ps[i]'(lt_of_lt_of_le hi (solveLoop_length_le solve (10 / geo) ps))) :
    (solveHK solve geo ps)[j] ≤ (solveHK solve geo ps)[i] :=
  solveHK_mono_in_pressure solve geo ps hm j i hj hi h

end Mono

/-! ## D. slit HK: the round trip in any order -/

/-- D1. wall distances `ls` chosen in any order (each `> 2 d_eff`), pressures `exp(published equation)` for them, a minimiser that
returns an exact solution of `exp(potential(l)) = p` in `l > 2 d_eff` for each of these pressures, no width above `10 / geo`:
`_solve_hk` returns exactly the chosen distances, in the order given. -/
theorem hk_slit_round_trip_any_order (d NRT n_ads a_ads n_mat a_mat geo : ℝ) (hd : 0 < d) (hN : 0 < NRT)
    (hS : 0 < n_ads * a_ads + n_mat * a_mat) (solve : ℝ → ℝ) (ls : List ℝ)
    (hls : ∀ l ∈ ls, 2 * d < l ∧ l ≤ 10 / geo)
    (hsolve : ∀ l ∈ ls, 2 * d < solve (Real.exp (hkPublished d NRT n_ads a_ads n_mat a_mat l))
      ∧ Real.exp (hk_slit_potential d NRT n_ads a_ads n_mat a_mat (solve (Real.exp (hkPublished d NRT n_ads a_ads n_mat a_mat l))))
          = Real.exp (hkPublished d NRT n_ads a_ads n_mat a_mat l)) :
    solveHK solve geo (ls.map fun l => Real.exp (hkPublished d NRT n_ads a_ads n_mat a_mat l)) = ls := by
  have hfix : ∀ l ∈ ls, solve (Real.exp (hkPublished d NRT n_ads a_ads n_mat a_mat l)) = l := fun l hl =>
    hk_slit_round_trip d NRT n_ads a_ads n_mat a_mat l _ hd hN hS (hls l hl).1 (hsolve l hl).1 (hsolve l hl).2
  unfold solveHK
  rw [solveLoop_eq_map]
  · rw [List.map_map]
    calc ls.map (solve ∘ fun l => Real.exp (hkPublished d NRT n_ads a_ads n_mat a_mat l)) = ls.map id :=
          List.map_congr_left (fun l hl => by simpa using hfix l hl)
      _ = ls := List.map_id ls
  · intro p hp
    obtain ⟨l, hl, rfl⟩ := List.mem_map.mp hp
    rw [hfix l hl]
    exact (hls l hl).2

/-- D2. and the same pressures handed over in another order give the same distance for each pressure -/
theorem hk_slit_round_trip_perm (d NRT n_ads a_ads n_mat a_mat geo : ℝ) (hd : 0 < d) (hN : 0 < NRT)
    (hS : 0 < n_ads * a_ads + n_mat * a_mat) (solve : ℝ → ℝ) (ls ls' : List ℝ) (hp : ls.Perm ls')
    (hls : ∀ l ∈ ls, 2 * d < l ∧ l ≤ 10 / geo)
    (hsolve : ∀ l ∈ ls, 2 * d < solve (Real.exp (hkPublished d NRT n_ads a_ads n_mat a_mat l))
      ∧ Real.exp (hk_slit_potential d NRT n_ads a_ads n_mat a_mat (solve (Real.exp (hkPublished d NRT n_ads a_ads n_mat a_mat l))))
          = Real.exp (hkPublished d NRT n_ads a_ads n_mat a_mat l)) :
    (solveHK solve geo (ls.map fun l => Real.exp (hkPublished d NRT n_ads a_ads n_mat a_mat l))).Perm
      (solveHK solve geo (ls'.map fun l => Real.exp (hkPublished d NRT n_ads a_ads n_mat a_mat l))) := by
  rw [hk_slit_round_trip_any_order d NRT n_ads a_ads n_mat a_mat geo hd hN hS solve ls hls hsolve,
    hk_slit_round_trip_any_order d NRT n_ads a_ads n_mat a_mat geo hd hN hS solve ls'
      (fun l hl => hls l (hp.mem_iff.mpr hl)) (fun l hl => hsolve l (hp.mem_iff.mpr hl))]
  exact hp

/-! ## E. the Cheng-Yang loop -/
section CY
variable {α : Type} [Field α] [LinearOrder α]

lemma coverage_length (c101 : α) (loading : List α) : (coverage c101 loading).length = loading.length := by
  simp [coverage]

/-- E1. `_solve_hk_cy`: entry `j` is the minimiser at (pressure `j`, coverage `j`); the other points enter only through the largest
loading in the coverage -/
theorem solveHKCY_getElem (solve : α → α → α) (c101 geo : α) (ps loading : List α) (j : Nat)
    (hj : j < (solveHKCY solve c101 geo ps loading).length) :
    ∃ (h1 : j < ps.length) (h2 : j < (coverage c101 loading).length),
      (solveHKCY solve c101 geo ps loading)[j] = solve ps[j] (coverage c101 loading)[j] := by
  have hl := lt_of_lt_of_le hj (solveLoop_length_le (fun pc : α × α => solve pc.1 pc.2) (10 / geo) (ps.zip (coverage c101 loading)))
  rw [List.length_zip] at hl
  refine ⟨by omega, by omega, ?_⟩
  have e := solveLoop_getElem (fun pc : α × α => solve pc.1 pc.2) (10 / geo) (ps.zip (coverage c101 loading)) j hj
  rw [List.getElem_zip] at e
  exact e

/-- E2. the coverage of a point is its loading over 1.01 times the largest loading: `coverage` is a `map` -/
theorem coverage_getElem (c101 : α) (loading : List α) (j : Nat) (hj : j < (coverage c101 loading).length) :
    (coverage c101 loading)[j]
      = loading[j]'(by simpa [coverage] using hj) / (loading.foldl max (loading.headD 0) * c101) := by
  simp [coverage]

/-- E3. without the correction in the minimiser (`solve p c` independent of `c`) the Cheng-Yang loop is the plain loop -/
theorem solveHKCY_const (solve : α → α) (c101 geo : α) (ps loading : List α) (h : ps.length ≤ loading.length) :
    solveHKCY (fun p _ => solve p) c101 geo ps loading = solveHK solve geo ps := by
  unfold solveHKCY solveHK
  have hcov : ps.length ≤ (coverage c101 loading).length := by rwa [coverage_length]
  clear h
  generalize coverage c101 loading = cov at hcov
  induction ps generalizing cov with
  | nil => simp
  | cons p ps ih =>
    cases cov with
    | nil => simp at hcov
    | cons c cov =>
      simp only [List.zip_cons_cons, solveLoop_cons]
      rw [ih cov (by simpa using hcov)]

end CY

/-! ## G. why increasing sequences cannot see a carried-over search interval (adequacy of the generator) -/
section Carried
variable {β γ : Type} [LinearOrder γ]

/-- NOT the library: an idealised loop that moves the lower end of the search interval to the width just found. For a potential
that is monotone in the pore size an exact bounded minimiser returns the root clipped to the interval, `max bound (solve p)`. -/
def carriedLoop (solve : β → γ) : γ → List β → List γ
  | _, [] => []
  | b, x :: xs => max b (solve x) :: carriedLoop solve (max b (solve x)) xs

lemma carriedLoop_length (solve : β → γ) (b : γ) (xs : List β) : (carriedLoop solve b xs).length = xs.length := by
  induction xs generalizing b with
  | nil => rfl
  | cons x xs ih => simp [carriedLoop, ih]

/-- G1. on points whose widths come out non-decreasing (increasing pressures, monotone minimiser) the carried-over loop is the
per-point loop: no generator that only produces increasing pressures can tell the two apart -/
theorem carriedLoop_eq_map_of_sorted (solve : β → γ) (b : γ) (xs : List β)
    (hs : (xs.map solve).Pairwise (· ≤ ·)) (hb : ∀ x ∈ xs, b ≤ solve x) :
    carriedLoop solve b xs = xs.map solve := by
  induction xs generalizing b with
  | nil => rfl
  | cons x xs ih =>
    have hx : max b (solve x) = solve x := max_eq_right (hb x (by simp))
    rw [List.map_cons, List.pairwise_cons] at hs
    simp only [carriedLoop, hx, List.map_cons]
    rw [ih (solve x) hs.2 (fun y hy => hs.1 (solve y) (List.mem_map.mpr ⟨y, hy, rfl⟩))]

/-- every entry of the carried-over loop is at least the starting bound and at least the per-point width of every earlier point -/
lemma carriedLoop_ge (solve : β → γ) : ∀ (b : γ) (xs : List β) (j : Nat) (hj : j < (carriedLoop solve b xs).length),
    b ≤ (carriedLoop solve b xs)[j] ∧
      ∀ i (hi : i ≤ j), solve (xs[i]'(by rw [carriedLoop_length] at hj; omega)) ≤ (carriedLoop solve b xs)[j]
  | b, x :: xs, 0, _ => ⟨le_max_left _ _, fun i hi => by obtain rfl := Nat.le_zero.1 hi; exact le_max_right _ _⟩
  | b, x :: xs, j + 1, hj => by
    obtain ⟨h1, h2⟩ := carriedLoop_ge solve (max b (solve x)) xs j (Nat.lt_of_succ_lt_succ hj)
    refine ⟨(le_max_left _ _).trans h1, fun i hi => ?_⟩
    cases i with
    | zero => exact (le_max_right _ _).trans h1
    | succ i => exact h2 i (Nat.le_of_succ_le_succ hi)

/-- G2. a point that lies below an earlier one (a reading that steps back) is reported with at least the earlier width: it differs
from the per-point width `solve xs[j]` — such sequences are what the generator has to contain -/
theorem carriedLoop_ne_of_dip (solve : β → γ) (b : γ) (xs : List β) (i j : Nat) (hij : i < j) (hj : j < xs.length)
    (hdip : solve (xs[j]) < solve (xs[i])) :
    (carriedLoop solve b xs)[j]'(by rw [carriedLoop_length]; exact hj) ≠ solve (xs[j]) := by
  have h := (carriedLoop_ge solve b xs j (by rw [carriedLoop_length]; exact hj)).2 i (le_of_lt hij)
  exact ne_of_gt (lt_of_lt_of_le hdip h)

/-- G2'. whereas the library's loop (model) reports the per-point width there -/
theorem solveLoop_at_dip (solve : β → γ) (wmax : γ) (xs : List β) (j : Nat) (hj : j < xs.length)
    (h : ∀ x ∈ xs, solve x ≤ wmax) :
    (solveLoop solve wmax xs)[j]'(by rw [solveLoop_eq_map solve wmax xs h]; simpa using hj) = solve (xs[j]) := by
  rw [solveLoop_getElem]

end Carried

example : carriedLoop (fun p : ℚ => 2 * p) 0 [1, 3, 2, 4] = [2, 6, 6, 8] := by decide +kernel
example : carriedLoop (fun p : ℚ => 2 * p) 0 [1, 2, 3, 4] = solveHK (fun p : ℚ => 2 * p) 1 [1, 2, 3, 4] := by decide +kernel

/-! ## F. non-vacuity -/

/-- a pressure dip (third point below the second): the width follows the pressure down -/
example : solveHK (fun p : ℚ => 2 * p) 1 [1, 3, 2, 4] = [2, 6, 4, 8] := by decide +kernel
/-- the loop stops after the first width above `10 / geo` -/
example : solveHK (fun p : ℚ => 2 * p) 2 [1, 3, 2, 4] = [2, 6] := by decide +kernel
example : solveHK (tableSolve [((1 : ℚ), (2 : ℚ)), (3, 6), (2, 4)]) 1 [3, 2, 1, 2] = [6, 4, 2, 4] := by decide +kernel
example : solveHKCY (fun p c : ℚ => p + c) 1 1 [1, 2, 3] [1, 2, 4] = [5 / 4, 5 / 2, 4] := by decide +kernel
/-- the hypotheses of B5 are satisfiable -/
example : ([1, 3, 2] : List ℚ).Perm [2, 1, 3] ∧ ∀ x ∈ ([1, 3, 2] : List ℚ), (fun p : ℚ => 2 * p) x ≤ 10 := by decide +kernel

end PgVerif.Props.C17
