/-
C17 — the non-slit Horvath-Kawazoe and the Rege-Yang potentials: the executable model `PgVerif.Model.HKPot` (a statement-by-statement
transcription of the closures `potential(l_pore)` of characterisation/psd_micro.py, tied to the code on every run by the harness
through Drv/HKPot.lean) IS the published equation of each method, truncated where the code truncates it.

A. cached series coefficients: closed form (Saito-Foley  α_k = (Γ(−4.5)/(Γ(−4.5−k) Γ(k+1)))² = ∏_{j≤k} ((−4.5−j)/j)²), positivity, growth
B. HK cylinder = Saito-Foley series with `K = ⌊25 L⌋` terms; truncation bound monotone in `L`
C. HK sphere = Cheng-Yang equation (signs of `(−1)^x` resolved)
D. RY slit: the two regimes; jump at exactly two layers (witness)
E. RY cylinder / sphere: `potential_general` = published layer potentials; layer count = number of layers that fit; averages are
   population-weighted means (between the smallest and the largest layer potential), population sums are positive (no 0/0)
F. tests at ℚ (one at ℝ) and the witness of D3, `rySlit_jump_exists`

Published forms (as in the cited papers; the docstrings of psd_micro.py print the sphere equation with `T_9/90 − T_8/80`, `T_3/12 − T_2/8`
and the one-layer slit Rege-Yang potential with `−(σ/(L−d₀))¹⁰ + (σ/(L−d₀))⁴`; with the docstring's own `T_x` these signs do not match
Cheng-Yang (1994) eq. 16 / the 10-4 wall potential; the CODE does, and that is what is proved here).
-/
import PgVerif.Model.HKPot
import Mathlib.Tactic
import Mathlib.Algebra.BigOperators.Intervals
import Mathlib.Data.Rat.Floor
import Mathlib.Analysis.SpecialFunctions.Trigonometric.Inverse

namespace PgVerif.C17
open PgVerif.Model.HKPot
open scoped BigOperators

variable {α : Type} [Field α]

/-! ## A. the cached coefficients -/

/-- A1. closed form of the recurrence `x_k = ((−c−k)/k)² x_{k−1}`, `x_0 = 1` -/
theorem coeff_eq_prod (c : α) (k : ℕ) :
    coeff c k = ∏ j ∈ Finset.range k, ((-c - ((j + 1 : ℕ) : α)) / ((j + 1 : ℕ) : α)) ^ 2 := by
  induction k with
  | zero => simp [coeff]
  | succ k ih => rw [coeff, ih, Finset.prod_range_succ, mul_comm]

/-- the appending loop started at index `k + 1` with `prev = xs[k]` fills in the recurrence values from `k + 1` on -/
private lemma cacheFrom_getD (c : α) : ∀ (n k i : ℕ), i < n →
    (cacheFrom c n (k + 1) (coeff c k)).getD i 0 = coeff c (k + 1 + i)
  | 0, _, _, h => absurd h (Nat.not_lt_zero _)
  | _ + 1, _, 0, _ => rfl
  | n + 1, k, i + 1, h =>
    (cacheFrom_getD c n (k + 1) i (Nat.lt_of_succ_lt_succ h)).trans (congrArg (coeff c) (by omega))

/-- A2. entry `k` of the list built by the caching loop is the recurrence value (for every index the loop fills) -/
theorem cache_getD (c : α) (n k : ℕ) (h : k < n) : (cache c n).getD k 0 = coeff c k := by
  cases k with
  | zero => rfl
  | succ k => exact (cacheFrom_getD c (n - 1) 0 k (by omega)).trans (congrArg (coeff c) (by omega))

private lemma cacheFrom_length (c : α) : ∀ (n k : ℕ) (p : α), (cacheFrom c n k p).length = n
  | 0, _, _ => rfl
  | n + 1, k, p => by simp [cacheFrom, cacheFrom_length c n]

/-- the cache built with `range(1, n)` has `n` entries (one entry for `n = 0`) -/
theorem cache_length (c : α) (n : ℕ) : (cache c n).length = max n 1 := by
  simp only [cache, List.length_cons, cacheFrom_length]; omega

/-- A3. `a_ks[k] = ∏_{j=1..k} ((−9/2 − j)/j)²` and `b_ks[k] = ∏_{j=1..k} ((−3/2 − j)/j)²` for all 2000 cached indices -/
theorem aKs_closed (k : ℕ) (h : k < 2000) :
    (aKs : List α).getD k 0 = ∏ j ∈ Finset.range k, ((-(9 / 2) - ((j + 1 : ℕ) : α)) / ((j + 1 : ℕ) : α)) ^ 2 := by
  rw [aKs, cache_getD _ _ _ h, coeff_eq_prod]

theorem bKs_closed (k : ℕ) (h : k < 2000) :
    (bKs : List α).getD k 0 = ∏ j ∈ Finset.range k, ((-(3 / 2) - ((j + 1 : ℕ) : α)) / ((j + 1 : ℕ) : α)) ^ 2 := by
  rw [bKs, cache_getD _ _ _ h, coeff_eq_prod]

section Ordered
variable [LinearOrder α] [IsStrictOrderedRing α]

omit [LinearOrder α] [IsStrictOrderedRing α] in
/-- the recurrence with the sign taken out of the square: the factor is `((c+k)/k)²` -/
lemma coeff_succ (c : α) (k : ℕ) :
    coeff c (k + 1) = ((c + ((k + 1 : ℕ) : α)) / ((k + 1 : ℕ) : α)) ^ 2 * coeff c k := by
  rw [coeff, ← neg_add', neg_div, neg_sq]

/-- A4. the coefficients are positive (guard `0 ≤ c`: no factor `−c−j` vanishes) -/
theorem coeff_pos (c : α) (hc : 0 ≤ c) (k : ℕ) : 0 < coeff c k := by
  induction k with
  | zero => exact zero_lt_one
  | succ k ih =>
    have hk : (0 : α) < ((k + 1 : ℕ) : α) := Nat.cast_pos.2 k.succ_pos
    rw [coeff_succ]
    exact mul_pos (pow_pos (div_pos (add_pos_of_nonneg_of_pos hc hk) hk) 2) ih

/-- A4. for `c > 0` they grow: every factor `((c+k)/k)²` exceeds one (so the series converge only through `(1−d/L)^{2k}`) -/
theorem coeff_strictMono (c : α) (hc : 0 < c) : StrictMono (coeff c) := by
  refine strictMono_nat_of_lt_succ fun k => ?_
  have hk : (0 : α) < ((k + 1 : ℕ) : α) := Nat.cast_pos.2 k.succ_pos
  rw [coeff_succ]
  exact lt_mul_of_one_lt_left (coeff_pos c hc.le k)
    (one_lt_pow₀ ((one_lt_div hk).2 (lt_add_of_pos_left _ hc)) two_ne_zero)

end Ordered

/-! ### list folds as sums -/

private lemma foldl_add_eq (f : ℕ → α) : ∀ (l : List ℕ) (s0 : α),
    l.foldl (fun s k => s + f k) s0 = s0 + (l.map f).sum
  | [], s0 => by simp
  | a :: l, s0 => by simp [foldl_add_eq f l, add_assoc]

private lemma sum_map_range' (f : ℕ → α) (m : ℕ) :
    ((List.range' 1 m).map f).sum = ∑ k ∈ Finset.range m, f (k + 1) := by
  induction m with
  | zero => simp
  | succ m ih =>
    rw [List.range'_concat, List.map_append, List.sum_append, ih, Finset.sum_range_succ]
    simp [add_comm]

/-- the loop `s = f 0; for k in range(1, K): s = s + f k` is `Σ_{k<K} f k` when `K ≥ 1` -/
private lemma loop_eq_sum (f : ℕ → α) (K : ℕ) (hK : 1 ≤ K) :
    (List.range' 1 (K - 1)).foldl (fun s k => s + f k) (f 0) = ∑ k ∈ Finset.range K, f k := by
  rw [foldl_add_eq, sum_map_range']
  obtain ⟨m, rfl⟩ : ∃ m, K = m + 1 := ⟨K - 1, by omega⟩
  rw [Finset.sum_range_succ' _ m, Nat.add_sub_cancel, add_comm]

/-! ## B. Horvath-Kawazoe cylinder = Saito-Foley series -/

section Floor
variable [LinearOrder α] [IsStrictOrderedRing α] [FloorRing α]

omit [IsStrictOrderedRing α] in
theorem pyInt_of_nonneg (x : α) (h : 0 ≤ x) : pyInt x = ⌊x⌋ := by simp [pyInt, h]

omit [IsStrictOrderedRing α] in
theorem pyInt_of_neg (x : α) (h : x < 0) : pyInt x = ⌈x⌉ := by simp [pyInt, not_le.mpr h]

/-- Python `int` truncates toward zero: the result lies between 0 and `x`, less than one away from `x` -/
theorem pyInt_spec (x : α) :
    (0 ≤ x → 0 ≤ pyInt x ∧ (pyInt x : α) ≤ x ∧ x < (pyInt x : α) + 1)
    ∧ (x < 0 → pyInt x ≤ 0 ∧ x ≤ (pyInt x : α) ∧ (pyInt x : α) < x + 1) := by
  constructor
  · intro h
    rw [pyInt_of_nonneg x h]
    exact ⟨Int.floor_nonneg.mpr h, Int.floor_le x, Int.lt_floor_add_one x⟩
  · intro h
    rw [pyInt_of_neg x h]
    refine ⟨?_, Int.le_ceil x, Int.ceil_lt_add_one x⟩
    rw [Int.ceil_le]; simpa using h.le

theorem pyInt_mono : Monotone (pyInt : α → ℤ) := by
  intro x y hxy
  by_cases hx : 0 ≤ x
  · rw [pyInt_of_nonneg x hx, pyInt_of_nonneg y (hx.trans hxy)]; exact Int.floor_le_floor hxy
  · have hx' : x < 0 := not_le.mp hx
    by_cases hy : 0 ≤ y
    · exact ((pyInt_spec x).2 hx').1.trans ((pyInt_spec y).1 hy).1
    · rw [pyInt_of_neg x hx', pyInt_of_neg y (not_le.mp hy)]; exact Int.ceil_le_ceil hxy

/-- B1. the truncation bound of the series: `int(l·25) = ⌊25 l⌋` for `l ≥ 0` -/
theorem maxK_eq_floor (l : α) (hl : 0 ≤ l) : ((maxK l : ℕ) : ℤ) = ⌊l * 25⌋ := by
  have h : 0 ≤ l * 25 := by positivity
  rw [maxK, pyInt_of_nonneg _ h, Int.toNat_of_nonneg (Int.floor_nonneg.mpr h)]

theorem maxK_mono : Monotone (maxK : α → ℕ) := by
  intro a b hab
  unfold maxK
  exact Int.toNat_le_toNat (pyInt_mono (mul_le_mul_of_nonneg_right hab (by norm_num)))

private def cylTerm (aKs bKs : List α) (d : α) (k : ℕ) : α :=
  (1 / ((k : α) + 1) * (1 - d) ^ (2 * k)) * (aKs.getD k 0 * (21 / 32 * d ^ 10) - bKs.getD k 0 * d ^ 4)

omit [IsStrictOrderedRing α] in
/-- B2. the loop of the HK cylinder closure is the Saito-Foley series
`¾ π N_A/(RT) (n_g A_gg + n_h A_gh)/d₀⁴ · Σ_{k=0}^{K−1} 1/(k+1) (1 − d₀/L)^{2k} [21/32 α_k (d₀/L)¹⁰ − β_k (d₀/L)⁴]`
truncated after `K = int(25 L)` terms (guards: at least one term — else the code returns the `k = 0` term anyway — and `K` within the
2000 cached coefficients — beyond, the code raises `IndexError`; in the solver's bracket `L ≤ 50`, `K ≤ 1250`) -/
theorem hkCylinder_eq_series (P : Params α) (l : α) (hK : 1 ≤ maxK l) (hK' : maxK l ≤ 2000) :
    hkCylinder P l
      = 3 / 4 * P.pi * P.nOverRT * (P.nAds * P.aAds + P.nMat * P.aMat) / (P.dEff * (1 / 1000000000)) ^ 4
        * ∑ k ∈ Finset.range (maxK l),
            1 / ((k : α) + 1) * (1 - P.dEff / l) ^ (2 * k)
              * (21 / 32 * coeff (9 / 2) k * (P.dEff / l) ^ 10 - coeff (3 / 2) k * (P.dEff / l) ^ 4) := by
  have e1 : hkCylinder P l
      = 3 / 4 * P.pi * P.nOverRT * (P.nAds * P.aAds + P.nMat * P.aMat) / (P.dEff * (1 / 1000000000)) ^ 4
        * (List.range' 1 (maxK l - 1)).foldl (fun s k => s + cylTerm aKs bKs (P.dEff / l) k)
            (21 / 32 * (P.dEff / l) ^ 10 - (P.dEff / l) ^ 4) := rfl
  have e0 : 21 / 32 * (P.dEff / l) ^ 10 - (P.dEff / l) ^ 4 = cylTerm aKs bKs (P.dEff / l) 0 := by
    simp only [cylTerm, aKs, bKs, cache, List.getD_cons_zero, Nat.cast_zero, zero_add, div_one, mul_zero, pow_zero, one_mul]
  rw [e1, e0, loop_eq_sum _ _ hK]
  congr 1
  apply Finset.sum_congr rfl
  intro k hk
  have hk' : k < 2000 := lt_of_lt_of_le (Finset.mem_range.mp hk) hK'
  rw [cylTerm, aKs, bKs, cache_getD _ _ _ hk', cache_getD _ _ _ hk']
  ring

end Floor

/-! ## C. Horvath-Kawazoe sphere = Cheng-Yang equation -/

/-- `t_term(x)` for even `x`: `(−1)^x = 1` -/
lemma tTerm_even (m l : α) {x : ℕ} (hx : Even x) : tTerm m l x = ((1 + m / l) ^ x)⁻¹ - ((1 - m / l) ^ x)⁻¹ := by
  rw [tTerm, hx.neg_one_pow, one_mul]

/-- `t_term(x)` for odd `x`: `(−1)^x = −1` swaps the two terms -/
lemma tTerm_odd (m l : α) {x : ℕ} (hx : Odd x) : tTerm m l x = ((1 - m / l) ^ x)⁻¹ - ((1 + m / l) ^ x)⁻¹ := by
  rw [tTerm, hx.neg_one_pow, neg_one_mul, neg_div, ← sub_eq_add_neg, sub_neg_eq_add]

/-- C1. `t_term(x)` with the sign `(−1)^x` resolved: Cheng-Yang's `T₁ … T₄`, `s = (L − d₀)/L` -/
theorem tTerm_resolved (m l : α) :
    tTerm m l 3 = ((1 - m / l) ^ 3)⁻¹ - ((1 + m / l) ^ 3)⁻¹
    ∧ tTerm m l 2 = ((1 + m / l) ^ 2)⁻¹ - ((1 - m / l) ^ 2)⁻¹
    ∧ tTerm m l 9 = ((1 - m / l) ^ 9)⁻¹ - ((1 + m / l) ^ 9)⁻¹
    ∧ tTerm m l 8 = ((1 + m / l) ^ 8)⁻¹ - ((1 - m / l) ^ 8)⁻¹ :=
  ⟨tTerm_odd m l ⟨1, rfl⟩, tTerm_even m l ⟨1, rfl⟩, tTerm_odd m l ⟨4, rfl⟩, tTerm_even m l ⟨4, rfl⟩⟩

/-- C2. the HK sphere closure is the Cheng-Yang spherical-pore equation
`6 N_A/(RT) (N₁ ε₁₂ + N₂ ε₂₂) L³/(L−d₀)³ [ −(d₀/L)⁶ (T₁/12 + T₂/8) + (d₀/L)¹² (T₃/90 + T₄/80) ]`,
`N₁ = 4π L² n_h`, `N₂ = 4π (L−d₀)² n_g`, `ε₁₂ = A_gh/(4 d₀⁶)`, `ε₂₂ = A_gg/(4 d_g⁶)` (lengths in metres).
Same division structure on both sides, so no guard is needed (at `L = d₀` both sides are the totalised `x/0`). -/
theorem hkSphere_eq_published (P : Params α) (l : α) :
    hkSphere P l
      = 6 * P.nOverRT
          * (4 * P.pi * (l * (1 / 1000000000)) ^ 2 * P.nMat * (P.aMat / (4 * (P.dEff * (1 / 1000000000)) ^ 6))
              + 4 * P.pi * ((l - P.dEff) * (1 / 1000000000)) ^ 2 * P.nAds * (P.aAds / (4 * (P.dAds * (1 / 1000000000)) ^ 6)))
          * (l / (l - P.dEff)) ^ 3
          * (-(P.dEff / l) ^ 6
                * ((((1 - (l - P.dEff) / l) ^ 3)⁻¹ - ((1 + (l - P.dEff) / l) ^ 3)⁻¹) / 12
                    + (((1 + (l - P.dEff) / l) ^ 2)⁻¹ - ((1 - (l - P.dEff) / l) ^ 2)⁻¹) / 8)
              + (P.dEff / l) ^ 12
                * ((((1 - (l - P.dEff) / l) ^ 9)⁻¹ - ((1 + (l - P.dEff) / l) ^ 9)⁻¹) / 90
                    + (((1 + (l - P.dEff) / l) ^ 8)⁻¹ - ((1 - (l - P.dEff) / l) ^ 8)⁻¹) / 80)) := by
  obtain ⟨h3, h2, h9, h8⟩ := tTerm_resolved (l - P.dEff) l
  unfold hkSphere
  simp only [h3, h2, h9, h8, nano]
  -- what is left is where the code puts `N_A/(RT)` and how it writes `ε = A/(4 d⁶)`
  have shape : ∀ N n₁ n₂ a₁ a₂ x₁ x₂ c B : α,
      N * (6 * (n₁ * (1 / 4 * a₁ / x₁) + n₂ * (1 / 4 * a₂ / x₂)) * c) * B
        = 6 * N * (n₁ * (a₁ / (4 * x₁)) + n₂ * (a₂ / (4 * x₂))) * c * B := fun _ _ _ _ _ _ _ _ _ => by ring
  exact shape _ _ _ _ _ _ _ _ _

/-- C3. in Cheng-Yang's terms `1 − (L−d₀)/L = d₀/L` (guard `L ≠ 0`) -/
theorem one_sub_s (d l : α) (hl : l ≠ 0) : 1 - (l - d) / l = d / l := by field_simp; ring

/-! ## D. Rege-Yang slit -/

/-- the adsorbate-adsorbate layer potential `ε_gg = n_g A_gg/(2 σ_g⁴) [(σ_g/d_g)¹⁰ − (σ_g/d_g)⁴]`, lengths in metres -/
theorem rySlitAdsorbate_eq (P : Params α) :
    rySlitAdsorbate P
      = P.nAds * P.aAds / (2 * (sigmaFactor * P.dAds * (1 / 1000000000)) ^ 4)
        * ((sigmaFactor * P.dAds / P.dAds) ^ 10 - (sigmaFactor * P.dAds / P.dAds) ^ 4) := by
  unfold rySlitAdsorbate nano
  simp only [div_div]
  ring

/-- `σ/d = 0.8583742` (guard `d ≠ 0`) -/
theorem sigma_over_d (d : α) (hd : d ≠ 0) : sigmaFactor * d / d = (4291871 / 5000000 : α) := by
  rw [mul_div_assoc, div_self hd, mul_one]; rfl

section Ordered
variable [LinearOrder α]

/-- D1. fewer than two layers (`(L − d_h)/d_g < 2`): the molecule sees both walls,
`ε_hgh = n_h A_gh/(2σ⁴) [(σ/d₀)¹⁰ − (σ/d₀)⁴ + (σ/(L−d₀))¹⁰ − (σ/(L−d₀))⁴]`, times `N_A/(RT)` -/
theorem rySlit_small (P : Params α) (l : α) (h : (l - P.dMat) / P.dAds < 2) :
    rySlit P l
      = P.nOverRT * (P.nMat * P.aMat / (2 * (sigmaFactor * P.dEff * (1 / 1000000000)) ^ 4)
          * ((sigmaFactor * P.dEff / P.dEff) ^ 10 - (sigmaFactor * P.dEff / P.dEff) ^ 4
              + (sigmaFactor * P.dEff / (l - P.dEff)) ^ 10 - (sigmaFactor * P.dEff / (l - P.dEff)) ^ 4)) := by
  unfold rySlit
  simp only [h, if_true]
  unfold rySlitTwoSurface nano
  simp only [div_div]

/-- D2. two or more layers, `M = (L − d_h)/d_g ≥ 2`: `[2 ε_hgg + (M − 2) ε_ggg]/M` with `ε_hgg = ε_hg + ε_gg`, `ε_ggg = 2 ε_gg` -/
theorem rySlit_large (P : Params α) (l : α) (h : 2 ≤ (l - P.dMat) / P.dAds) :
    rySlit P l
      = P.nOverRT *
          ((2 * (P.nMat * P.aMat / (2 * (sigmaFactor * P.dEff * (1 / 1000000000)) ^ 4)
                  * ((sigmaFactor * P.dEff / P.dEff) ^ 10 - (sigmaFactor * P.dEff / P.dEff) ^ 4) + rySlitAdsorbate P)
              + ((l - P.dMat) / P.dAds - 2) * (2 * rySlitAdsorbate P)) / ((l - P.dMat) / P.dAds)) := by
  unfold rySlit
  simp only [not_lt.mpr h, if_false]
  unfold rySlitAverage rySlitOneSurface nano
  simp only [div_div]
  ring

/-- D3. at exactly two layers (`L = d_h + 2 d_g`) the second regime gives `ε_hgg`; the first regime tends to `ε_hgh(L)` from below,
so the potential jumps by `N_A/(RT)·(ε_hgg − ε_hgh(d_h + 2 d_g))` (guard `d_g ≠ 0`) -/
theorem rySlit_at_two [IsStrictOrderedRing α] (P : Params α) (hd : P.dAds ≠ 0) :
    rySlit P (P.dMat + 2 * P.dAds) = P.nOverRT * rySlitOneSurface P := by
  have e : (P.dMat + 2 * P.dAds - P.dMat) / P.dAds = 2 := by field_simp; ring
  unfold rySlit
  simp only [e, lt_irrefl, if_false]
  unfold rySlitAverage
  rw [sub_self, zero_mul, zero_mul, add_zero, mul_div_assoc, mul_div_cancel₀ _ (two_ne_zero)]

end Ordered

/-! ## E. Rege-Yang cylinder and sphere -/

/-- E1. spherical `potential_general` is the published layer potential
`2 N ε* [ a¹²/(10 b) (1/(1−b)¹⁰ − 1/(1+b)¹⁰) − a⁶/(4 b) (1/(1−b)⁴ − 1/(1+b)⁴) ]` with `b = 1 − a` -/
theorem rySphGeneral_eq_published (n e a : α) :
    rySphGeneral n e a
      = 2 * n * e * (a ^ 12 / (10 * (1 - a)) * (((1 - (1 - a)) ^ 10)⁻¹ - ((1 + (1 - a)) ^ 10)⁻¹)
          - a ^ 6 / (4 * (1 - a)) * (((1 - (1 - a)) ^ 4)⁻¹ - ((1 + (1 - a)) ^ 4)⁻¹)) := by
  unfold rySphGeneral
  ring

/-- E1. `1 − b = a`: the inner terms are `1/a¹⁰ − 1/(2−a)¹⁰`, `1/a⁴ − 1/(2−a)⁴` -/
theorem rySphGeneral_eq_published' (n e a : α) :
    rySphGeneral n e a
      = 2 * n * e * (a ^ 12 / (10 * (1 - a)) * ((a ^ 10)⁻¹ - ((2 - a) ^ 10)⁻¹)
          - a ^ 6 / (4 * (1 - a)) * ((a ^ 4)⁻¹ - ((2 - a) ^ 4)⁻¹)) := by
  rw [rySphGeneral_eq_published, show 1 - (1 - a) = a by ring, show 1 + (1 - a) = 2 - a by ring]

/-- E2. `a_k_sum` / `b_k_sum`: `1 + Σ_{k=1}^{K−1} c_k b^{2k} = Σ_{k<K} c_k b^{2k}` over a cache whose entry 0 is 1 (guard `K ≥ 1`; for `K = 0` the code returns 1) -/
theorem kSeries_eq_sum (ks : List α) (b : α) (K : ℕ) (hK : 1 ≤ K) (h0 : ks.getD 0 0 = 1) :
    kSeries ks b K = ∑ k ∈ Finset.range K, ks.getD k 0 * b ^ (2 * k) := by
  have e : kSeries ks b K
      = (List.range' 1 (K - 1)).foldl (fun s k => s + ks.getD k 0 * b ^ (2 * k)) (ks.getD 0 0 * b ^ (2 * 0)) := by
    rw [h0]; simp [kSeries]
  rw [e, loop_eq_sum (fun k => ks.getD k 0 * b ^ (2 * k)) K hK]

section Floor
variable [LinearOrder α] [FloorRing α]

theorem ryMaxK_le (l : α) : ryMaxK l ≤ 2000 := by
  unfold ryMaxK; split_ifs with h <;> omega

/-- E2. cylindrical `potential_general` is the published layer potential
`¾ π n A/d⁴ [21/32 a¹⁰ Σ_{k<K} α_k b^{2k} − a⁴ Σ_{k<K} β_k b^{2k}]`, `b = 1 − a`, truncated after `K = min(int(25 L), 2000)` terms -/
theorem ryCylGeneral_eq_series (pi l d n A a : α) (hK : 1 ≤ ryMaxK l) :
    ryCylGeneral aKs bKs pi l d n A a
      = 3 / 4 * pi * n * A / (d * (1 / 1000000000)) ^ 4
        * (21 / 32 * a ^ 10 * ∑ k ∈ Finset.range (ryMaxK l), coeff (9 / 2) k * (1 - a) ^ (2 * k)
            - a ^ 4 * ∑ k ∈ Finset.range (ryMaxK l), coeff (3 / 2) k * (1 - a) ^ (2 * k)) := by
  have hc : ∀ c : α, ∑ k ∈ Finset.range (ryMaxK l), (cache c 2000).getD k 0 * (1 - a) ^ (2 * k)
      = ∑ k ∈ Finset.range (ryMaxK l), coeff c k * (1 - a) ^ (2 * k) := by
    intro c
    apply Finset.sum_congr rfl
    intro k hk
    rw [cache_getD _ _ _ (lt_of_lt_of_le (Finset.mem_range.mp hk) (ryMaxK_le l))]
  unfold ryCylGeneral
  simp only [nano]
  rw [kSeries_eq_sum _ _ _ hK (by simp [aKs, cache]), kSeries_eq_sum _ _ _ hK (by simp [bKs, cache]), aKs, bKs, hc, hc]

variable [IsStrictOrderedRing α]

omit [FloorRing α] in
/-- what `n_layers` truncates is the room above the first layer centre in units of the layer thickness, `(L − d₀)/d_g` -/
lemma ryLayers_arg (P : Params α) (l : α) (hd : P.dAds ≠ 0) :
    ((2 * l - P.dMat) / P.dAds - 1) / 2 = (l - P.dEff) / P.dAds := by
  unfold Params.dEff; field_simp; ring

omit [LinearOrder α] [FloorRing α] [IsStrictOrderedRing α] in
/-- the width left inside layer `n`, in the same units: `2 d_g ((L − d₀)/d_g − (n − 1))` -/
lemma ryWidth_eq (P : Params α) (l : α) (layer : ℕ) (hd : P.dAds ≠ 0) :
    ryWidth P l layer = 2 * P.dAds * ((l - P.dEff) / P.dAds - ((layer : α) - 1)) := by
  unfold ryWidth; field_simp

/-- E3. the layer count is the number of concentric layers that fit: for `L ≥ d₀` there is at least one layer, and the innermost
(last) layer has a width in `[0, 2 d_g)` — a further layer would need `2 d_g` more (guards `0 < d_g`, `d₀ ≤ L`) -/
theorem ryLayers_spec (P : Params α) (l : α) (hd : 0 < P.dAds) (hl : P.dEff ≤ l) :
    1 ≤ ryLayers P l ∧ 0 ≤ ryWidth P l (ryLayers P l).toNat ∧ ryWidth P l (ryLayers P l).toNat < 2 * P.dAds := by
  have hx0 : 0 ≤ (l - P.dEff) / P.dAds := div_nonneg (sub_nonneg.2 hl) hd.le
  have hfl : ryLayers P l = ⌊(l - P.dEff) / P.dAds⌋ + 1 := by
    rw [ryLayers, ryLayers_arg P l hd.ne', pyInt_of_nonneg _ hx0]
  have hf0 : 0 ≤ ⌊(l - P.dEff) / P.dAds⌋ := Int.floor_nonneg.mpr hx0
  -- with `n = ⌊x⌋ + 1` layers the width left is `2 d_g` times the fractional part of `x`
  have hcast : (((ryLayers P l).toNat : ℕ) : α) - 1 = (⌊(l - P.dEff) / P.dAds⌋ : α) := by
    rw [← Int.cast_natCast, Int.toNat_of_nonneg (by omega), hfl, Int.cast_add, Int.cast_one, add_sub_cancel_right]
  rw [ryWidth_eq P l _ hd.ne', hcast, Int.self_sub_floor]
  have h2 : 0 < 2 * P.dAds := mul_pos two_pos hd
  exact ⟨by omega, mul_nonneg h2.le (Int.fract_nonneg _), mul_lt_of_lt_one_right h2 (Int.fract_lt_one _)⟩

omit [LinearOrder α] [FloorRing α] [IsStrictOrderedRing α] in
lemma wsum_cons (p e : α) (pops pots : List α) : wsum (p :: pops) (e :: pots) = p * e + wsum pops pots := by
  simp only [wsum, List.zipWith_cons_cons, List.sum_cons]

omit [FloorRing α] in
/-- E4. a population-weighted mean lies between any bounds of the layer potentials
(guards: as many potentials as populations, non-negative populations) -/
theorem wsum_bounds (lo hi : α) : ∀ (pops pots : List α), pops.length = pots.length → (∀ p ∈ pops, 0 ≤ p) →
    (∀ e ∈ pots, lo ≤ e ∧ e ≤ hi) → lo * pops.sum ≤ wsum pops pots ∧ wsum pops pots ≤ hi * pops.sum
  | [], [], _, _, _ => by simp [wsum]
  | [], _ :: _, h, _, _ => by simp at h
  | _ :: _, [], h, _, _ => by simp at h
  | p :: pops, e :: pots, h, hp, he => by
    have ih := wsum_bounds lo hi pops pots (by simpa using h) (fun q hq => hp q (by simp [hq]))
      (fun q hq => he q (by simp [hq]))
    have hp0 := hp p (by simp)
    obtain ⟨h1, h2⟩ := he e (by simp)
    rw [wsum_cons, List.sum_cons, mul_add, mul_add, mul_comm lo, mul_comm hi]
    exact ⟨add_le_add (mul_le_mul_of_nonneg_left h1 hp0) ih.1, add_le_add (mul_le_mul_of_nonneg_left h2 hp0) ih.2⟩

omit [FloorRing α] in
/-- E4. `N_A/(RT) · Σ nᵢ εᵢ / Σ nᵢ` lies between `N_A/(RT)` times the smallest and the largest layer potential
(guards: positive populations, at least one layer — so `Σ nᵢ > 0`, no `0/0` —, `N_A/(RT) ≥ 0`) -/
theorem weighted_between (nrt lo hi : α) (pops pots : List α) (hlen : pops.length = pots.length) (hne : pops ≠ [])
    (hp : ∀ p ∈ pops, 0 < p) (he : ∀ e ∈ pots, lo ≤ e ∧ e ≤ hi) (hn : 0 ≤ nrt) :
    nrt * lo ≤ weighted nrt pops pots ∧ weighted nrt pops pots ≤ nrt * hi := by
  have hS : 0 < pops.sum := List.sum_pos _ hp hne
  obtain ⟨h1, h2⟩ := wsum_bounds lo hi pops pots hlen (fun p h => (hp p h).le) he
  unfold weighted
  rw [mul_div_assoc]
  constructor
  · exact mul_le_mul_of_nonneg_left ((le_div_iff₀ hS).mpr h1) hn
  · exact mul_le_mul_of_nonneg_left ((div_le_iff₀ hS).mpr h2) hn

omit [FloorRing α] in
/-- E4. if all layers have the same potential the average is that potential (no matter the populations, as long as their sum is not 0) -/
theorem weighted_const (nrt e : α) (pops pots : List α) (hlen : pops.length = pots.length) (hne : pops ≠ [])
    (hp : ∀ p ∈ pops, 0 < p) (he : ∀ x ∈ pots, x = e) : weighted nrt pops pots = nrt * e := by
  obtain ⟨h1, h2⟩ := weighted_between 1 e e pops pots hlen hne hp (fun x hx => by rw [he x hx]; exact ⟨le_rfl, le_rfl⟩)
    zero_le_one
  have h : weighted 1 pops pots = e := le_antisymm (by simpa using h2) (by simpa using h1)
  unfold weighted at h ⊢
  rw [mul_div_assoc, ← h, one_mul]

omit [IsStrictOrderedRing α] in
theorem ry_lengths (P : Params α) (asinPops : List α) (l : α) :
    (ryCylPops P asinPops l).length = (ryLayers P l).toNat ∧ (ryCylPots aKs bKs P l).length = (ryLayers P l).toNat
    ∧ (rySphPops P l).length = (ryLayers P l).toNat
    ∧ (1 ≤ (ryLayers P l).toNat → (rySphPots P l).length = (ryLayers P l).toNat) := by
  refine ⟨by simp [ryCylPops], by simp [ryCylPots], by simp [rySphPops], fun h => ?_⟩
  simp only [rySphPots, List.length_cons, List.length_zipWith, List.length_range', rySphPops, List.length_map]
  omega

omit [IsStrictOrderedRing α] in
/-- E6. cylinder: with `π/asin(·) > 0` supplied for every layer that uses it, all populations are positive and, for `L ≥ d₀`, their
sum is positive: the average is never `0/0` -/
theorem ryCylPops_pos (P : Params α) (asinPops : List α) (l : α)
    (h : ∀ layer : ℕ, P.dAds ≤ ryWidth P l layer → 0 < asinPops.getD (layer - 1) 0) :
    ∀ p ∈ ryCylPops P asinPops l, 0 < p := by
  intro p hp
  simp only [ryCylPops, List.mem_map] at hp
  obtain ⟨layer, -, rfl⟩ := hp
  split_ifs with hw
  · exact h layer hw
  · exact zero_lt_one

/-- E6. the Rege-Yang cylinder potential lies between `N_A/(RT)` times the smallest and the largest layer potential (its populations
`π/asin(·)` or 1 are positive, and for `L ≥ d₀` there is at least one layer) -/
theorem ryCylinder_between (P : Params α) (asinPops : List α) (l lo hi : α) (hd : 0 < P.dAds) (hl : P.dEff ≤ l) (hn : 0 ≤ P.nOverRT)
    (h : ∀ layer : ℕ, P.dAds ≤ ryWidth P l layer → 0 < asinPops.getD (layer - 1) 0)
    (he : ∀ e ∈ ryCylPots aKs bKs P l, lo ≤ e ∧ e ≤ hi) :
    P.nOverRT * lo ≤ ryCylinder P asinPops l ∧ ryCylinder P asinPops l ≤ P.nOverRT * hi := by
  obtain ⟨h1, -, -⟩ := ryLayers_spec P l hd hl
  obtain ⟨l1, l2, -, -⟩ := ry_lengths P asinPops l
  exact weighted_between _ lo hi _ _ (by rw [l1, l2]) (List.ne_nil_of_length_pos (by omega))
    (ryCylPops_pos P asinPops l h) he hn

/-- E6. sphere: for `L > d₀` the first population `4π (L−d₀)² n_g` is positive and the others are non-negative: `Σ Nᵢ > 0`
(guards `0 < π`, `0 < n_g`, `0 < d_g`, `d₀ < L`) -/
theorem rySphPops_sum_pos (P : Params α) (l : α) (hpi : 0 < P.pi) (hn : 0 < P.nAds) (hd : 0 < P.dAds) (hl : P.dEff < l) :
    0 < (rySphPops P l).sum := by
  obtain ⟨h1, -, -⟩ := ryLayers_spec P l hd hl.le
  obtain ⟨n, hn'⟩ : ∃ n, (ryLayers P l).toNat = n + 1 := ⟨(ryLayers P l).toNat - 1, by omega⟩
  have h4 : 0 < 4 * P.pi := mul_pos four_pos hpi
  have hnano : (0 : α) < nano := one_div_pos.2 (by norm_num)
  unfold rySphPops
  rw [hn', List.range'_succ, List.map_cons, List.sum_cons]
  apply add_pos_of_pos_of_nonneg
  · rw [Nat.cast_one, sub_self, zero_mul, sub_zero]
    exact mul_pos (mul_pos h4 (pow_pos (mul_pos (sub_pos.2 hl) hnano) 2)) hn
  · refine List.sum_nonneg fun x hx => ?_
    obtain ⟨layer, -, rfl⟩ := List.mem_map.1 hx
    exact mul_nonneg (mul_nonneg h4.le (sq_nonneg _)) hn.le

end Floor

-- a section of its own: the instance arguments of `rySphere_between` come in this order
section Floor
variable [LinearOrder α] [FloorRing α] [IsStrictOrderedRing α]

/-- E6. the Rege-Yang sphere potential lies between `N_A/(RT)` times the smallest and largest layer potential, where every layer
population is positive (i.e. away from the widths at which a new layer of zero radius appears) -/
theorem rySphere_between (P : Params α) (l lo hi : α) (hd : 0 < P.dAds) (hl : P.dEff ≤ l) (hn : 0 ≤ P.nOverRT)
    (hp : ∀ p ∈ rySphPops P l, 0 < p) (he : ∀ e ∈ rySphPots P l, lo ≤ e ∧ e ≤ hi) :
    P.nOverRT * lo ≤ rySphere P l ∧ rySphere P l ≤ P.nOverRT * hi := by
  obtain ⟨h1, -, -⟩ := ryLayers_spec P l hd hl
  obtain ⟨-, -, l3, l4⟩ := ry_lengths P [] l
  exact weighted_between _ lo hi _ _ (by rw [l3, l4 (by omega)]) (List.ne_nil_of_length_pos (by omega)) hp he hn

end Floor

/-- E7. the transcendental input of the cylinder model: where the code uses it (`0 < d_g ≤ width`) the population
`π / asin(d_g/width)` is at least 2 (two molecules fit across), in particular positive — the hypothesis of `ryCylPops_pos` holds
for the real populations -/
theorem asin_population_ge_two (d w : ℝ) (hd : 0 < d) (hw : d ≤ w) : 2 ≤ Real.pi / Real.arcsin (d / w) := by
  have hpos : 0 < Real.arcsin (d / w) := Real.arcsin_pos.mpr (div_pos hd (hd.trans_le hw))
  rw [le_div_iff₀ hpos]
  have := Real.arcsin_le_pi_div_two (d / w)
  linarith

/-! ## F. non-vacuity, and the jump of the Rege-Yang slit potential made concrete -/

/-- `a_1 = (−5.5)² = 121/4`, `b_1 = (−2.5)² = 25/4`, `a_2 = (−6.5/2)² a_1` -/
example : coeff (9 / 2 : ℚ) 1 = 121 / 4 ∧ coeff (3 / 2 : ℚ) 1 = 25 / 4 ∧ coeff (9 / 2 : ℚ) 2 = 20449 / 64 := by
  norm_num [coeff]
example : (cache (9 / 2 : ℚ) 5).getD 2 0 = 20449 / 64 ∧ (cache (9 / 2 : ℚ) 5).length = 5 := by decide +kernel
example : pyInt (7 / 2 : ℚ) = 3 ∧ pyInt (-7 / 2 : ℚ) = -3 ∧ pyInt (-1 / 2 : ℚ) = 0 := by decide +kernel
/-- the guards of `hkCylinder_eq_series` at `L = 1 nm`: 25 terms -/
example : maxK (1 : ℚ) = 25 ∧ 1 ≤ maxK (1 : ℚ) ∧ maxK (1 : ℚ) ≤ 2000 := by decide +kernel
example : maxK (50 : ℚ) = 1250 := by decide +kernel

/-- a nitrogen-on-carbon-like parameter set (π ≈ 355/113, unit prefactors) -/
def exampleParams : Params ℚ := ⟨355 / 113, 1, 1, 1, 1, 1, 3 / 10, 17 / 50⟩

example : exampleParams.dEff = 8 / 25 := by decide +kernel
example : ryLayers exampleParams 1 = 3 ∧ ryLayers exampleParams (8 / 25) = 1 := by decide +kernel
/-- the last of the three layers at `L = 1` has width 0.16 ∈ [0, 0.6) -/
example : ryWidth exampleParams 1 3 = 4 / 25 := by decide +kernel
example : weighted (1 : ℚ) [1, 3] [2, 6] = 5 := by decide +kernel
example : hkSphere exampleParams 1 < 0 := by decide +kernel
example : rySphere exampleParams 1 < 0 := by decide +kernel

/-- the guards of `ryLayers_spec`, `weighted_between`, `rySphPops_sum_pos`, `hkCylinder_eq_series`, `coeff_pos` are satisfiable -/
example : 1 ≤ ryLayers exampleParams 1 ∧ 0 ≤ ryWidth exampleParams 1 (ryLayers exampleParams 1).toNat
    ∧ ryWidth exampleParams 1 (ryLayers exampleParams 1).toNat < 2 * exampleParams.dAds :=
  ryLayers_spec exampleParams 1 (by decide +kernel) (by decide +kernel)
example : (1 : ℚ) * 2 ≤ weighted 1 [1, 3] [2, 6] ∧ weighted (1 : ℚ) [1, 3] [2, 6] ≤ 1 * 6 :=
  weighted_between 1 2 6 [1, 3] [2, 6] rfl (by simp) (by decide +kernel) (by decide +kernel) (by norm_num)
example : 0 < (rySphPops exampleParams 1).sum :=
  rySphPops_sum_pos exampleParams 1 (by decide +kernel) (by decide +kernel) (by decide +kernel) (by decide +kernel)
example : ∃ v : ℚ, hkCylinder exampleParams 1 = v ∧ v < 0 :=
  ⟨_, hkCylinder_eq_series exampleParams 1 (by decide +kernel) (by decide +kernel), by
    rw [← hkCylinder_eq_series exampleParams 1 (by decide +kernel) (by decide +kernel)]; decide +kernel⟩
example : 0 < coeff (9 / 2 : ℚ) 7 := coeff_pos _ (by norm_num) 7
example : (2 : ℝ) ≤ Real.pi / Real.arcsin ((3 / 10) / (1 / 2)) := asin_population_ge_two _ _ (by norm_num) (by norm_num)

/-- D3 made concrete: the Rege-Yang slit potential is not continuous where the second layer appears: at `L = d_h + 2 d_g` the
one-layer expression (continuous in `L`, the limit from below) and the value differ -/
theorem rySlit_jump_exists :
    ∃ P : Params ℚ, 0 < P.dAds ∧ 0 < P.dMat ∧ 0 < P.nOverRT ∧ 0 < P.nAds * P.aAds ∧ 0 < P.nMat * P.aMat
      ∧ P.nOverRT * rySlitTwoSurface P (P.dMat + 2 * P.dAds) ≠ rySlit P (P.dMat + 2 * P.dAds) :=
  ⟨exampleParams, by decide +kernel⟩

end PgVerif.C17
