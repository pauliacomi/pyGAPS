/-
C01 — the adsorbate / material quantities the conversions rely on ("the adsorbate's saturation pressure, molar mass and
densities (or the material's density and molar mass)") are what the accessor methods deliver NOW.

`Model/Units.lean` takes these quantities as an environment `Env α` (and `psat`), and `Props/C01.lean` proves the conversion
laws under the hypotheses `Ads.Consistent` / `Ads.Pos`.  Here the environment is *computed* from the accessor descriptors
generated from core/adsorbate.py (`Gen.Accessors`, = `Spec.Accessors` by `C20.gen_descriptors_eq_spec`) run against an
abstract SI backend: the units are the ones `Spec/Units.lean` assumes (g/mol, g/cm3, mol/cm3, Pa), `Consistent` follows from
the SI consistency of the backend, and the factor `c_pressure` obtains from `saturation_pressure(temp, unit=unit)` is the
`c_unit` conversion of the Pascal value that `cPressure` models.
-/
import PgVerif.Props.C20.Accessors
import PgVerif.Spec.Units

set_option linter.unusedSimpArgs false
set_option linter.unusedVariables false
set_option linter.unusedSectionVars false
set_option linter.unusedDecidableInType false

namespace PgVerif.C01
open PgVerif.Model PgVerif.Model.Acc
open PgVerif.C20 (G liftErr)
open PgVerif.Model.Registry (propValue)

variable {α : Type} [Field α] [DecidableEq α]

/-- the quantities `c_loading` / `c_material` read, as the real accessor methods deliver them at temperature `T`
(`none`: the method raised); material quantities come from the material's dictionary `DM` -/
def accessorEnv (B : Backend α) (D DM : Dict α) (T : α) : Env α
  | .gasDensity => (call G "gas_density" B D { temp := some T }).toOption
  | .liquidDensity => (call G "liquid_density" B D { temp := some T }).toOption
  | .molarMass => (call G "molar_mass" B D {}).toOption
  | .gasMolarDensity => (call G "gas_molar_density" B D { temp := some T }).toOption
  | .liquidMolarDensity => (call G "liquid_molar_density" B D { temp := some T }).toOption
  | .matDensity => DM "density"
  | .matMolarMass => DM "molar_mass"

/-- with a working SI backend the environment holds: M·1000 [g/mol], ρ/1000 [g/cm3], ρ̄/1e6 [mol/cm3] -/
theorem accessorEnv_units (B : Backend α) (D DM : Dict α) (T M rl rlb rg rgb : α)
    (hM : B .state "molar_mass" .none = some M)
    (h1 : B .state "rhomass" (.QT 0 T) = some rl) (h2 : B .state "rhomolar" (.QT 0 T) = some rlb)
    (h3 : B .state "rhomass" (.QT 1 T) = some rg) (h4 : B .state "rhomolar" (.QT 1 T) = some rgb) :
    accessorEnv B D DM T .molarMass = some (1000 * M) ∧
    accessorEnv B D DM T .liquidDensity = some (rl / 1000) ∧
    accessorEnv B D DM T .liquidMolarDensity = some (rlb / 1000000) ∧
    accessorEnv B D DM T .gasDensity = some (rg / 1000) ∧
    accessorEnv B D DM T .gasMolarDensity = some (rgb / 1000000) := by
  refine ⟨?_, ?_, ?_, ?_, ?_⟩
  · simp [accessorEnv, C20.molar_mass_law, Spec.Accessors.molarMass, hM, propValue, liftErr, Except.toOption]
  · simp [accessorEnv, C20.liquid_density_law, Spec.Accessors.liquidDensity, h1, propValue, liftErr, Except.toOption]
  · simp [accessorEnv, C20.liquid_molar_density_law, Spec.Accessors.liquidMolarDensity, h2, propValue, liftErr, Except.toOption]
  · simp [accessorEnv, C20.gas_density_law, Spec.Accessors.gasDensity, h3, propValue, liftErr, Except.toOption]
  · simp [accessorEnv, C20.gas_molar_density_law, Spec.Accessors.gasMolarDensity, h4, propValue, liftErr, Except.toOption]

/-- the hypothesis `Ads.Consistent` of the conversion theorems is delivered by the accessors whenever the backend is
consistent in SI units (kg/m3 = mol/m3 · kg/mol in both saturated phases) — for every temperature -/
theorem accessorEnv_consistent [CharZero α] (B : Backend α) (D DM : Dict α) (T M rl rlb rg rgb : α)
    (hM : B .state "molar_mass" .none = some M)
    (h1 : B .state "rhomass" (.QT 0 T) = some rl) (h2 : B .state "rhomolar" (.QT 0 T) = some rlb)
    (h3 : B .state "rhomass" (.QT 1 T) = some rg) (h4 : B .state "rhomolar" (.QT 1 T) = some rgb)
    (hl : rl = rlb * M) (hg : rg = rgb * M) :
    ∃ a : Spec.Ads α,
      accessorEnv B D DM T .molarMass = some a.M ∧ accessorEnv B D DM T .liquidDensity = some a.rhoL ∧
      accessorEnv B D DM T .liquidMolarDensity = some a.rhoLbar ∧ accessorEnv B D DM T .gasDensity = some a.rhoG ∧
      accessorEnv B D DM T .gasMolarDensity = some a.rhoGbar ∧ a.Consistent := by
  obtain ⟨e1, e2, e3, e4, e5⟩ := accessorEnv_units B D DM T M rl rlb rg rgb hM h1 h2 h3 h4
  refine ⟨⟨1000 * M, rl / 1000, rlb / 1000000, rg / 1000, rgb / 1000000⟩, e1, e2, e3, e4, e5, ?_, ?_⟩
  · show rl / 1000 = rlb / 1000000 * (1000 * M)
    rw [hl]; field_simp; norm_num
  · show rg / 1000 = rgb / 1000000 * (1000 * M)
    rw [hg]; field_simp; norm_num

/-- and `Ads.Pos` (no division by zero in the conversion constants) whenever the backend values are non-zero -/
theorem accessorEnv_pos [CharZero α] (M rl rlb rg rgb : α)
    (hM : M ≠ 0) (h1 : rl ≠ 0) (h2 : rlb ≠ 0) (h3 : rg ≠ 0) (h4 : rgb ≠ 0) :
    (⟨1000 * M, rl / 1000, rlb / 1000000, rg / 1000, rgb / 1000000⟩ : Spec.Ads α).Pos := by
  refine ⟨?_, ?_, ?_, ?_, ?_⟩ <;> simp [*]

/-- the factor `c_pressure` uses, `adsorbate.saturation_pressure(temp, unit=unit)`, is the `c_unit` conversion from Pa of the
value without unit — exactly the term `cUnit pressureUnits ps (some "Pa") unit 1` of the model `cPressure`; it holds on the
backend path and, the backend failing, for a user-supplied saturation pressure -/
theorem saturation_pressure_factor (B : Backend α) (D : Dict α) (T ps : α) (u : String)
    (hps : call G "saturation_pressure" B D { temp := some T } = .ok ps) :
    call G "saturation_pressure" B D { temp := some T, unit := some u } = cUnit Gen.pressureUnits ps (some "Pa") (some u) 1 := by
  rw [C20.unit_honoured, hps]
  rfl

/-- a failing accessor (no backend value and no user value) is a `CalculationError`, which `cPressure` passes on as `.calc` -/
theorem saturation_pressure_missing (B : Backend α) (T : α) (u : Option String)
    (hB : B .state "p" (.QT 0 T) = none) :
    call G "saturation_pressure" B (fun _ => none) { temp := some T, unit := u } = .error .calc := by
  have h0 : call G "saturation_pressure" B (fun _ => none) { temp := some T } = .error .calc := by
    rw [C20.saturation_pressure_law]
    simp [Spec.Accessors.saturationPressure, Spec.Accessors.user, hB, propValue, liftErr]
  cases u with
  | none => exact h0
  | some u => rw [C20.unit_honoured, h0]; rfl

/-- the material quantities are the dictionary values; an absent one is `None` (no exception at the accessor: the conversion
that needs it fails later, finding S16) -/
theorem material_env (B : Backend α) (D DM : Dict α) (T : α) (isAttr : String → Bool) (g : GetPropDesc)
    (d : MatDesc) (hd : d ∈ PgVerif.Gen.Accessors.material) :
    (d.name = "density" → matGet g DM isAttr d.body = .ok (accessorEnv B D DM T .matDensity)) ∧
    (d.name = "molar_mass" → matGet g DM isAttr d.body = .ok (accessorEnv B D DM T .matMolarMass)) :=
  ⟨fun hn => C20.material_density DM isAttr g d hd hn, fun hn => C20.material_molar_mass DM isAttr g d hd hn⟩

/-! ## non-vacuity: the nitrogen-like SI backend of `Props/C20/Accessors.lean` yields the `Ads` record used in `Props/C01.lean` -/

example : accessorEnv C20.exB C20.exD (fun _ => none) 77 .molarMass = some 28 ∧
    accessorEnv C20.exB C20.exD (fun _ => none) 77 .liquidDensity = some (4 / 5) ∧
    accessorEnv C20.exB C20.exD (fun _ => none) 77 .liquidMolarDensity = some (1 / 35) := by decide +kernel

example : (⟨28, 4 / 5, 1 / 35, 21 / 5000, 3 / 20000⟩ : Spec.Ads ℚ).Consistent := by
  constructor <;> norm_num

end PgVerif.C01
