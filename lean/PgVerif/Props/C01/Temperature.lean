/-
C01 — the temperature a request states: "… the adsorbate's saturation pressure, molar mass and densities at the stated temperature".

Model: `Model/UnitsThermo.lean` — the adsorbate is a function `B : Thermo α` of the temperature, every request states its
temperature, `TReq.run B r` uses `B r.temp`.

* The factor is the SI factor for the constants at the stated temperature, whatever the backend delivers at any other
  temperature and whatever was asked before.
* Two temperatures with different saturation pressures give different pressure conversions of every non-zero value: no two
  temperatures may share a factor unless the backend says so.
* Memories keyed on a function of the temperature (`runMemo k`: rounded / truncated / single-precision / formatted
  temperature …): right for every history if the backend does not separate two temperatures with the same key, in particular
  for the exact key; otherwise two consecutive requests — the first one fills the memory, the second one states another
  temperature with the same key — expose it, and for pressure conversions this is an equivalence.
  This is the sequence the harness runs on the real `pygaps.Adsorbate` objects (near-duplicate temperatures, both orders,
  every leaf that reads a constant at T), with constants from CoolProp states of its own at the exact temperatures.
-/
import PgVerif.Props.C01.History
import PgVerif.Model.UnitsThermo

set_option linter.unusedSectionVars false
set_option linter.unusedSimpArgs false
set_option linter.unusedVariables false
set_option linter.unusedDecidableInType false

namespace PgVerif.C01
open PgVerif.Model PgVerif.Units
open PgVerif.Spec (LB MB Ads Mat gL gM PRep LRep MRep TRep physScale fac)

variable {α : Type} [Field α] [CharZero α] [DecidableEq α]

/-- the point a backend delivers when everything can be calculated: saturation pressure `ps` and the constants `a` -/
def pointOf (ps : α) (a : Ads α) : ThermoPoint α :=
  ⟨some ps, some a.rhoG, some a.rhoL, some a.M, some a.rhoGbar, some a.rhoLbar⟩

private theorem pointOf_env (ps : α) (a : Ads α) (mat : Mat α) : (pointOf ps a).env (envOf a mat) = envOf a mat := by
  funext q; cases q <;> rfl

/-! ## The factor is the SI factor for the constants at the stated temperature -/

/-- `c_pressure(…, temp=T)`: the scales are those of the saturation pressure the backend delivers at `T` -/
theorem pressure_at_stated_temperature (B : Thermo α) (T ps v : α) (hT : T ≠ 0) (hB : (B T).psat = some ps) (hps : ps ≠ 0)
    (a b : PRep) (sa sb : α)
    (ha : a.scale Spec.pressureUnits ps = some sa) (hb : b.scale Spec.pressureUnits ps = some sb) :
    (TReq.pressure T v (some a.mode) (some b.mode) a.unit b.unit).run B = .ok (v * sa / sb) := by
  simp only [TReq.run, TReq.runWith, TReq.temp, hB, hT, ne_eq, not_false_eq_true, decide_true]
  exact cPressure_SI ps v hps a b sa sb ha hb

/-- `c_loading(…, temp=T, …)`: the scales are those of the constants the backend delivers at `T` -/
theorem loading_at_stated_temperature (B : Thermo α) (T ps : α) (a : Ads α) (mat : Mat α) (hB : B T = pointOf ps a)
    (hc : a.Consistent) (hp : a.Pos) (v : α) (m : MRep) (r1 r2 : LRep) (s1 s2 : α)
    (h1 : r1.scale Spec.unitTable a m = some s1) (h2 : r2.scale Spec.unitTable a m = some s2) :
    (TReq.loading T (envOf a mat) v (some r1.basis) (some r2.basis) r1.unit r2.unit (some m.b.name) (some m.u)).run B
      = .ok (v * s1 / s2) := by
  simp only [TReq.run, TReq.runWith, TReq.temp, hB, pointOf_env]
  exact cLoading_SI a mat hc hp v m r1 r2 s1 s2 h1 h2

/-- `adsorbate.saturation_pressure(T, unit)` -/
theorem satp_at_stated_temperature (B : Thermo α) (T ps : α) (hB : (B T).psat = some ps) (u : String) (f : α) (hu : u ≠ "")
    (hf : (fac Spec.pressureUnits u : Option α) = some f) :
    (TReq.satp T (some u)).run B = .ok (ps / f) ∧ (TReq.satp T none).run B = .ok ps := by
  simp only [TReq.run, TReq.runWith, TReq.temp, hB]
  exact ⟨satPressure_SI ps u f hu hf, rfl⟩

theorem quantity_at_stated_temperature (B : Thermo α) (T ps : α) (a : Ads α) (hB : B T = pointOf ps a) :
    (TReq.quantity T .gasDensity).run B = .ok a.rhoG ∧ (TReq.quantity T .liquidDensity).run B = .ok a.rhoL ∧
    (TReq.quantity T .gasMolarDensity).run B = .ok a.rhoGbar ∧ (TReq.quantity T .liquidMolarDensity).run B = .ok a.rhoLbar ∧
    (TReq.quantity T .molarMass).run B = .ok a.M := by
  simp [TReq.run, TReq.runWith, TReq.temp, hB, pointOf, ThermoPoint.env, ThermoPoint.qty, evalQty, Gen.Qty.isMaterial]

theorem run_congr (B B' : Thermo α) (r : TReq α) (h : B r.temp = B' r.temp) : r.run B = r.run B' := by
  simp [TReq.run, h]

theorem reply_history_independent_T (B : Thermo α) (pre post : List (TReq α)) (r : TReq α) :
    (runAllT B (pre ++ r :: post))[pre.length]? = some (r.run B) := by
  simp [runAllT]

/-- no temperature (`None` / 0): a change between absolute and a relative mode is refused whatever the backend delivers -/
theorem pressure_refuses_zero_temperature (B : Thermo α) (v : α) (a : PRep) (u o : Option String) (ha : a.mode ≠ "absolute") :
    (TReq.pressure 0 v (some a.mode) (some "absolute") o u).run B = .error .param ∧
    (TReq.pressure 0 v (some "absolute") (some a.mode) u o).run B = .error .param := by
  simp only [TReq.run, TReq.runWith, TReq.temp, ne_eq, not_true_eq_false, decide_false]
  exact cPressure_refuses_no_temperature _ v a u o ha

/-! ## Different saturation pressures, different conversions -/

/-- absolute ↔ relative / relative % of a non-zero value with two different (non-zero) saturation pressures: different
results, in both directions.  (With `v = 0` or on the paths that do not read the saturation pressure the results agree.) -/
theorem pressure_separates_temperatures (ps1 ps2 v : α) (h1 : ps1 ≠ 0) (h2 : ps2 ≠ 0) (hv : v ≠ 0) (hne : ps1 ≠ ps2)
    (u : String) (f : α) (hu : (PRep.abs u).scale Spec.pressureUnits ps1 = some f) (r : PRep) (hr : r.mode ≠ "absolute") :
    cPressure (some ps1) true v (some "absolute") (some r.mode) (some u) r.unit ≠
      cPressure (some ps2) true v (some "absolute") (some r.mode) (some u) r.unit ∧
    cPressure (some ps1) true v (some r.mode) (some "absolute") r.unit (some u) ≠
      cPressure (some ps2) true v (some r.mode) (some "absolute") r.unit (some u) := by
  have hf := PRep.scale_ne_zero ps1 h1 (.abs u) f hu
  -- a relative representation has scale `ps / k`, `k` = 1 or 100
  obtain ⟨k, hk, e⟩ : ∃ k : α, k ≠ 0 ∧ ∀ ps, r.scale Spec.pressureUnits ps = some (ps / k) := by
    cases r with
    | abs x => exact absurd rfl hr
    | rel x => exact ⟨1, one_ne_zero, fun ps => by rw [div_one]; rfl⟩
    | relp x => exact ⟨100, by norm_num, fun ps => rfl⟩
  refine ⟨fun h => hne ?_, fun h => hne ?_⟩
  · have := Except.ok.inj ((cPressure_SI ps1 v h1 (.abs u) r f _ hu (e ps1)).symm.trans
      (h.trans (cPressure_SI ps2 v h2 (.abs u) r f _ hu (e ps2))))
    field_simp at this
    exact this.symm
  · have := Except.ok.inj ((cPressure_SI ps1 v h1 r (.abs u) _ f (e ps1) hu).symm.trans
      (h.trans (cPressure_SI ps2 v h2 r (.abs u) _ f (e ps2) hu)))
    field_simp at this
    exact this

/-! ## Memories keyed on a function of the temperature -/

section memo
variable {κ : Type} [DecidableEq κ]

/-- every entry of the memory is the backend's answer for some temperature (of the set `S`) with that key -/
def MemoryFrom (k : α → κ) (B : Thermo α) (S : α → Prop) (cache : List (κ × ThermoPoint α)) : Prop :=
  ∀ x p, cache.lookup x = some p → ∃ T, S T ∧ k T = x ∧ B T = p

/-- if the backend does not separate two temperatures (of the set `S` the requests come from) that have the
same key, the remembering implementation gives the specified replies for every history, from every memory it can have built -/
theorem memo_sound (k : α → κ) (B : Thermo α) (S : α → Prop)
    (hk : ∀ T1 T2, S T1 → S T2 → k T1 = k T2 → B T1 = B T2)
    (h : List (TReq α)) (hS : ∀ r ∈ h, S r.temp) (cache : List (κ × ThermoPoint α)) (hc : MemoryFrom k B S cache) :
    runMemo k B cache h = runAllT B h := by
  induction h generalizing cache with
  | nil => rfl
  | cons r rs ih =>
    have hr := hS r List.mem_cons_self
    have hrs : ∀ r' ∈ rs, S r'.temp := fun r' h' => hS r' (List.mem_cons_of_mem _ h')
    unfold runMemo
    cases hl : cache.lookup (k r.temp) with
    | some p =>
      obtain ⟨T, hT, hkT, rfl⟩ := hc _ _ hl
      rw [hk T r.temp hT hr hkT]
      exact congrArg _ (ih hrs cache hc)
    | none =>
      refine congrArg _ (ih hrs _ fun x p hx => ?_)
      rw [List.lookup_cons] at hx
      split at hx
      · next heq => exact ⟨r.temp, hr, (eq_of_beq heq).symm, Option.some.inj hx⟩
      · exact hc x p hx

theorem memo_exact_key (B : Thermo α) (h : List (TReq α)) : runMemo (fun T => T) B [] h = runAllT B h :=
  memo_sound (fun T => T) B (fun _ => True) (fun _ _ _ _ e => by rw [e]) h (fun _ _ => trivial) [] fun _ _ => nofun

/-- two consecutive requests are enough: if two requests state temperatures with the same key and the second one's
reply with the first temperature's constants is not its reply with its own, the remembering implementation, started with
an empty memory, answers the history `[r1, r2]` wrongly (and the first reply is right: the defect needs the sequence) -/
theorem memo_two_step_wrong (k : α → κ) (B : Thermo α) (r1 r2 : TReq α) (hkey : k r1.temp = k r2.temp)
    (hdiff : r2.runWith (B r1.temp) ≠ r2.run B) :
    (runMemo k B [] [r1, r2])[0]? = some (r1.run B) ∧
    (runMemo k B [] [r1, r2])[1]? ≠ some (r2.run B) ∧
    runMemo k B [] [r1, r2] ≠ runAllT B [r1, r2] := by
  have e : runMemo k B [] [r1, r2] = [r1.run B, r2.runWith (B r1.temp)] := by
    simp [runMemo, List.lookup, TReq.run, hkey]
  rw [e]
  refine ⟨rfl, by simpa using hdiff, ?_⟩
  simp only [runAllT, List.map_cons, List.map_nil, ne_eq, List.cons.injEq, true_and, and_true]
  exact hdiff

/-- … and a pressure-mode conversion of any non-zero value is such a pair of requests as soon as the backend's saturation
pressures at the two temperatures differ: convert at `T1`, then at `T2` -/
theorem memo_exposed_by_pressure (k : α → κ) (B : Thermo α) (T1 T2 ps1 ps2 v : α) (hT1 : T1 ≠ 0) (hT2 : T2 ≠ 0)
    (hkey : k T1 = k T2) (hB1 : (B T1).psat = some ps1) (hB2 : (B T2).psat = some ps2)
    (h1 : ps1 ≠ 0) (h2 : ps2 ≠ 0) (hne : ps1 ≠ ps2) (hv : v ≠ 0)
    (u : String) (f : α) (hu : (PRep.abs u).scale Spec.pressureUnits ps1 = some f) (r : PRep) (hr : r.mode ≠ "absolute") :
    runMemo k B [] [.pressure T1 v (some "absolute") (some r.mode) (some u) r.unit,
                    .pressure T2 v (some "absolute") (some r.mode) (some u) r.unit]
      ≠ runAllT B [.pressure T1 v (some "absolute") (some r.mode) (some u) r.unit,
                   .pressure T2 v (some "absolute") (some r.mode) (some u) r.unit] := by
  refine (memo_two_step_wrong k B _ _ (by simpa [TReq.temp] using hkey) ?_).2.2
  simp only [TReq.run, TReq.runWith, TReq.temp, hB1, hB2, hT2, ne_eq, not_false_eq_true, decide_true]
  exact (pressure_separates_temperatures ps1 ps2 v h1 h2 hv hne u f hu r hr).1

/-- over a set `S` of non-zero temperatures at which the backend delivers
non-zero saturation pressures, the remembering implementation answers every history of requests stated at temperatures of `S`
like the specification iff two temperatures of `S` with the same key have the same backend answer — as far as the pressure
requests can see it, the same saturation pressure.  Stated for backends whose other constants do not depend on what the key
forgets (`hrest`), so that "same saturation pressure" is "same answer". -/
theorem memo_pressure_correct_iff (k : α → κ) (B : Thermo α) (S : α → Prop)
    (hS0 : ∀ T, S T → T ≠ 0) (hps : ∀ T, S T → ∃ ps, (B T).psat = some ps ∧ ps ≠ 0)
    (hrest : ∀ T1 T2, S T1 → S T2 → k T1 = k T2 → (B T1).psat = (B T2).psat → B T1 = B T2) :
    (∀ h : List (TReq α), (∀ r ∈ h, S r.temp) → runMemo k B [] h = runAllT B h) ↔
    (∀ T1 T2, S T1 → S T2 → k T1 = k T2 → (B T1).psat = (B T2).psat) := by
  constructor
  · intro hall T1 T2 s1 s2 hkey
    by_contra hne
    obtain ⟨ps1, e1, n1⟩ := hps T1 s1
    obtain ⟨ps2, e2, n2⟩ := hps T2 s2
    have hne' : ps1 ≠ ps2 := fun h => hne (by rw [e1, e2, h])
    have hPa : (PRep.abs "Pa").scale Spec.pressureUnits ps1 = some (1 : α) := by
      simp [Spec.PRep.scale, Spec.fac, Spec.pressureUnits, List.lookup]
    refine memo_exposed_by_pressure k B T1 T2 ps1 ps2 1 (hS0 T1 s1) (hS0 T2 s2) hkey e1 e2 n1 n2 hne' one_ne_zero
      "Pa" 1 hPa (.rel none) (by simp [Spec.PRep.mode]) (hall _ ?_)
    intro r hr
    simp only [List.mem_cons, List.not_mem_nil, or_false] at hr
    rcases hr with rfl | rfl <;> simpa [TReq.temp]
  · intro hk h hS
    exact memo_sound k B S (fun T1 T2 s1 s2 e => hrest T1 T2 s1 s2 e (hk T1 T2 s1 s2 e)) h hS [] fun _ _ => nofun

end memo

/-! ## Non-vacuity: a nitrogen-like backend around 77 K, a memory keyed on the temperature rounded to 0.01 K -/

/-- p_sat rises by 120 Pa per 0.001 K around 77.3 K, the liquid gets lighter; consistent constants -/
def exB : Thermo ℚ := fun T =>
  pointOf (100000 + 120000 * (T - 773 / 10)) ⟨28, 4 / 5 - (T - 77) / 250, (4 / 5 - (T - 77) / 250) / 28, 7 / 1000, 1 / 4000⟩

/-- `round(T, 2)` -/
def exKey (T : ℚ) : ℤ := ⌊T * 100 + 1 / 2⌋

/-- 77.344 K and 77.336 K have the same key and different saturation pressures -/
example : exKey (77344 / 1000) = exKey (77336 / 1000) ∧ (exB (77344 / 1000)).psat ≠ (exB (77336 / 1000)).psat := by
  decide +kernel

/-- the specification: 1 bar is p/p0 = 0.9497… at 77.344 K and 0.9588… at 77.336 K, in whatever order they are asked -/
example : runAllT exB [.pressure (77344 / 1000) 1 (some "absolute") (some "relative") (some "bar") none,
                       .pressure (77336 / 1000) 1 (some "absolute") (some "relative") (some "bar") none]
    = [.ok (100000 / 105280), .ok (100000 / 104320)] := by decide +kernel

/-- the memory keyed on the rounded temperature answers the second request with the first temperature's p0 … -/
example : runMemo exKey exB [] [.pressure (77344 / 1000) 1 (some "absolute") (some "relative") (some "bar") none,
                                .pressure (77336 / 1000) 1 (some "absolute") (some "relative") (some "bar") none]
    = [.ok (100000 / 105280), .ok (100000 / 105280)] := by decide +kernel

/-- … the same for the liquid density behind a loading conversion (mmol → cm3 of liquid) -/
example : runMemo exKey exB [] [.loading (77344 / 1000) (fun _ => none) 1 (some "molar") (some "volume_liquid") (some "mmol") (some "cm3") none none,
                                .loading (77336 / 1000) (fun _ => none) 1 (some "molar") (some "volume_liquid") (some "mmol") (some "cm3") none none]
    ≠ runAllT exB [.loading (77344 / 1000) (fun _ => none) 1 (some "molar") (some "volume_liquid") (some "mmol") (some "cm3") none none,
                   .loading (77336 / 1000) (fun _ => none) 1 (some "molar") (some "volume_liquid") (some "mmol") (some "cm3") none none] := by
  decide +kernel

/-- … and is right when the temperatures are further apart than the key's resolution -/
example : runMemo exKey exB [] [.pressure (77344 / 1000) 1 (some "absolute") (some "relative") (some "bar") none,
                                .pressure (77355 / 1000) 1 (some "absolute") (some "relative") (some "bar") none]
    = runAllT exB [.pressure (77344 / 1000) 1 (some "absolute") (some "relative") (some "bar") none,
                   .pressure (77355 / 1000) 1 (some "absolute") (some "relative") (some "bar") none] := by decide +kernel

/-- the hypotheses of `loading_at_stated_temperature` hold for this backend at 77.344 K -/
example : (⟨28, 4 / 5 - (77344 / 1000 - 77) / 250, (4 / 5 - (77344 / 1000 - 77) / 250) / 28, 7 / 1000, 1 / 4000⟩ : Ads ℚ).Consistent ∧
    (⟨28, 4 / 5 - (77344 / 1000 - 77) / 250, (4 / 5 - (77344 / 1000 - 77) / 250) / 28, 7 / 1000, 1 / 4000⟩ : Ads ℚ).Pos := by
  refine ⟨⟨?_, ?_⟩, ?_, ?_, ?_, ?_, ?_⟩ <;> norm_num

/-- a table of two neighbouring temperatures (driver): the lookup is by equality -/
example : (TReq.satp (77336 / 1000) none).run (Thermo.ofTable [(77344 / 1000, exB (77344 / 1000)), (77336 / 1000, exB (77336 / 1000))])
    = .ok (104320 : ℚ) ∧
    (TReq.satp (7734 / 100) none).run (Thermo.ofTable [(77344 / 1000, exB (77344 / 1000)), (77336 / 1000, exB (77336 / 1000))])
    = .error .calc := by decide +kernel

end PgVerif.C01
