/-
C01 — units of another quantity, `saturation_pressure`, `Material` objects, histories of requests: the clauses of the property
that `Props/C01.lean` (one call, one converter) does not state.

* Units of another quantity are unknown units.  The four unit tables are pairwise disjoint, so a
  unit string that is valid for one quantity (`cm3` for a volume, `g` for a mass, `bar` for a pressure,
  `mmol` for an amount) is refused with a parameter error wherever a unit of another quantity is needed —
  in particular on the *same-mode / same-basis* path of `c_pressure`, `c_loading`, `c_material`, the only
  path on which `c_unit` itself does the validation (`Props/C01.lean` has the change-of-basis refusals).
* `Adsorbate.saturation_pressure(T, unit)` is `p_sat[Pa] / Pa-per-unit`, refused for a non-pressure unit.
* `Material` objects.  The converters read density and molar mass through the getters of a
  `pygaps.Material`; for every history of constructor keywords and setter calls that leaves a non-zero density
  and molar mass in the property store, `c_material` multiplies by the SI factor for those two numbers.
* No history.  The reply to a call is a function of that call: whatever was converted before — e.g. the
  same two unit strings in the table in which they are valid — the reply is the same.  Trivial for the model
  (it is a function); the content is the tie: the harness compares the real code with `Req.run` through long
  mixed histories (`harness/props/c01.py`, history oracle).
-/
import PgVerif.Props.C01
import PgVerif.Lemmas.UnitsObj

set_option linter.unusedSectionVars false
set_option linter.unusedSimpArgs false
set_option linter.unusedVariables false

namespace PgVerif.C01
open PgVerif.Model PgVerif.Units
open PgVerif.Spec (LB MB Ads Mat gL gM PRep LRep MRep TRep physScale fac)

variable {α : Type} [Field α] [CharZero α]

/-! ## Units of another quantity -/

/-- by evaluation on the generated tables, that is on the tables as they stand in the source -/
theorem tables_disjoint :
    ∀ t1 ∈ tableNames, ∀ t2 ∈ tableNames, t1 ≠ t2 →
      disjointFrom (Gen.unitTable t1) (Gen.unitTable t2) = true := by decide +kernel

theorem empty_is_no_unit : ∀ t ∈ tableNames, (Gen.unitTable t).lookup "" = none := by decide +kernel

theorem checkUnit_refuses_foreign (tx ty : String) (hx : tx ∈ tableNames) (hy : ty ∈ tableNames) (hxy : tx ≠ ty)
    (a : String) (ha : ((Gen.unitTable tx).lookup a).isSome = true) :
    (checkUnit (Gen.unitTable ty) (some a) : Except Err α) = .error .param :=
  checkUnit_refuses _ _ (.inr (.inr ⟨a, rfl, disjoint_lookup _ _ (tables_disjoint tx hx ty hy hxy) a ha⟩))

theorem cUnit_refuses (t : List (String × Nat × Nat)) (v : α) (uf ut : Option String) (sg : Int)
    (h : (checkUnit t uf : Except Err α) = .error .param ∨ (checkUnit t ut : Except Err α) = .error .param) :
    cUnit t v uf ut sg = .error .param := by
  unfold cUnit
  rcases h with h | h
  · exact bind_refuses (checkUnit_err _ _) fun _ => by rw [h]; rfl
  · rw [h]; rfl

theorem cUnit_refuses_foreign (tx ty : String) (hx : tx ∈ tableNames) (hy : ty ∈ tableNames) (hxy : tx ≠ ty)
    (v : α) (a : String) (ha : ((Gen.unitTable tx).lookup a).isSome = true) (o : Option String) (sg : Int) :
    cUnit (Gen.unitTable ty) v (some a) o sg = .error .param ∧
    cUnit (Gen.unitTable ty) v o (some a) sg = .error .param :=
  ⟨cUnit_refuses _ _ _ _ _ (.inl (checkUnit_refuses_foreign tx ty hx hy hxy a ha)),
   cUnit_refuses _ _ _ _ _ (.inr (checkUnit_refuses_foreign tx ty hx hy hxy a ha))⟩

theorem cPressure_refuses_unit_same (psat : Option α) (t : Bool) (v : α) (uf ut : Option String)
    (hut : truthy ut = true)
    (h : (checkUnit Gen.pressureUnits uf : Except Err α) = .error .param ∨
         (checkUnit Gen.pressureUnits ut : Except Err α) = .error .param) :
    cPressure psat t v (some "absolute") (some "absolute") uf ut = .error .param := by
  rw [cPressure_same psat t v uf ut abs_basis abs_basis, hut, cUnit_refuses _ v uf ut 1 h]
  rfl

theorem cLoading_refuses_unit_same (env : Env α) (v : α) (b : LB) (uf ut bm um : Option String)
    (hut : truthy ut = true) (hne : uf ≠ ut)
    (h : (checkUnit (Gen.unitTable b.table) uf : Except Err α) = .error .param ∨
         (checkUnit (Gen.unitTable b.table) ut : Except Err α) = .error .param) :
    cLoading env v (some b.name) (some b.name) uf ut bm um = .error .param := by
  simp only [cLoading_same env v uf ut bm um (checkBasis_loading b) (checkBasis_loading b), hut, decide_eq_true hne,
    Bool.and_self, ↓reduceIte, cUnit_refuses _ v uf ut 1 h]

theorem cMaterial_refuses_unit_same (env : Env α) (v : α) (b : MB) (uf ut : Option String)
    (hut : truthy ut = true) (hne : uf ≠ ut)
    (h : (checkUnit (Gen.unitTable b.table) uf : Except Err α) = .error .param ∨
         (checkUnit (Gen.unitTable b.table) ut : Except Err α) = .error .param) :
    cMaterial env v (some b.name) (some b.name) uf ut = .error .param := by
  rw [cMaterial_same env v uf ut (checkBasis_material b) (checkBasis_material b), hut, cUnit_refuses _ v uf ut (-1) h,
    decide_eq_true hne]
  rfl

private theorem truthy_of_key (tx : String) (hx : tx ∈ tableNames) (a : String)
    (ha : ((Gen.unitTable tx).lookup a).isSome = true) : truthy (some a) = true :=
  truthy_some fun h => by rw [h, empty_is_no_unit tx hx] at ha; cases ha

private theorem LB.table_mem (b : LB) : b.table ∈ tableNames := by cases b <;> decide
private theorem MB.table_mem (b : MB) : b.table ∈ tableNames := by cases b <;> decide

/-- two units that are valid together for another quantity (the request a cache keyed by the two unit
strings alone would answer with a number): refused by every converter on its unit-change path -/
theorem cPressure_refuses_foreign_units (psat : Option α) (t : Bool) (v : α) (tx : String) (hx : tx ∈ tableNames)
    (hxy : tx ≠ "pressure") (a a' : String) (ha : ((Gen.unitTable tx).lookup a).isSome = true)
    (ha' : ((Gen.unitTable tx).lookup a').isSome = true) :
    cPressure psat t v (some "absolute") (some "absolute") (some a) (some a') = .error .param :=
  cPressure_refuses_unit_same psat t v _ _ (truthy_of_key tx hx a' ha')
    (.inl (checkUnit_refuses_foreign tx "pressure" hx (by decide) hxy a ha))

theorem cLoading_refuses_foreign_units (env : Env α) (v : α) (b : LB) (tx : String) (hx : tx ∈ tableNames)
    (hxy : tx ≠ b.table) (a a' : String) (hne : a ≠ a') (ha : ((Gen.unitTable tx).lookup a).isSome = true)
    (ha' : ((Gen.unitTable tx).lookup a').isSome = true) (bm um : Option String) :
    cLoading env v (some b.name) (some b.name) (some a) (some a') bm um = .error .param :=
  cLoading_refuses_unit_same env v b _ _ bm um (truthy_of_key tx hx a' ha') (by simpa using hne)
    (.inl (checkUnit_refuses_foreign tx b.table hx (LB.table_mem b) hxy a ha))

theorem cMaterial_refuses_foreign_units (env : Env α) (v : α) (b : MB) (tx : String) (hx : tx ∈ tableNames)
    (hxy : tx ≠ b.table) (a a' : String) (hne : a ≠ a') (ha : ((Gen.unitTable tx).lookup a).isSome = true)
    (ha' : ((Gen.unitTable tx).lookup a').isSome = true) :
    cMaterial env v (some b.name) (some b.name) (some a) (some a') = .error .param :=
  cMaterial_refuses_unit_same env v b _ _ (truthy_of_key tx hx a' ha') (by simpa using hne)
    (.inl (checkUnit_refuses_foreign tx b.table hx (MB.table_mem b) hxy a ha))

/-! ## `Adsorbate.saturation_pressure(T, unit)` -/

/-- in a pressure unit: the value in Pa divided by the Pa content of the unit -/
theorem satPressure_SI (ps : α) (u : String) (f : α) (hu : u ≠ "")
    (hf : (fac Spec.pressureUnits u : Option α) = some f) :
    satPressure (some ps) (some u) = .ok (ps / f) := by
  rw [← tables_eq_spec.1] at hf
  simpa [satPressure] using satP ps u f hu hf

theorem satPressure_Pa (ps : α) : satPressure (some ps) none = .ok ps := rfl

theorem satPressure_refuses (ps : α) (u : String)
    (h : (checkUnit Gen.pressureUnits (some u) : Except Err α) = .error .param) :
    satPressure (some ps) (some u) = .error .param :=
  cUnit_refuses Gen.pressureUnits ps (some "Pa") (some u) 1 (.inr h)

/-! ## `Material` objects -/

section material
variable [DecidableEq α]

/-- the setter stores a non-zero value, and only under its own key -/
theorem material_setter_get (ops : List (MatOp α)) (x : α) (hx : x ≠ 0) :
    matDensity (matProps (ops ++ [.set "density" (some x)])) = some x ∧
    matMolarMass (matProps (ops ++ [.set "density" (some x)])) = matMolarMass (matProps ops) ∧
    matMolarMass (matProps (ops ++ [.set "molar_mass" (some x)])) = some x ∧
    matDensity (matProps (ops ++ [.set "molar_mass" (some x)])) = matDensity (matProps ops) := by
  simp [matProps_snoc, matStep, hx, matDensity, matMolarMass, List.lookup]

/-- `if val:` — setting `None` or `0` leaves the store as it is -/
theorem material_setter_falsy (ops : List (MatOp α)) (k : String) :
    matProps (ops ++ [.set k none]) = matProps ops ∧ matProps (ops ++ [.set k (some 0)]) = matProps ops := by
  simp [matProps_snoc, matStep]

theorem material_other_key (ops : List (MatOp α)) (k : String) (x : α) (hk1 : k ≠ "density") (hk2 : k ≠ "molar_mass") :
    matDensity (matProps (ops ++ [.kw k x])) = matDensity (matProps ops) ∧
    matMolarMass (matProps (ops ++ [.kw k x])) = matMolarMass (matProps ops) := by
  have h1 : ("density" == k) = false := by simpa using fun h => hk1 h.symm
  have h2 : ("molar_mass" == k) = false := by simpa using fun h => hk2 h.symm
  simp [matProps_snoc, matStep, matDensity, matMolarMass, List.lookup, h1, h2]

theorem material_get_prop (p : MatProps α) :
    matGetProp p "density" = .ok (matDensity p) ∧ matGetProp p "molar_mass" = .ok (matMolarMass p) := by
  constructor
  · simp only [matGetProp, matDensity]
    cases h : List.lookup "density" p <;> simp
  · simp only [matGetProp, matMolarMass]
    cases h : List.lookup "molar_mass" p <;> simp

/-- whatever history of keywords and setters produced the object,
if its getters return a non-zero density and molar mass, the factor is the SI factor for those two numbers -/
theorem cMaterial_SI_object (ops : List (MatOp α)) (mat : Mat α) (hp : Mat.Pos mat)
    (hd : matDensity (matProps ops) = some mat.density) (hm : matMolarMass (matProps ops) = some mat.molarMass)
    (v : α) (r1 r2 : MRep) (g1 g2 : α)
    (h1 : r1.grams Spec.unitTable mat = some g1) (h2 : r2.grams Spec.unitTable mat = some g2) :
    (Req.materialObj ops v (some r1.b.name) (some r2.b.name) (some r1.u) (some r2.u)).run = .ok (v * g2 / g1) := by
  rw [← unitTable_eq_spec] at h1 h2
  exact cMaterial_spec_env (matEnv (matProps ops)) mat hp hd hm v r1 r2 g1 g2 h1 h2

/-- a material without the needed property is refused (S16: with a `TypeError`, not a parameter error) -/
theorem cMaterial_object_missing_partial (v : α) (um : String)
    (hu : (checkUnit Gen.volumeUnits (some um) : Except Err α) ≠ .error .param) :
    (Req.materialObj ([] : List (MatOp α)) v (some "mass") (some "volume") (some "g") (some um)).run = .error .type := by
  cases h : (checkUnit Gen.volumeUnits (some um) : Except Err α) with
  | error e => exact absurd (by rw [h, checkUnit_err _ _ _ h]) hu
  | ok f =>
    refine (cMaterial_change _ v _ _ (checkBasis_material .mass) (checkBasis_material .volume) (by decide)).trans ?_
    rw [show (checkUnit (Gen.unitTable ((some Spec.MB.volume.table).getD "")) (some um) : Except Err α) = .ok f from h]
    rfl

end material

/-! ## No history -/

section history
variable [DecidableEq α]

theorem reply_history_independent (pre post : List (Req α)) (r : Req α) :
    (runAll (pre ++ r :: post))[pre.length]? = some r.run := by
  simp [runAll]

theorem runAll_append (h1 h2 : List (Req α)) : runAll (h1 ++ h2) = runAll h1 ++ runAll h2 := by
  simp [runAll]

/-- in particular: after *any* history — e.g. one that converted the same two unit strings in the table in
which they are valid — the request against another table is still refused -/
theorem foreign_units_refused_after_any_history (pre : List (Req α)) (tx ty : String) (hx : tx ∈ tableNames)
    (hy : ty ∈ tableNames) (hxy : tx ≠ ty) (v : α) (a a' : String)
    (ha : ((Gen.unitTable tx).lookup a).isSome = true) (sg : Int) :
    (runAll (pre ++ [Req.unit ty v (some a) (some a') sg])).getLast? = some (.error .param) := by
  simp [runAll, Req.run, (cUnit_refuses_foreign tx ty hx hy hxy v a ha (some a') sg).1]

end history

/-! ## Non-vacuity -/

/-- `cm3 → L` is a valid conversion of a gas volume (factor 1/1000) … -/
example : cLoading (fun _ => some (2 : ℚ)) 1 (some "volume_gas") (some "volume_gas") (some "cm3") (some "L") none none
    = .ok (1 / 1000) := by decide +kernel

/-- … and the same two strings are no units of a mass, an amount, a pressure, a material mass -/
example : cLoading (fun _ => some (2 : ℚ)) 1 (some "mass") (some "mass") (some "cm3") (some "L") none none
    = .error .param := by decide +kernel
example : cLoading (fun _ => some (2 : ℚ)) 1 (some "molar") (some "molar") (some "cm3") (some "L") none none
    = .error .param := by decide +kernel
example : cPressure (some (101325 : ℚ)) true 1 (some "absolute") (some "absolute") (some "g") (some "kg")
    = .error .param := by decide +kernel
example : cMaterial (fun _ => some (2 : ℚ)) 1 (some "volume") (some "volume") (some "mmol") (some "mol")
    = .error .param := by decide +kernel
example : "volume" ∈ tableNames ∧ "volume" ≠ LB.mass.table ∧ (Gen.volumeUnits.lookup "cm3").isSome = true := by decide

/-- 1 atm of saturation pressure is 760.002… torr -/
example : satPressure (some (101325 : ℚ)) (some "torr") = .ok (101325 / (66661 / 500)) := by decide +kernel
example : satPressure (some (101325 : ℚ)) (some "g") = .error .param := by decide +kernel

/-- a `Material` built with one density, re-set twice (the falsy value ignored), converts with the last one -/
example : (Req.materialObj [.kw "density" (23 / 10 : ℚ), .set "density" (some 0), .set "density" (some (5 / 2))] 1
    (some "mass") (some "volume") (some "g") (some "cm3")).run = .ok (5 / 2) := by decide +kernel
example : matDensity (matProps [.kw "density" (23 / 10 : ℚ), .kw "molar_mass" 321]) = some (23 / 10) ∧
    matMolarMass (matProps [.kw "density" (23 / 10 : ℚ), .kw "molar_mass" 321]) = some 321 := by decide +kernel

end PgVerif.C01
