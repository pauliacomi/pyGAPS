/-
C02, continued — the combined call `convert(...)` IS the sequence of its single-quantity calls, stopped at the
first refusal; and what a read query sees after any history is the stored data.

`Props/C02.lean` proves `convertAll_refused_prefix` in terms of the three named sub-steps.  Here the same clause
("a refused combined conversion leaves exactly the effect of the steps completed before the refusal") and its
converse ("an accepted combined conversion is the sequence of the single conversions") are stated against an
independent, order-explicit specification that is *exactly what the harness executes on the real code*
(`harness/props/c02.py`, oracle 2c, "the combined call = its single calls"):

  (definitions in `Model/IsoSeq.lean`, executed by the driver next to the real single calls)
  * `subSteps pm pu lb lu mb mu` — the single-quantity calls `convert` issues, in the documented order
    pressure → material → loading, each only if one of its two arguments is truthy;
  * `runUntilRefused c s ops` — apply single calls one after the other, stop at the first refusal and
    propagate it.

Part S proves that the model's `convertAll` equals that specification (`runUntilRefused` of `l1 ++ l2` is `andThen`, of an optional
singleton is `optStep`, both from `Props/C02.lean`), splits any sequence at its first refused call (`runUntilRefused_split`), and
shows that validation is not hoisted: an argument of a later step cannot make the call refuse before the earlier steps have had
their effect.  Part Q gives the interpolator caches their CONTENT (the columns they were built from) and shows that after any
interleaving of conversions and queries a query is answered from the currently stored columns.
-/
import PgVerif.Props.C02
import PgVerif.Model.IsoSeq

set_option linter.unusedSectionVars false
set_option linter.unusedSimpArgs false
set_option linter.unusedVariables false

namespace PgVerif.C02
open PgVerif.Model

variable {α : Type} [Field α]

/-! ## S. `convert(...)` = its single-quantity calls in the documented order, stopped at the first refusal -/

lemma subSteps_single (pm pu lb lu mb mu : Option String) : ∀ op ∈ subSteps pm pu lb lu mb mu, op.isSingle = true := by
  intro op hop
  unfold subSteps at hop
  simp only [List.mem_append] at hop
  rcases hop with (h | h) | h <;> (split at h <;> simp at h; subst h; rfl)

lemma runUntilRefused_cons (c : Ctx α) (s : Iso α) (op : Op) (ops : List Op) :
    runUntilRefused c s (op :: ops) = andThen (step c s op) fun s' => runUntilRefused c s' ops := by
  rcases h : step c s op with ⟨s', o⟩
  cases o <;> simp [runUntilRefused, andThen, h]

lemma andThen_assoc (r : Iso α × Outcome) (k k' : Iso α → Iso α × Outcome) :
    andThen (andThen r k) k' = andThen r fun s => andThen (k s) k' := by
  obtain ⟨s, o⟩ := r
  cases o <;> rfl

lemma runUntilRefused_append (c : Ctx α) (s : Iso α) (l1 l2 : List Op) :
    runUntilRefused c s (l1 ++ l2) = andThen (runUntilRefused c s l1) fun s' => runUntilRefused c s' l2 := by
  induction l1 generalizing s with
  | nil => rfl
  | cons op l1 ih => simp only [List.cons_append, runUntilRefused_cons, andThen_assoc, ih]

lemma runUntilRefused_opt (c : Ctx α) (s : Iso α) (b : Bool) (op : Op) :
    runUntilRefused c s (if b then [op] else []) = optStep b s (step c s op) := by
  cases b
  · rfl
  · rcases h : step c s op with ⟨s', o⟩
    cases o <;> simp [runUntilRefused, optStep, h]

/-- the combined call is its single calls: outcome and resulting state of `convert(...)` are those of the
sequence pressure → material → loading of single-quantity calls, stopped at the first refusal.  Any context, any
state, ANY string arguments. -/
theorem convertAll_eq_singles (c : Ctx α) (s : Iso α) (pm pu lb lu mb mu : Option String) :
    convertAll c s pm pu lb lu mb mu = runUntilRefused c s (subSteps pm pu lb lu mb mu) := by
  simp only [subSteps, runUntilRefused_append, runUntilRefused_opt, andThen_assoc]
  rfl

/-- a sequence of calls is accepted throughout, and then is the plain history, or it splits at its first refused call -/
lemma runUntilRefused_split (c : Ctx α) (s : Iso α) (ops : List Op) :
    (runUntilRefused c s ops = (run c s ops, .ok) ∧
      ∀ done op rest, ops = done ++ op :: rest → (step c (run c s done) op).2 = .ok) ∨
    ∃ done op rest e, ops = done ++ op :: rest ∧ runUntilRefused c s done = (run c s done, .ok) ∧
      (step c (run c s done) op).2 = .err e ∧ runUntilRefused c s ops = step c (run c s done) op := by
  induction ops generalizing s with
  | nil => exact .inl ⟨rfl, fun done op rest h => by simp at h⟩
  | cons op ops ih =>
    rw [runUntilRefused_cons]
    rcases hs : step c s op with ⟨s', o⟩
    cases o with
    | err e => exact .inr ⟨[], op, ops, e, rfl, rfl, congrArg Prod.snd hs, hs.symm⟩
    | ok =>
      have hrun : ∀ l, run c s (op :: l) = run c s' l := fun l => by rw [run_cons, hs]
      rcases ih s' with ⟨h1, h2⟩ | ⟨done, op', rest, e, hsplit, hd, he, hr⟩
      · refine .inl ⟨by rw [hrun]; exact h1, fun done op' rest hd => ?_⟩
        cases done with
        | nil =>
          cases hd
          exact congrArg Prod.snd hs
        | cons d ds =>
          simp only [List.cons_append, List.cons.injEq] at hd
          obtain ⟨rfl, hd⟩ := hd
          rw [hrun]
          exact h2 ds op' rest hd
      · exact .inr ⟨op :: done, op', rest, e, by rw [hsplit]; rfl, by rw [runUntilRefused_cons, hs, hrun]; exact hd,
          by rw [hrun]; exact he, by rw [hrun]; exact hr⟩

theorem runUntilRefused_ok_eq_run (c : Ctx α) (s : Iso α) (ops : List Op)
    (h : (runUntilRefused c s ops).2 = .ok) :
    (runUntilRefused c s ops).1 = run c s ops ∧
      ∀ done op rest, ops = done ++ op :: rest → (step c (run c s done) op).2 = .ok := by
  rcases runUntilRefused_split c s ops with ⟨h1, h2⟩ | ⟨done, op, rest, e, -, -, he, hr⟩
  · exact ⟨by rw [h1], h2⟩
  · rw [hr, he] at h
    cases h

/-- a refused sequence of single-quantity calls leaves exactly the effect of the calls completed before the
refusal: there is a unique split `done ++ op :: rest` with every call of `done` accepted, `op` refused with
the propagated error *and changing nothing*, nothing of `rest` carried out, and the resulting state is the
state after the history `done`. -/
theorem runUntilRefused_refused_prefix (c : Ctx α) (s : Iso α) (ops : List Op) (e : Err)
    (hsingle : ∀ op ∈ ops, op.isSingle = true)
    (h : (runUntilRefused c s ops).2 = .err e) :
    ∃ done op rest, ops = done ++ op :: rest ∧
      runUntilRefused c s done = (run c s done, .ok) ∧
      step c (run c s done) op = (run c s done, .err e) ∧
      (runUntilRefused c s ops).1 = run c s done := by
  rcases runUntilRefused_split c s ops with ⟨h1, -⟩ | ⟨done, op, rest, e', hsplit, hd, he, hr⟩
  · rw [h1] at h
    cases h
  · rw [hr, he] at h
    cases h
    have hop : ∀ pm pu lb lu mb mu, op ≠ .all pm pu lb lu mb mu := by
      rintro pm pu lb lu mb mu rfl
      have := hsingle (.all pm pu lb lu mb mu) (by rw [hsplit]; simp)
      simp [Op.isSingle] at this
    have hun := step_single_refused_unchanged c (run c s done) op hop (refused_of_err he)
    exact ⟨done, op, rest, hsplit, hd, Prod.ext hun he, by rw [hr, hun]⟩

theorem convertAll_ok_eq_sequence (c : Ctx α) (s : Iso α) (pm pu lb lu mb mu : Option String)
    (h : (convertAll c s pm pu lb lu mb mu).2 = .ok) :
    (convertAll c s pm pu lb lu mb mu).1 = run c s (subSteps pm pu lb lu mb mu) ∧
      ∀ done op rest, subSteps pm pu lb lu mb mu = done ++ op :: rest → (step c (run c s done) op).2 = .ok := by
  rw [convertAll_eq_singles] at h ⊢
  exact runUntilRefused_ok_eq_run c s _ h

/-- a refused `convert(...)` leaves exactly the effect of the single conversions completed before the refusal
(in the documented order), the refusing single conversion itself having changed nothing -/
theorem convertAll_refused_eq_completed_steps (c : Ctx α) (s : Iso α) (pm pu lb lu mb mu : Option String) (e : Err)
    (h : (convertAll c s pm pu lb lu mb mu).2 = .err e) :
    ∃ done op rest, subSteps pm pu lb lu mb mu = done ++ op :: rest ∧
      runUntilRefused c s done = (run c s done, .ok) ∧
      step c (run c s done) op = (run c s done, .err e) ∧
      (convertAll c s pm pu lb lu mb mu).1 = run c s done := by
  rw [convertAll_eq_singles] at h ⊢
  exact runUntilRefused_refused_prefix c s _ e (subSteps_single pm pu lb lu mb mu) h

/-- what the material and the loading step never touch: the pressure column and the pressure labels -/
def SamePressure (s s' : Iso α) : Prop :=
  s'.ps = s.ps ∧ s'.lab.pmode = s.lab.pmode ∧ s'.lab.punit = s.lab.punit

lemma SamePressure.refl (s : Iso α) : SamePressure s s := ⟨rfl, rfl, rfl⟩

lemma SamePressure.trans {s s' s'' : Iso α} (h1 : SamePressure s s') (h2 : SamePressure s' s'') : SamePressure s s'' :=
  ⟨h2.1.trans h1.1, h2.2.1.trans h1.2.1, h2.2.2.trans h1.2.2⟩

lemma lCore_samePressure (c : Ctx α) (s : Iso α) (b : String) (u : Option String) :
    SamePressure s (lCore c s b u).1 :=
  lCore_cases (P := fun r => SamePressure s r.1) c s b u (fun _ => .refl s) fun _ _ => ⟨rfl, rfl, rfl⟩

lemma mCore_samePressure (c : Ctx α) (s : Iso α) (b : String) (u : Option String) :
    SamePressure s (mCore c s b u).1 :=
  mCore_cases (P := fun r => SamePressure s r.1) c s b u (fun _ => .refl s) ⟨rfl, rfl, rfl⟩ fun _ _ => ⟨rfl, rfl, rfl⟩

/-- no hoisted validation: the arguments of the material and of the loading step play no role until the
earlier steps have been carried out.  Whatever they are — unknown basis, unit of another table, a target the
adsorbate has no property for — if the pressure step is issued and accepted singly, then its full effect on the
pressure column and the pressure labels is in the state `convert(...)` leaves, accepted or refused. -/
theorem convertAll_no_early_refusal (c : Ctx α) (s : Iso α) (pm pu lb lu mb mu : Option String)
    (hP : (truthy pm || truthy pu) = true) (hok : (convertPressure c s pm pu).2 = .ok) :
    (convertAll c s pm pu lb lu mb mu).1.ps = (convertPressure c s pm pu).1.ps ∧
    (convertAll c s pm pu lb lu mb mu).1.lab.pmode = (convertPressure c s pm pu).1.lab.pmode ∧
    (convertAll c s pm pu lb lu mb mu).1.lab.punit = (convertPressure c s pm pu).1.lab.punit := by
  rw [convertAll_eq, hP]
  rcases hp : convertPressure c s pm pu with ⟨s1, o1⟩
  rw [hp] at hok
  cases hok
  exact andThen_invariant (P := SamePressure s1) (r := optStep _ s1 _)
    (optStep_invariant (.refl s1) (mCore_samePressure c s1 _ _))
    fun s2 h2 => optStep_invariant h2 (h2.trans (lCore_samePressure c s2 _ _))

/-- and likewise for an accepted material step when the loading step is the refusing one: the loading arguments
cannot undo or pre-empt it (the state after `convert` has the material labels of the single material call) -/
theorem convertAll_keeps_material_step (c : Ctx α) (s : Iso α) (pm pu lb lu mb mu : Option String) (e : Err)
    (hPok : (truthy pm || truthy pu) = false ∨ (convertPressure c s pm pu).2 = .ok)
    (hM : (truthy mb || truthy mu) = true)
    (hMok : (convertMaterial c (if truthy pm || truthy pu then (convertPressure c s pm pu).1 else s) mb mu).2 = .ok)
    (h : (convertAll c s pm pu lb lu mb mu).2 = .err e) :
    (convertAll c s pm pu lb lu mb mu).1 =
      (convertMaterial c (if truthy pm || truthy pu then (convertPressure c s pm pu).1 else s) mb mu).1 := by
  have := convertAll_refused_prefix c s pm pu lb lu mb mu e h
  simp only at this
  rcases this with ⟨dP, he, -, -⟩ | ⟨-, -, he, -, -⟩ | ⟨-, -, -, -, -, hres⟩
  · rcases hPok with hf | hk
    · rw [hf] at dP; cases dP
    · rw [hk] at he; cases he
  · rw [he] at hMok; cases hMok
  · rw [hres]; simp [hM]

/-! ### non-vacuity: a combined call whose LOADING basis is unknown, after a pressure step that changes the data -/

section ExampleS

/-- `convert(pressure_unit='kPa', loading_basis='volumetric', loading_unit='cm3')` on the bar / mmol / g isotherm of
`Props/C02.lean`: refused by the loading step (ParameterError), the pressure is in kPa, the loading untouched -/
example : (convertAll exCtx exIso none (some "kPa") (some "volumetric") (some "cm3") none none).2 = .err .param ∧
    (convertAll exCtx exIso none (some "kPa") (some "volumetric") (some "cm3") none none).1.ps = [100, 200] ∧
    (convertAll exCtx exIso none (some "kPa") (some "volumetric") (some "cm3") none none).1.ls = [3, 4] ∧
    (convertAll exCtx exIso none (some "kPa") (some "volumetric") (some "cm3") none none).1.lab =
      ⟨"absolute", some "kPa", "molar", some "mmol", "mass", some "g", some "K"⟩ := by decide +kernel

example : subSteps (none : Option String) (some "kPa") (some "volumetric") (some "cm3") none none =
    [.pressure none (some "kPa"), .loading (some "volumetric") (some "cm3")] := by
  simp [subSteps, truthy]

/-- refused by the MATERIAL step (unknown basis) after an accepted pressure step; the loading step (valid) is not carried out -/
example : (convertAll exCtx exIso (some "relative") none (some "mass") (some "mg") (some "surface") (some "m2")).2 = .err .param ∧
    (convertAll exCtx exIso (some "relative") none (some "mass") (some "mg") (some "surface") (some "m2")).1.lab =
      ⟨"relative", none, "molar", some "mmol", "mass", some "g", some "K"⟩ ∧
    (convertAll exCtx exIso (some "relative") none (some "mass") (some "mg") (some "surface") (some "m2")).1.ls = [3, 4] := by
  decide +kernel

/-- an accepted combined call = the three single calls: kPa, per kg of material, mass basis in mg -/
example : (convertAll exCtx exIso none (some "kPa") (some "mass") (some "mg") none (some "kg")).2 = .ok ∧
    (convertAll exCtx exIso none (some "kPa") (some "mass") (some "mg") none (some "kg")).1.ls = [84000, 112000] ∧
    (convertAll exCtx exIso none (some "kPa") (some "mass") (some "mg") none (some "kg")).1.ps = [100, 200] := by decide +kernel

end ExampleS

/-! ## Q. Queries between conversions are answered from the stored data

`Iso.lcache` / `Iso.pcache` say whether the loading / pressure interpolator slot is occupied.  Here the slots get
their CONTENT: the two columns the interpolator was built from.  A conversion never writes into an interpolator,
it can only drop it (`step` touches the flags only); `loading_at` / `pressure_at` (and `spreading_pressure_at`,
which calls `loading_at`) reuse an occupied slot and fill an empty one from the current columns. -/

structure QIso (α : Type) where
  iso : Iso α
  lsnap : List α × List α      -- (pressure, loading) columns the loading interpolator was built from
  psnap : List α × List α      -- the same for the pressure interpolator

/-- what can happen to a point isotherm between two observations -/
inductive Act
  | conv (op : Op)             -- any conversion call, any arguments, accepted or refused
  | loadingAt                  -- `loading_at` / `spreading_pressure_at`
  | pressureAt                 -- `pressure_at`

/-- the columns a `loading_at` query is answered from -/
def QIso.loadingData (q : QIso α) : List α × List α := if q.iso.lcache then q.lsnap else (q.iso.ps, q.iso.ls)
/-- the columns a `pressure_at` query is answered from -/
def QIso.pressureData (q : QIso α) : List α × List α := if q.iso.pcache then q.psnap else (q.iso.ps, q.iso.ls)

def act (c : Ctx α) (q : QIso α) : Act → QIso α
  | .conv op => { q with iso := (step c q.iso op).1 }
  | .loadingAt => if q.iso.lcache then q else { q with iso := { q.iso with lcache := true }, lsnap := (q.iso.ps, q.iso.ls) }
  | .pressureAt => if q.iso.pcache then q else { q with iso := { q.iso with pcache := true }, psnap := (q.iso.ps, q.iso.ls) }

/-- every occupied slot was built from the columns that are stored now -/
def Coherent (q : QIso α) : Prop :=
  (q.iso.lcache = true → q.lsnap = (q.iso.ps, q.iso.ls)) ∧ (q.iso.pcache = true → q.psnap = (q.iso.ps, q.iso.ls))

/-- a freshly constructed isotherm has empty slots -/
theorem coherent_fresh (s : Iso α) (hl : s.lcache = false) (hp : s.pcache = false) (a b : List α × List α) :
    Coherent ⟨s, a, b⟩ := by
  constructor <;> intro h <;> simp_all

/-- a slot that is still occupied after a call was occupied before, and no column has been rewritten -/
lemma footprint_keeps_slot {s s' : Iso α} (h : Footprint s s') :
    (s'.lcache = true → s.lcache = true ∧ (s.ps, s.ls) = (s'.ps, s'.ls)) ∧
    (s'.pcache = true → s.pcache = true ∧ (s.ps, s.ls) = (s'.ps, s'.ls)) := by
  obtain ⟨-, ⟨ml, mp⟩, ch⟩ := h
  have same : s'.lcache = true ∨ s'.pcache = true → (s.ps, s.ls) = (s'.ps, s'.ls) := fun hne => by
    by_contra hcon
    obtain ⟨a, b⟩ := ch (not_and_or.1 fun ⟨h1, h2⟩ => hcon (by rw [h1, h2]))
    rcases hne with h | h
    · rw [a] at h; cases h
    · rw [b] at h; cases h
  refine ⟨fun h => ⟨?_, same (.inl h)⟩, fun h => ⟨?_, same (.inr h)⟩⟩
  · cases hs : s.lcache with
    | true => rfl
    | false => rw [ml hs] at h; cases h
  · cases hs : s.pcache with
    | true => rfl
    | false => rw [mp hs] at h; cases h

theorem coherent_act (c : Ctx α) (q : QIso α) (a : Act) (h : Coherent q) : Coherent (act c q a) := by
  obtain ⟨hl, hp⟩ := h
  cases a with
  | conv op =>
    obtain ⟨kl, kp⟩ := footprint_keeps_slot (step_footprint c q.iso op)
    exact ⟨fun h' => (hl (kl h').1).trans (kl h').2, fun h' => (hp (kp h').1).trans (kp h').2⟩
  | loadingAt =>
    simp only [act]
    split
    · exact ⟨hl, hp⟩
    · exact ⟨fun _ => rfl, hp⟩
  | pressureAt =>
    simp only [act]
    split
    · exact ⟨hl, hp⟩
    · exact ⟨hl, fun _ => rfl⟩

theorem coherent_history (c : Ctx α) (q : QIso α) (acts : List Act) (h : Coherent q) :
    Coherent (acts.foldl (act c) q) := by
  induction acts generalizing q with
  | nil => exact h
  | cons a as ih => exact ih _ (coherent_act c q a h)

/-- after every history a query is answered from the stored data: whatever conversions and queries came
before, `loading_at` (hence `spreading_pressure_at`) and `pressure_at` read exactly the columns the isotherm
holds now — at a measured point they give the stored datum back, in the current representation. -/
theorem query_reads_stored_data (c : Ctx α) (q : QIso α) (acts : List Act) (h : Coherent q) :
    (acts.foldl (act c) q).loadingData = ((acts.foldl (act c) q).iso.ps, (acts.foldl (act c) q).iso.ls) ∧
    (acts.foldl (act c) q).pressureData = ((acts.foldl (act c) q).iso.ps, (acts.foldl (act c) q).iso.ls) := by
  obtain ⟨hl, hp⟩ := coherent_history c q acts h
  unfold QIso.loadingData QIso.pressureData
  constructor <;> split
  exacts [hl ‹_›, rfl, hp ‹_›, rfl]

section ExampleQ

/-- the theorem has teeth: a conversion that rewrote the pressure column but kept the loading interpolator would
answer the next query from the old column.  (`exIso` has both slots occupied.) -/
example : ¬ Coherent (⟨{ exIso with ps := exIso.ps.map (· * 100) }, (exIso.ps, exIso.ls), (exIso.ps, exIso.ls)⟩ : QIso ℚ) := by
  intro h
  have := h.1 rfl
  revert this
  decide +kernel

/-- query, convert bar → kPa, query again: the second query reads the kPa column -/
example : ((([Act.loadingAt, .conv (.pressure none (some "kPa")), .loadingAt].foldl (act exCtx)
    ⟨{ exIso with lcache := false, pcache := false }, ([], []), ([], [])⟩).loadingData) = ([100, 200], [3, 4])) := by
  decide +kernel

end ExampleQ

end PgVerif.C02
