/-
C02 — spellings of the temperature unit: "the unit labels name exactly that representation … after every call, successful or
refused, the isotherm is still valid (its labels would be accepted by the constructor)".

`convert_temperature` is the one conversion whose argument is not looked up exactly: every string with a `c`/`C` is a spelling of
Celsius (accepted, stored as `°C`).  Nothing of the kind exists for kelvin.  Over Model/IsoState.lean (`convertTemperature`, the
transcription of `BaseIsotherm.convert_temperature` + `c_temperature`, tied to the code by harness/props/c02.py on every near-miss
spelling of `K` and `°C`):

Three statements: a target that is neither exactly `K` nor contains `c`/`C` (`k`, `kelvin`, `degK`, `°K`, ` K`, `F`, …) is refused with
ParameterError and nothing changes; after any call the stored label is still one of the two the constructor accepts; an accepted Celsius
spelling is stored as `°C`, never verbatim.
-/
import PgVerif.Props.C02

set_option linter.unusedSectionVars false
set_option linter.unusedSimpArgs false
set_option linter.unusedVariables false

namespace PgVerif.C02
open PgVerif.Model PgVerif.Units
open PgVerif.Spec (TRep)

variable {α : Type} [Field α]

/-- near-miss spellings of kelvin are impossible targets: refused with ParameterError, nothing changes — from any state
(the current unit, the stored number and the other labels play no role). -/
theorem convertTemperature_refuses_other_spellings (s : Iso α) (y : String) (hK : y ≠ "K") (hc : containsC y = false) :
    (convertTemperature s (some y)).2 = .err .param ∧ (convertTemperature s (some y)).1 = s := by
  have hn : normTemp (some y) = some y := by
    simp [normTemp, hc]
  have h : cTemperature s.temp s.lab.tunit (some y) = .error .param := by
    simp [cTemperature, hn, checkTemp_other_spelling (α := α) y hK hc, bind, Except.bind]
  rw [convertTemperature_of_error h]
  exact ⟨rfl, rfl⟩

/-- the spellings the failing-input search sends meet the two hypotheses of the theorem above -/
example : ∀ y ∈ ["k", "kelvin", "Kelvin", "KELVIN", "degK", "°K", " K", "K ", "Ks", "KK", "F", "R"],
    y ≠ "K" ∧ containsC y = false := by decide

variable [CharZero α]

/-- after any temperature call the label is one the constructor accepts (given it was before): refused calls keep it, accepted
calls store `K` or `°C` — never the caller's spelling. -/
theorem convertTemperature_label_accepted (s : Iso α) (u : Option String)
    (hs : s.lab.tunit = some "K" ∨ s.lab.tunit = some "°C") :
    (convertTemperature s u).1.lab.tunit = some "K" ∨ (convertTemperature s u).1.lab.tunit = some "°C" := by
  cases h : cTemperature s.temp s.lab.tunit u with
  | error e => rw [convertTemperature_of_error h]; exact hs
  | ok x =>
    obtain ⟨t, ht, rfl⟩ := cTemperature_ok_inv _ _ _ _ h
    rw [convertTemperature_of_ok h, normTemp_tLabel t ht]
    cases t
    · left; rfl
    · right; rfl

theorem convertTemperature_celsius_spelling_stored_normalised (s : Iso α) (y : String) (hy : y ≠ "") (hc : containsC y = true)
    (hok : (convertTemperature s (some y)).2 = .ok) :
    (convertTemperature s (some y)).1.lab.tunit = some "°C" := by
  have hn : normTemp (some y) = some "°C" := by
    simp [normTemp, hc, hy]
  cases h : cTemperature s.temp s.lab.tunit (some y) with
  | error e => rw [convertTemperature_of_error h] at hok; cases hok
  | ok x => rw [convertTemperature_of_ok h, hn]

/-- `degC` from a kelvin state is accepted at ℚ and stored as `°C` -/
example :
    let s : Iso ℚ := ⟨⟨"absolute", some "bar", "molar", some "mmol", "mass", some "g", some "K"⟩, [1], [2], 77, false, false⟩
    (convertTemperature s (some "degC")).2 = .ok ∧ (convertTemperature s (some "degC")).1.lab.tunit = some "°C" := by
  decide +kernel

end PgVerif.C02
