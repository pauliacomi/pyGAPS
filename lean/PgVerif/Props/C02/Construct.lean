/-
C02 — "after every call the isotherm is still valid: its labels would be accepted by the constructor".

`Model/IsoState.validLabels` is the predicate the conversion theorems of Props/C02.lean carry through every history; the harness checks the
real objects by handing `to_dict()` back to `BaseIsotherm`.  This file closes the gap between the two: for a label state `l : Labels`
written out as the seven unit entries of `to_dict()`, the constructor model (`Model/Construct.lean`, statement by statement after
`BaseIsotherm.__init__`, running on the generated tables) accepts the dictionary iff `validLabels l`, and stores exactly `l` (with the
pressure unit dropped under a relative mode — which `validLabels` does not look at).
-/
import Mathlib.Tactic
import Mathlib.Algebra.Order.Field.Rat
import PgVerif.Lemmas.ConstructFacts

set_option linter.unusedSimpArgs false

namespace PgVerif.C02
open PgVerif.Model PgVerif.Model.Construct PgVerif.Gen PgVerif.Gen.IsoParams

variable {α : Type}

/-- an optional label as `to_dict()` writes it -/
def optVal (o : Option String) : Val α :=
  match o with
  | some s => .str s
  | none => .none

/-- the seven unit entries of `to_dict()` for a label state -/
def labelArgs (l : Labels) : Args α :=
  [("pressure_mode", .str l.pmode), ("pressure_unit", optVal l.punit), ("material_basis", .str l.mbasis), ("material_unit", optVal l.munit),
   ("loading_basis", .str l.lbasis), ("loading_unit", optVal l.lunit), ("temperature_unit", optVal l.tunit)]

/-- the label state the constructor stores: no pressure unit under a mode that starts with `relative` -/
def forcedLabels (l : Labels) : Labels :=
  { l with punit := if hasPrefix relativePrefix l.pmode then none else l.punit }

lemma strOf_optVal (o : Option String) : strOf (optVal o : Val α) = o := by
  cases o <;> rfl

/-- `validLabels` does not look at the pressure unit of a mode that carries the prefix (`absolute` does not carry it) -/
theorem validLabels_forced (l : Labels) : validLabels (forcedLabels l) = validLabels l := by
  unfold forcedLabels
  by_cases hp : hasPrefix relativePrefix l.pmode = true
  · have hne : l.pmode ≠ "absolute" := by
      intro h
      rw [h] at hp
      revert hp
      decide
    have : (l.pmode != "absolute") = true := by simpa using hne
    simp [validLabels, hp, this]
  · simp [hp]

section
variable [Field α]

omit [Field α] in
lemma prepCall_descr (m a t : Val α) (l : Labels) :
    prepCall ([("material", m), ("adsorbate", a), ("temperature", t)] ++ labelArgs l) = ⟨m, a, t, labelArgs l⟩ := by
  rw [prepCall_eq]
  have hn : (Val.none : Val α).isNone = true := rfl
  simp [labelArgs, List.lookup_cons, pick, hn, List.filter_cons, specialKeys, initParams, shorthands]

omit [Field α] in
lemma effLabels_labelArgs (l : Labels) : effLabels (labelArgs l : Args α) = some (forcedLabels l) := by
  have e (k : String) (v : Val α) (h : (labelArgs l : Args α).lookup k = some v) : eff (labelArgs l : Args α) k = v := by simp [eff, h]
  unfold effLabels
  rw [e "pressure_mode" (.str l.pmode) (by simp [labelArgs, List.lookup_cons]), e "pressure_unit" (optVal l.punit) (by simp [labelArgs, List.lookup_cons]),
    e "loading_basis" (.str l.lbasis) (by simp [labelArgs, List.lookup_cons]), e "loading_unit" (optVal l.lunit) (by simp [labelArgs, List.lookup_cons]),
    e "material_basis" (.str l.mbasis) (by simp [labelArgs, List.lookup_cons]), e "material_unit" (optVal l.munit) (by simp [labelArgs, List.lookup_cons]),
    e "temperature_unit" (optVal l.tunit) (by simp [labelArgs, List.lookup_cons])]
  simp only [strOf_str, strOf_optVal, forcedLabels, forced]
  by_cases hp : hasPrefix relativePrefix l.pmode = true
  · simp [hp, strOf, Val.none]
  · simp [hp, strOf_optVal]

/-- a label state would be accepted by the constructor iff `validLabels` holds of it — for any usable material / adsorbate / temperature
descriptors, in any session; and what the constructor stores is that state (pressure unit dropped under a relative mode) -/
theorem constructor_accepts_iff_validLabels (w : World α) (m a t : Val α) (ads : String) (tv : α) (l : Labels)
    (hm : m.isNone = false) (ha : setAdsorbate w a = .ok ads) (ht : toFloat t = .ok tv) :
    (∃ i, construct w ([("material", m), ("adsorbate", a), ("temperature", t)] ++ labelArgs l) = .ok i ∧ i.lab.labels = forcedLabels l) ↔
      validLabels l = true := by
  have hcall := prepCall_descr m a t l
  have hreq : missingRequired (prepCall ([("material", m), ("adsorbate", a), ("temperature", t)] ++ labelArgs l)) = false := by
    rw [hcall, missingRequired_eq]
    have h2 : a.isNone = false := by
      unfold setAdsorbate at ha
      split at ha <;> simp_all [Val.isNone]
    have h3 : t.isNone = false := by
      unfold toFloat at ht
      split at ht <;> simp_all [Val.isNone]
    simp [hm, h2, h3]
  have key := Construct.construct_accepts_iff_validLabels w ([("material", m), ("adsorbate", a), ("temperature", t)] ++ labelArgs l) ads tv hreq
    (by rw [hcall]; exact ha) (by rw [hcall]; exact ht)
  rw [hcall] at key
  simp only [effLabels_labelArgs, Option.some.injEq] at key
  rw [← validLabels_forced]
  constructor
  · rintro ⟨i, hi, hl⟩
    obtain ⟨L, hL, hv⟩ := key.1 ⟨i, hi, hl.symm⟩
    rw [hL]; exact hv
  · intro hv
    obtain ⟨i, hi, hl⟩ := key.2 ⟨_, rfl, hv⟩
    exact ⟨i, hi, hl.symm⟩

end

/-- a session in which `N2` is an alias of the registered `nitrogen` and no material is registered -/
def w0 : World ℚ := ⟨fun s => if s = "N2" ∨ s = "nitrogen" then some "nitrogen" else none, fun _ => none⟩

/-- non-vacuity: a valid state under a relative mode (its stale pressure unit is dropped), and an invalid one (a °C spelling the table does
not have) that the constructor refuses -/
example : validLabels ⟨"relative%", some "bar", "molar", some "mmol", "mass", some "g", some "K"⟩ = true ∧
    forcedLabels ⟨"relative%", some "bar", "molar", some "mmol", "mass", some "g", some "K"⟩ =
      ⟨"relative%", none, "molar", some "mmol", "mass", some "g", some "K"⟩ ∧
    validLabels ⟨"absolute", some "bar", "molar", some "mmol", "mass", some "g", some "C"⟩ = false ∧
    construct w0 ([("material", .str "M"), ("adsorbate", .str "N2"), ("temperature", .sc (.int 77))] ++
      labelArgs ⟨"absolute", some "bar", "molar", some "mmol", "mass", some "g", some "C"⟩) = .error .param := by decide +kernel

end PgVerif.C02
