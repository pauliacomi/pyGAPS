/-
C18 — the smoothing step of kernel fitting (`bspline` of utilities/math_utilities.py, open curve, degree ≥ 1).

`PgVerif.Model.Kernel.bsplineCurve` is de Boor's recursion on the clamped uniform knot vector built by the code
(`[0]*p ++ arange(n-p+1) ++ [n-p]*p`), evaluated at `linspace(0, n-p, m)`: this is what scipy's `splev` computes (the
harness compares the two on every smoothed fit, exactly at ℚ against the floats of the library).
Theorems: inside a knot span every blending ratio lies in `[0, 1]`, hence (level by level, `blend_mem_Icc`) every curve value stays
between the bounds of the `p+1` active control values.  Consequences for the fit: the smoothed distribution of
a non-negative distribution is non-negative, the smoothed pore widths stay inside the range of the kernel's widths, a
constant control polygon is reproduced, the curve starts at the first control point.
-/
import PgVerif.Model.Kernel
import PgVerif.Props.C18
import Mathlib.Tactic

namespace PgVerif.Props.C18
open PgVerif.Model.Kernel

set_option linter.unusedSectionVars false

variable {α : Type} [Field α] [LinearOrder α] [IsStrictOrderedRing α]

/-! ### the knot vector -/

theorem knot_mono (n p : ℕ) : Monotone (knot (α := α) n p) := by
  intro i j hij
  unfold knot
  exact Nat.cast_le.2 (Nat.sub_le_sub_right (min_le_min_right n (max_le_max_right p hij)) p)

/-- inside the open range the knots are the integers `0, 1, …, n - p` -/
theorem knot_interior (n p k : ℕ) (hp : p ≤ k) (hk : k ≤ n) : knot (α := α) n p k = ((k - p : ℕ) : α) := by
  unfold knot
  have h : min (max k p) n - p = k - p := by omega
  rw [h]

theorem knot_span_pos (n p k : ℕ) (hp : p ≤ k) (hk : k + 1 ≤ n) : knot (α := α) n p k < knot n p (k + 1) := by
  rw [knot_interior n p k hp (by omega), knot_interior n p (k + 1) (by omega) hk]
  exact Nat.cast_lt.2 (by omega)

/-- `numpy.clip(degree, 1, count - 1)` is a valid degree for at least two control points -/
theorem clipDegree_spec (degree count : ℕ) (h : 2 ≤ count) :
    1 ≤ clipDegree degree count ∧ clipDegree degree count + 1 ≤ count := by
  unfold clipDegree
  omega

theorem clipDegree_eq (degree count : ℕ) (h1 : 1 ≤ degree) (h2 : degree + 1 ≤ count) :
    clipDegree degree count = degree := by
  unfold clipDegree
  omega

/-! ### de Boor's recursion stays between the bounds of the active control values -/

section InSpan
/- the query `x` lies in the non-empty knot span `k` of a non-decreasing knot vector, and `lo`, `hi` bound the `p + 1` active control
values `c (k-p) … c k` -/
variable (t c : ℕ → α) (p k : ℕ) (x lo hi : α) (ht : Monotone t)
  (hk : t k ≤ x) (hk1 : x ≤ t (k + 1)) (hlt : t k < t (k + 1)) (hpk : p ≤ k)
  (hc : ∀ j, k - p ≤ j → j ≤ k → lo ≤ c j ∧ c j ≤ hi)
include ht hk hk1 hlt hpk hc

theorem deBoor_mem_Icc : ∀ r, r ≤ p → ∀ j, k - p + r ≤ j → j ≤ k →
    lo ≤ deBoor t c p x r j ∧ deBoor t c p x r j ≤ hi := by
  intro r
  induction r with
  | zero => exact fun _ j h1 h2 => hc j (by omega) h2
  | succ r ih =>
    intro hr j h1 h2
    -- the blending ratio lies in [0, 1] because `t j ≤ t k ≤ x ≤ t (k+1) ≤ t (j+p-r)`
    have h3 : t (k + 1) ≤ t (j + p - r) := ht (by omega)
    have h4 : t j ≤ t k := ht h2
    have hden : 0 < t (j + p - r) - t j := sub_pos.2 (h4.trans_lt (hlt.trans_le h3))
    exact blend_mem_Icc (div_nonneg (sub_nonneg.2 (h4.trans hk)) hden.le)
      ((div_le_one hden).2 (sub_le_sub_right (hk1.trans h3) _))
      (ih (by omega) (j - 1) (by omega) (by omega)) (ih (by omega) j (by omega) h2)

theorem deBoor_value_mem_Icc : lo ≤ deBoor t c p x p k ∧ deBoor t c p x p k ≤ hi :=
  deBoor_mem_Icc t c p k x lo hi ht hk hk1 hlt hpk hc p le_rfl k (by omega) le_rfl

end InSpan

/-- the blending weights sum to one -/
theorem deBoor_const (t c : ℕ → α) (p k : ℕ) (x v : α) (ht : Monotone t)
    (hk : t k ≤ x) (hk1 : x ≤ t (k + 1)) (hlt : t k < t (k + 1)) (hpk : p ≤ k)
    (hc : ∀ j, k - p ≤ j → j ≤ k → c j = v) : deBoor t c p x p k = v := by
  have h := deBoor_value_mem_Icc t c p k x v v ht hk hk1 hlt hpk (fun j h1 h2 => by rw [hc j h1 h2]; exact ⟨le_rfl, le_rfl⟩)
  exact le_antisymm h.2 h.1

/-! ### the span search -/

lemma spanFrom_spec (t : ℕ → α) (x : α) : ∀ (fuel k : ℕ), t k ≤ x → x ≤ t (k + fuel + 1) →
    k ≤ spanFrom t x fuel k ∧ spanFrom t x fuel k ≤ k + fuel ∧
      t (spanFrom t x fuel k) ≤ x ∧ x ≤ t (spanFrom t x fuel k + 1) := by
  intro fuel
  induction fuel with
  | zero => intro k h1 h2; exact ⟨le_rfl, le_rfl, h1, by simpa [spanFrom] using h2⟩
  | succ f ih =>
    intro k h1 h2
    unfold spanFrom
    by_cases hx : x ≤ t (k + 1)
    · rw [if_pos hx]; exact ⟨le_rfl, by omega, h1, hx⟩
    · rw [if_neg hx]
      have h3 : t (k + 1) ≤ x := le_of_lt (not_le.1 hx)
      obtain ⟨a, b, c, d⟩ := ih (k + 1) h3 (by rw [show k + 1 + f + 1 = k + (f + 1) + 1 by omega]; exact h2)
      exact ⟨by omega, by omega, c, d⟩

theorem span_spec (n p : ℕ) (x : α) (hp : p + 1 ≤ n) (h0 : 0 ≤ x) (h1 : x ≤ ((n - p : ℕ) : α)) :
    p ≤ span n p x ∧ span n p x + 1 ≤ n ∧ knot n p (span n p x) ≤ x ∧ x ≤ knot n p (span n p x + 1) ∧
      knot (α := α) n p (span n p x) < knot n p (span n p x + 1) := by
  have hkp : knot (α := α) n p p = 0 := by rw [knot_interior n p p le_rfl (by omega)]; simp
  have hkn : knot (α := α) n p (p + (n - 1 - p) + 1) = ((n - p : ℕ) : α) := by
    rw [show p + (n - 1 - p) + 1 = n by omega, knot_interior n p n (by omega) le_rfl]
  obtain ⟨a, b, c, d⟩ := spanFrom_spec (knot n p) x (n - 1 - p) p (by rw [hkp]; exact h0) (by rw [hkn]; exact h1)
  unfold span
  exact ⟨a, by omega, c, d, knot_span_pos n p _ a (by omega)⟩

theorem query_mem (n p m i : ℕ) (hm : 2 ≤ m) (hi : i + 1 ≤ m) :
    0 ≤ query (α := α) n p m i ∧ query (α := α) n p m i ≤ ((n - p : ℕ) : α) := by
  unfold query
  have hm1 : (0 : α) < ((m - 1 : ℕ) : α) := Nat.cast_pos.2 (by omega)
  have hi1 : (i : α) ≤ ((m - 1 : ℕ) : α) := Nat.cast_le.2 (by omega)
  have hn : (0 : α) ≤ ((n - p : ℕ) : α) := Nat.cast_nonneg _
  have hi0 : (0 : α) ≤ (i : α) := Nat.cast_nonneg _
  -- `(n − p) · i/(m − 1)` with `0 ≤ i/(m − 1) ≤ 1`
  rw [mul_div_assoc]
  exact ⟨mul_nonneg hn (div_nonneg hi0 hm1.le), mul_le_of_le_one_right hn ((div_le_one hm1).2 hi1)⟩

theorem query_ends (n p m : ℕ) (hm : 2 ≤ m) :
    query (α := α) n p m 0 = 0 ∧ query (α := α) n p m (m - 1) = ((n - p : ℕ) : α) := by
  unfold query
  have hm1 : ((m - 1 : ℕ) : α) ≠ 0 := Nat.cast_ne_zero.2 (by omega)
  exact ⟨by rw [Nat.cast_zero, mul_zero, zero_div], mul_div_cancel_right₀ _ hm1⟩

/-! ### the curve of the code -/

theorem bsplineAt_mem_Icc (p : ℕ) (c : List α) (x lo hi : α) (hp : p + 1 ≤ c.length) (h0 : 0 ≤ x)
    (h1 : x ≤ ((c.length - p : ℕ) : α)) (hc : ∀ v ∈ c, lo ≤ v ∧ v ≤ hi) :
    lo ≤ bsplineAt p c x ∧ bsplineAt p c x ≤ hi := by
  obtain ⟨a, b, h3, h4, h5⟩ := span_spec c.length p x hp h0 h1
  unfold bsplineAt
  refine deBoor_value_mem_Icc _ _ p _ x lo hi (knot_mono _ _) h3 h4 h5 a ?_
  intro j _ hj
  have hjl : j < c.length := by omega
  have : c.getD j 0 = c[j] := by simp [List.getD, hjl]
  rw [this]
  exact hc _ (List.getElem_mem hjl)

theorem bsplineCurve_length (degree m : ℕ) (xs ys : List α) : (bsplineCurve degree m xs ys).length = m := by
  simp [bsplineCurve]

/-- smoothing keeps non-negativity, for the curve the code evaluates, any requested degree, any number of samples -/
theorem bsplineCurve_nonneg (degree m : ℕ) (xs ys : List α) (hlen : xs.length = ys.length) (hn : 2 ≤ xs.length)
    (hm : 2 ≤ m) (hy : ∀ v ∈ ys, 0 ≤ v) : ∀ s ∈ bsplineCurve degree m xs ys, 0 ≤ s.2 := by
  intro s hs
  obtain ⟨hd1, hd2⟩ := clipDegree_spec degree xs.length hn
  simp only [bsplineCurve, List.mem_map, List.mem_range] at hs
  obtain ⟨i, hi, rfl⟩ := hs
  obtain ⟨q0, q1⟩ := query_mem (α := α) xs.length (clipDegree degree xs.length) m i hm (by omega)
  -- an upper bound of the control values exists: their sum
  have hub : ∀ v ∈ ys, 0 ≤ v ∧ v ≤ ys.sum := fun v hv => ⟨hy v hv, List.single_le_sum hy v hv⟩
  exact (bsplineAt_mem_Icc _ ys _ 0 ys.sum (by omega) q0 (by rw [← hlen]; exact q1) hub).1

theorem bsplineCurve_widths_mem_Icc (degree m : ℕ) (xs ys : List α) (lo hi : α) (hn : 2 ≤ xs.length) (hm : 2 ≤ m)
    (hx : ∀ w ∈ xs, lo ≤ w ∧ w ≤ hi) : ∀ s ∈ bsplineCurve degree m xs ys, lo ≤ s.1 ∧ s.1 ≤ hi := by
  intro s hs
  obtain ⟨hd1, hd2⟩ := clipDegree_spec degree xs.length hn
  simp only [bsplineCurve, List.mem_map, List.mem_range] at hs
  obtain ⟨i, hi', rfl⟩ := hs
  obtain ⟨q0, q1⟩ := query_mem (α := α) xs.length (clipDegree degree xs.length) m i hm (by omega)
  exact bsplineAt_mem_Icc _ xs _ lo hi (by omega) q0 q1 hx

/-- the fit's case: contributions `x ≥ 0`, strictly increasing positive widths -/
theorem smoothed_distribution_nonneg (degree m : ℕ) (x widths : List α) (hlen : x.length = widths.length)
    (hn : 2 ≤ widths.length) (hm : 2 ≤ m) (hpos : ∀ w ∈ widths, 0 < w) (hinc : widths.Pairwise (· < ·))
    (hfeas : feasible x) : ∀ s ∈ bsplineCurve degree m widths (rawDist x widths), 0 ≤ s.2 :=
  bsplineCurve_nonneg degree m widths _ (by rw [rawDist_length x widths hlen, hlen]) hn hm
    (rawDist_nonneg x widths hpos hinc hfeas)

/-! ### the curve is clamped: it starts at the first and ends at the last control point -/

/-- when the query coincides with the knots `t (k-p+1) … t k` every blending ratio is 0: level `r` is the control
polygon shifted by `r` -/
theorem deBoor_at_left (t c : ℕ → α) (p k : ℕ) (x : α) (hx : ∀ j, k - p < j → j ≤ k → t j = x) :
    ∀ r, r ≤ p → ∀ j, k - p + r ≤ j → j ≤ k → deBoor t c p x r j = c (j - r) := by
  intro r
  induction r with
  | zero => intro _ j _ _; simp [deBoor]
  | succ r ih =>
    intro hr j h1 h2
    simp only [deBoor]
    rw [hx j (by omega) h2, sub_self, zero_div, sub_zero, one_mul, zero_mul, add_zero,
      ih (by omega) (j - 1) (by omega) (by omega)]
    congr 1
    omega

/-- when the query coincides with the knots `t (k+1) … t (k+p)` (and not with `t k`) every blending ratio is 1:
every level is the control polygon -/
theorem deBoor_at_right (t c : ℕ → α) (p k : ℕ) (x : α) (ht : Monotone t) (hlt : t k < x)
    (hx : ∀ j, k < j → j ≤ k + p → t j = x) (hpk : p ≤ k) :
    ∀ r, r ≤ p → ∀ j, k - p + r ≤ j → j ≤ k → deBoor t c p x r j = c j := by
  intro r
  induction r with
  | zero => intro _ j _ _; simp [deBoor]
  | succ r ih =>
    intro hr j h1 h2
    simp only [deBoor]
    have h3 : t (j + p - r) = x := hx _ (by omega) (by omega)
    have hne : x - t j ≠ 0 := (sub_pos.2 ((ht h2).trans_lt hlt)).ne'
    rw [h3, div_self hne, sub_self, zero_mul, zero_add, one_mul, ih (by omega) j (by omega) h2]

lemma spanFrom_stop (t : ℕ → α) (x : α) (fuel k : ℕ) (h : x ≤ t (k + 1)) : spanFrom t x fuel k = k := by
  cases fuel with
  | zero => rfl
  | succ f => simp [spanFrom, h]

lemma spanFrom_run (t : ℕ → α) (x : α) : ∀ (fuel k : ℕ), (∀ k', k ≤ k' → k' < k + fuel → ¬ x ≤ t (k' + 1)) →
    spanFrom t x fuel k = k + fuel := by
  intro fuel
  induction fuel with
  | zero => intro k _; rfl
  | succ f ih =>
    intro k h
    unfold spanFrom
    rw [if_neg (h k le_rfl (by omega)), ih (k + 1) (fun k' h1 h2 => h k' (by omega) (by omega))]
    omega

theorem bsplineAt_zero (p : ℕ) (c : List α) : bsplineAt p c 0 = c.getD 0 0 := by
  have hk : ∀ j, j ≤ p → knot (α := α) c.length p j = 0 := by
    intro j hj
    unfold knot
    rw [max_eq_right hj, Nat.sub_eq_zero_of_le (min_le_left p _), Nat.cast_zero]
  have hs : span (α := α) c.length p 0 = p := by
    unfold span
    exact spanFrom_stop _ _ _ _ (Nat.cast_nonneg _)
  unfold bsplineAt
  rw [hs, deBoor_at_left _ _ p p 0 (fun j _ hj => hk j hj) p le_rfl p (by omega) le_rfl]
  simp

theorem bsplineAt_last (p : ℕ) (c : List α) (hp1 : 1 ≤ p) (hp : p + 1 ≤ c.length) :
    bsplineAt p c ((c.length - p : ℕ) : α) = c.getD (c.length - 1) 0 := by
  have hs : span (α := α) c.length p ((c.length - p : ℕ) : α) = c.length - 1 := by
    unfold span
    rw [spanFrom_run]
    · omega
    · intro k' h1 h2
      rw [knot_interior c.length p (k' + 1) (by omega) (by omega), not_le]
      exact Nat.cast_lt.2 (by omega)
  unfold bsplineAt
  rw [hs]
  refine deBoor_at_right _ _ p (c.length - 1) _ (knot_mono _ _) ?_ ?_ (by omega) p le_rfl _ (by omega) le_rfl
  · rw [knot_interior c.length p (c.length - 1) (by omega) (by omega)]
    exact Nat.cast_lt.2 (by omega)
  · intro j h1 _
    unfold knot
    rw [min_eq_right ((by omega : c.length ≤ j).trans (le_max_left j p))]

/-- the reported pore widths still start at the kernel's smallest and end at its largest width -/
theorem bsplineCurve_ends (degree m : ℕ) (xs ys : List α) (hlen : xs.length = ys.length) (hn : 2 ≤ xs.length)
    (hm : 2 ≤ m) :
    (bsplineCurve degree m xs ys)[0]? = some (xs.getD 0 0, ys.getD 0 0) ∧
      (bsplineCurve degree m xs ys)[m - 1]? = some (xs.getD (xs.length - 1) 0, ys.getD (ys.length - 1) 0) := by
  obtain ⟨hd1, hd2⟩ := clipDegree_spec degree xs.length hn
  obtain ⟨q0, q1⟩ := query_ends (α := α) xs.length (clipDegree degree xs.length) m hm
  unfold bsplineCurve
  constructor
  · rw [List.getElem?_map, List.getElem?_range (by omega)]
    simp only [Option.map_some, q0]
    rw [bsplineAt_zero _ xs, bsplineAt_zero _ ys]
  · rw [List.getElem?_map, List.getElem?_range (by omega)]
    simp only [Option.map_some, q1]
    rw [bsplineAt_last _ xs hd1 hd2]
    have h2 := bsplineAt_last (clipDegree degree xs.length) ys hd1 (by omega)
    rw [← hlen] at h2
    rw [h2, hlen]

/-! ### non-vacuity at ℚ -/

/-- degree 1 is the polygon itself, sampled uniformly in the parameter -/
example : bsplineCurve 1 3 [(1 : ℚ), 2, 4] [0, 3, 1] = [(1, 0), (2, 3), (4, 1)] := by decide +kernel

/-- degree 2 on three control points (one span): the middle sample is `(c₀ + 2 c₁ + c₂) / 4` -/
example : bsplineCurve 2 3 [(1 : ℚ), 2, 4] [0, 3, 1] = [(1, 0), (9 / 4, 7 / 4), (4, 1)] := by decide +kernel

/-- a requested degree 3 on three control points is clipped to 2 -/
example : bsplineCurve 3 3 [(1 : ℚ), 2, 4] [0, 3, 1] = bsplineCurve 2 3 [(1 : ℚ), 2, 4] [0, 3, 1] := by decide +kernel

/-- the hypotheses of `deBoor_value_mem_Icc` are satisfiable (span 2 of 4 control points, degree 2) -/
example : Monotone (knot (α := ℚ) 4 2) ∧ knot (α := ℚ) 4 2 2 ≤ 1 / 2 ∧ (1 / 2 : ℚ) ≤ knot 4 2 3 ∧
    knot (α := ℚ) 4 2 2 < knot 4 2 3 := ⟨knot_mono 4 2, by decide +kernel, by decide +kernel, by decide +kernel⟩

/-- outside its knot span the recursion does leave the range of the control values (the guard is needed):
control values in `[0, 1]`, query 3 evaluated in span 1 -/
example : ¬ (deBoor (knot (α := ℚ) 4 1) (fun i => [(0 : ℚ), 1, 0, 0].getD i 0) 1 3 1 1 ≤ 1) := by decide +kernel

end PgVerif.Props.C18
