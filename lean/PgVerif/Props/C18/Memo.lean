/-
C18 — results kept between calls (`_LOADED` of characterisation/psd_kernel.py: the interpolators of a kernel file are
computed once and looked up by a key afterwards).

The property quantifies over inputs: the answer of a fit is a function of its arguments, whatever was fitted before in
the same process.  `PgVerif.Model.Kernel.memoRun key f tbl history` is the list of answers of a memoised function along
a history of calls.  Theorem `memo_transparent_iff`: the memo answers every history like the plain function iff the
function factors through the key (`key a = key b → f a = f b`).  So a cache is invisible exactly when its key
determines everything the cached value depends on: the path for the loaded kernel (`loaded_cache_transparent`, under the
explicit hypothesis that a path always denotes the same file content), the complete pressure grid for anything
evaluated on a grid (`complete_key_transparent`).  The witnesses (before the last section) show stale answers for keys that drop part
of the argument (file name without directory, length and end points of a grid).  The harness checks the real functions
against this specification with call sequences on related grids, every answer compared with an independent evaluation.
Last section: how the kernel argument is resolved to a file (`resolveKernel`).
-/
import PgVerif.Model.Kernel
import Mathlib.Tactic

namespace PgVerif.Props.C18
open PgVerif.Model.Kernel

set_option linter.unusedSectionVars false

variable {ι κ β : Type} [BEq κ] [LawfulBEq κ]

/-- table invariant: every stored value is the function value of an argument with that key -/
def memoSound (key : ι → κ) (f : ι → β) (tbl : List (κ × β)) : Prop :=
  ∀ kv ∈ tbl, ∃ a, key a = kv.1 ∧ f a = kv.2

lemma lookup_some_mem (tbl : List (κ × β)) (k : κ) (v : β) (h : tbl.lookup k = some v) : (k, v) ∈ tbl := by
  obtain ⟨l₁, l₂, rfl, -⟩ := List.lookup_eq_some_iff.1 h
  exact List.mem_append_right _ List.mem_cons_self

theorem memoSound_nil (key : ι → κ) (f : ι → β) : memoSound key f [] := by
  intro kv h; simp at h

theorem memoStep_spec (key : ι → κ) (f : ι → β) (hfac : ∀ a b, key a = key b → f a = f b)
    (tbl : List (κ × β)) (hs : memoSound key f tbl) (a : ι) :
    (memoStep key f tbl a).1 = f a ∧ memoSound key f (memoStep key f tbl a).2 := by
  unfold memoStep
  cases h : tbl.lookup (key a) with
  | none =>
    refine ⟨rfl, ?_⟩
    intro kv hkv
    rcases List.mem_cons.1 hkv with rfl | hkv
    · exact ⟨a, rfl, rfl⟩
    · exact hs kv hkv
  | some v =>
    obtain ⟨b, hb1, hb2⟩ := hs _ (lookup_some_mem tbl (key a) v h)
    exact ⟨hb2.symm.trans (hfac b a hb1), hs⟩

/-- history independence: a memo whose key determines the value answers every history of calls like the function -/
theorem memoRun_eq_map (key : ι → κ) (f : ι → β) (hfac : ∀ a b, key a = key b → f a = f b) :
    ∀ (history : List ι) (tbl : List (κ × β)), memoSound key f tbl → memoRun key f tbl history = history.map f := by
  intro history
  induction history with
  | nil => intro tbl _; rfl
  | cons a as ih =>
    intro tbl hs
    obtain ⟨h1, h2⟩ := memoStep_spec key f hfac tbl hs a
    simp only [memoRun, List.map_cons]
    rw [h1, ih _ h2]

/-- a key that identifies two arguments with different values gives a stale answer: second call of the history `[a, b]` -/
theorem memoRun_stale (key : ι → κ) (f : ι → β) (a b : ι) (hk : key a = key b) (hf : f a ≠ f b) :
    memoRun key f [] [a, b] = [f a, f a] ∧ memoRun key f [] [a, b] ≠ [a, b].map f := by
  have h : memoRun key f [] [a, b] = [f a, f a] := by
    simp [memoRun, memoStep, List.lookup, hk]
  refine ⟨h, ?_⟩
  rw [h]
  intro he
  simp only [List.map_cons, List.map_nil, List.cons.injEq, and_true, true_and] at he
  exact hf he

theorem memo_transparent_iff (key : ι → κ) (f : ι → β) :
    (∀ history : List ι, memoRun key f [] history = history.map f) ↔ (∀ a b, key a = key b → f a = f b) := by
  constructor
  · intro h a b hk
    by_contra hf
    exact (memoRun_stale key f a b hk hf).2 (h [a, b])
  · intro hfac history
    exact memoRun_eq_map key f hfac history [] (memoSound_nil key f)

theorem complete_key_transparent (key : ι → κ) (f : ι → β) (hinj : Function.Injective key) (history : List ι) :
    memoRun key f [] history = history.map f :=
  memoRun_eq_map key f (fun a b h => by rw [hinj h]) history [] (memoSound_nil key f)

/-- `_LOADED[path]`: the kernel cache is keyed by the path itself.  `load path` = the interpolators built from the
content of the file at `path` (one fixed content per path during the process: that is the hypothesis hidden in `load`
being a function of the path) -/
theorem loaded_cache_transparent {ρ : Type} (load : String → ρ) (history : List String) :
    memoRun (fun p => p) load [] history = history.map load :=
  complete_key_transparent (fun p => p) load (fun _ _ h => h) history

/-- state left behind by a refused call (round 8, C18-m1).  With `f = load : path → Option kernel` (`none` = the file is refused) a table entry under the
key of `a` whose value is not `f a` - the half-filled kernel that a loader publishes before it has finished - is what the next use of `a` is answered with:
the process no longer answers like a fresh one.  (Converse: from a table that is `memoSound` every history is answered by `f`: `memoRun_eq_map`.) -/
theorem memoRun_unsound_entry_visible (key : ι → κ) (f : ι → β) (tbl : List (κ × β)) (a : ι) (v : β)
    (h : tbl.lookup (key a) = some v) (hv : v ≠ f a) : memoRun key f tbl [a] ≠ [f a] := by
  simp [memoRun, memoStep, h, hv]

/-- a kernel file of 77 columns that is refused (`none`), 40 interpolators left registered: the second use is answered with them -/
example : memoRun (fun p : String => p) (fun p => if p = "my-kernel.csv" then (none : Option ℕ) else some 77) [("my-kernel.csv", some 40)] ["my-kernel.csv"]
    = [some 40] := by decide

/-! ### witnesses at concrete types -/

/-- two kernel files with the same file name in different directories, cache keyed by the file name: the second
answer is the first file's kernel -/
example : memoRun (fun p : String × String => p.2) (fun p => p.1 ++ "/" ++ p.2) []
    [("dirA", "kernel.csv"), ("dirB", "kernel.csv")] = ["dirA/kernel.csv", "dirA/kernel.csv"] := by decide

/-- a quantity evaluated on a pressure grid, cache keyed by (length, first, last): another grid with the same length
and end points gets the first grid's values -/
example : memoRun (fun g : List ℕ => (g.length, g.head?, g.getLast?)) (fun g => g.map (· * 10)) []
    [[1, 2, 9], [1, 5, 9]] = [[10, 20, 90], [10, 20, 90]] := by decide

/-- the same history with the complete grid as key -/
example : memoRun (fun g : List ℕ => g) (fun g => g.map (· * 10)) []
    [[1, 2, 9], [1, 5, 9], [1, 2, 9]] = [[10, 20, 90], [10, 50, 90], [10, 20, 90]] := by decide

/-! ### the kernel argument: a registered name, or else the path of the user's file (`KERNELS.get(kernel, kernel)`)

The property quantifies over "the shipped kernel and user-supplied kernel files": an argument that is not a registered NAME denotes the
file at that path.  `resolveKernel key registered arg` looks `key arg` up in the table of registered names.  With the argument itself as
key every unregistered argument is passed on literally (`resolveKernel_id_literal`); with ANY key the user's path is answered by a
shipped file exactly when its key is registered (`resolveKernel_ne_iff`), so a key that forgets part of the argument (file stem, file
name, case-folded name) hands the shipped kernel to a user whose own file is named like it: the fit is then made with other pore widths
and another pressure range.  The harness generates such files (names equal or similar to every shipped kernel's) through both entry points. -/

theorem resolveKernel_literal {ι κ : Type} [BEq κ] (key : ι → κ) (registered : List (κ × ι)) (arg : ι)
    (h : registered.lookup (key arg) = none) : resolveKernel key registered arg = arg := by
  simp [resolveKernel, h]

theorem resolveKernel_registered {ι κ : Type} [BEq κ] (key : ι → κ) (registered : List (κ × ι)) (arg shippedPath : ι)
    (h : registered.lookup (key arg) = some shippedPath) : resolveKernel key registered arg = shippedPath := by
  simp [resolveKernel, h]

/-- the library's resolution (`key = id`): every argument that is not itself a registered name is the user's path, unchanged -/
theorem resolveKernel_id_literal {ι : Type} [BEq ι] (registered : List (ι × ι)) (arg : ι)
    (h : registered.lookup arg = none) : resolveKernel (fun a => a) registered arg = arg :=
  resolveKernel_literal _ registered arg h

/-- shadowing: the user's path is answered by another file iff its key is registered (for a file that is not the shipped one) -/
theorem resolveKernel_ne_iff {ι κ : Type} [BEq κ] (key : ι → κ) (registered : List (κ × ι)) (arg : ι)
    (hne : ∀ p, registered.lookup (key arg) = some p → p ≠ arg) :
    resolveKernel key registered arg ≠ arg ↔ ∃ p, registered.lookup (key arg) = some p := by
  unfold resolveKernel
  cases h : registered.lookup (key arg) with
  | none => simp
  | some p => simpa using hne p h

/-- witness: paths as (directory, stem, extension), the registry keyed by name.  Resolved by the whole argument the user's own file
`work/DFT-N2-77K-carbon-slit.csv` is used; resolved by the stem it is replaced by the shipped file -/
example : resolveKernel (fun p : String × String × String => p) [(("", "DFT-N2-77K-carbon-slit", ""), ("pygaps/data/kernels", "DFT-N2-77K-carbon-slit", ".csv"))]
    ("work", "DFT-N2-77K-carbon-slit", ".csv") = ("work", "DFT-N2-77K-carbon-slit", ".csv") := by decide

example : resolveKernel (fun p : String × String × String => p.2.1) [("DFT-N2-77K-carbon-slit", ("pygaps/data/kernels", "DFT-N2-77K-carbon-slit", ".csv"))]
    ("work", "DFT-N2-77K-carbon-slit", ".csv") = ("pygaps/data/kernels", "DFT-N2-77K-carbon-slit", ".csv") := by decide

/-- the registered name itself still resolves to the shipped file under the library's key -/
example : resolveKernel (fun p : String × String × String => p) [(("", "DFT-N2-77K-carbon-slit", ""), ("pygaps/data/kernels", "DFT-N2-77K-carbon-slit", ".csv"))]
    ("", "DFT-N2-77K-carbon-slit", "") = ("pygaps/data/kernels", "DFT-N2-77K-carbon-slit", ".csv") := by decide

end PgVerif.Props.C18
