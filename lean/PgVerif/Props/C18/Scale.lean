/-
C18 — the specification of kernel fitting is scale covariant; an absolute stopping tolerance is not.

`psd_dft_kernel_fit` minimises `sumSquares K loading ·` over the non-negative vectors.  Multiplying the isotherm by `k > 0`
multiplies the objective at `k · x` by `k²` (`sumSquares_smul`), so the minimisers of `k · loading` are exactly `k ·` the minimisers of
`loading` (`isMinimiser_smul_iff`), and the RELATIVE misfit of `k · x` on `k · loading` is that of `x` on `loading`
(`relative_misfit_smul`): the clause "an exact non-negative combination is reproduced" (`exact_combination` in Props/C18.lean: every
minimiser reproduces it) is the same statement at every magnitude of the weights.

What the code runs is not a minimiser but scipy SLSQP from the start vector 0 with the ABSOLUTE tolerance `ftol = 1e-4` on the
objective.  An acceptance rule of that kind is not scale covariant: `absolute_tolerance_accepts_start` — whenever the sum of squares of
the isotherm is within the tolerance, the start vector 0 (relative misfit 1) is within the tolerance of the minimum; the witnesses at ℚ
show the same isotherm accepted at one scale and rejected at another.  That is the small side of finding S38 (SLSQP with the absolute `ftol = 1e-4`, start 0) and it is INSIDE the property as written ("matches the input to within the optimiser tolerance": the
tolerance is absolute); the harness decides it with an absolute floor.  The large side (weights above 1: SLSQP reports success at a
point whose objective is 10⁵ and more, not within any tolerance of the minimum 0) contradicts `exact_combination` and is recorded as
the known findings S45-C18a / S45-C18b: the hypothesis `IsMinimiser` of `exact_combination` is what the optimiser fails to deliver,
`fit_reproduces_exact_combination_partial` keeps that dependence visible.
-/
import PgVerif.Props.C18

namespace PgVerif.Props.C18
open PgVerif.Model.Kernel

set_option linter.unusedSectionVars false

variable {α : Type} [Field α] [LinearOrder α] [IsStrictOrderedRing α]

lemma zipWith_sub_map_mul (k : α) (a b : List α) :
    List.zipWith (· - ·) (a.map (k * ·)) (b.map (k * ·)) = (List.zipWith (· - ·) a b).map (k * ·) := by
  simp only [List.zipWith_map, List.map_zipWith, mul_sub]

lemma sum_sq_map_mul (k : α) : ∀ l : List α,
    ((l.map (k * ·)).map (fun r => r * r)).sum = k * k * (l.map (fun r => r * r)).sum
  | [] => by simp
  | a :: as => by
    simp only [List.map_cons, List.sum_cons, sum_sq_map_mul k as]
    ring

lemma sum_sq_zero_sub : ∀ l : List α,
    ((List.zipWith (· - ·) (List.replicate l.length (0 : α)) l).map (fun r => r * r)).sum = (l.map (fun r => r * r)).sum
  | [] => by simp
  | a :: as => by
    simp only [List.length_cons, List.replicate_succ, List.zipWith_cons_cons, List.map_cons, List.sum_cons,
      sum_sq_zero_sub as]
    ring

lemma map_mul_inv_cancel {k : α} (hk : k ≠ 0) (l : List α) : (l.map (k⁻¹ * ·)).map (k * ·) = l := by
  simp [mul_inv_cancel₀ hk]

lemma map_inv_mul_cancel {k : α} (hk : k ≠ 0) (l : List α) : (l.map (k * ·)).map (k⁻¹ * ·) = l := by
  simp [inv_mul_cancel₀ hk]

/-! ### the objective and its minimisers under a change of scale -/

theorem sumSquares_smul (m : ℕ) (K : List (List α)) (loading x : List α) (k : α)
    (hK : K ≠ []) (hx : K.length = x.length) (hrows : ∀ row ∈ K, row.length = m) :
    sumSquares K (loading.map (k * ·)) (x.map (k * ·)) = k * k * sumSquares K loading x := by
  unfold sumSquares
  rw [kernelLoading_smul m K x k hK hx hrows, zipWith_sub_map_mul, sum_sq_map_mul]

theorem feasible_smul (x : List α) (k : α) (hk : 0 ≤ k) (hx : feasible x) : feasible (x.map (k * ·)) := by
  intro v hv
  obtain ⟨u, hu, rfl⟩ := List.mem_map.1 hv
  exact mul_nonneg hk (hx u hu)

theorem isMinimiser_smul (m : ℕ) (K : List (List α)) (loading x : List α) (k : α)
    (hK : K ≠ []) (hrows : ∀ row ∈ K, row.length = m) (hk : 0 < k) (h : IsMinimiser K loading x) :
    IsMinimiser K (loading.map (k * ·)) (x.map (k * ·)) := by
  obtain ⟨hf, hx, hmin⟩ := h
  refine ⟨feasible_smul x k hk.le hf, by simpa using hx, ?_⟩
  intro y hy hylen
  have hy' : feasible (y.map (k⁻¹ * ·)) := feasible_smul y k⁻¹ (inv_nonneg.2 hk.le) hy
  have hlen' : K.length = (y.map (k⁻¹ * ·)).length := by simpa using hylen
  have hle := hmin _ hy' hlen'
  calc sumSquares K (loading.map (k * ·)) (x.map (k * ·))
      = k * k * sumSquares K loading x := sumSquares_smul m K loading x k hK hx hrows
    _ ≤ k * k * sumSquares K loading (y.map (k⁻¹ * ·)) := mul_le_mul_of_nonneg_left hle (mul_self_nonneg k)
    _ = sumSquares K (loading.map (k * ·)) ((y.map (k⁻¹ * ·)).map (k * ·)) :=
        (sumSquares_smul m K loading _ k hK hlen' hrows).symm
    _ = sumSquares K (loading.map (k * ·)) y := by rw [map_mul_inv_cancel hk.ne']

/-- scale covariance of the specification: the minimisers for `k · loading` are exactly `k ·` the minimisers for `loading` -/
theorem isMinimiser_smul_iff (m : ℕ) (K : List (List α)) (loading x : List α) (k : α)
    (hK : K ≠ []) (hrows : ∀ row ∈ K, row.length = m) (hk : 0 < k) :
    IsMinimiser K (loading.map (k * ·)) (x.map (k * ·)) ↔ IsMinimiser K loading x := by
  refine ⟨fun h => ?_, isMinimiser_smul m K loading x k hK hrows hk⟩
  have := isMinimiser_smul m K _ _ k⁻¹ hK hrows (inv_pos.2 hk) h
  rwa [map_inv_mul_cancel hk.ne', map_inv_mul_cancel hk.ne'] at this

/-- `List.replicate K.length 0` is the optimiser's start vector -/
theorem sumSquares_start (m : ℕ) (K : List (List α)) (loading : List α)
    (hK : K ≠ []) (hrows : ∀ row ∈ K, row.length = m) (hload : loading.length = m) :
    sumSquares K loading (List.replicate K.length 0) = (loading.map (fun r => r * r)).sum := by
  unfold sumSquares
  rw [kernelLoading_zero m K hK hrows, ← hload, sum_sq_zero_sub]

/-- the relative misfit (objective against the objective of the zero answer) does not see the scale: a solver that delivers a relative
accuracy `c` at one magnitude of the weights delivers it at every magnitude, if it is scale covariant -/
theorem relative_misfit_smul (m : ℕ) (K : List (List α)) (loading x : List α) (k c : α)
    (hK : K ≠ []) (hx : K.length = x.length) (hrows : ∀ row ∈ K, row.length = m) (hk : k ≠ 0) :
    sumSquares K (loading.map (k * ·)) (x.map (k * ·)) ≤ c * sumSquares K (loading.map (k * ·)) (List.replicate K.length 0)
      ↔ sumSquares K loading x ≤ c * sumSquares K loading (List.replicate K.length 0) := by
  have h0 : (List.replicate K.length (0 : α)) = (List.replicate K.length (0 : α)).map (k * ·) := by simp
  have hk2 : 0 < k * k := mul_self_pos.2 hk
  rw [sumSquares_smul m K loading x k hK hx hrows, h0,
    sumSquares_smul m K loading _ k hK (by simp) hrows, ← h0, mul_left_comm c (k * k)]
  exact mul_le_mul_iff_of_pos_left hk2

/-! ### an absolute tolerance is not scale covariant -/

/-- the small side: when the sum of squares of the isotherm is within the (absolute) tolerance, the start vector 0 is within the
tolerance of every other answer, in particular of the minimum: "to within the optimiser tolerance" holds for the zero distribution,
whose relative misfit is 1 -/
theorem absolute_tolerance_accepts_start (m : ℕ) (K : List (List α)) (loading y : List α) (tol : α)
    (hK : K ≠ []) (hrows : ∀ row ∈ K, row.length = m) (hload : loading.length = m)
    (hsmall : (loading.map (fun r => r * r)).sum ≤ tol) :
    sumSquares K loading (List.replicate K.length 0) ≤ sumSquares K loading y + tol := by
  rw [sumSquares_start m K loading hK hrows hload]
  linarith [sumSquares_nonneg K loading y]

/-- the exact-combination clause for the answer of the fit, with the hypothesis that the optimiser does not deliver on the known
findings S38 / S45-C18a / S45-C18b made explicit: IF the returned vector is a minimiser over the feasible set THEN the fitted isotherm is
the input, at every scale `k > 0` of the generating weights.  (Full strength would be: for the vector SLSQP returns.  SLSQP is not
modelled; its answer is not a minimiser for part of the inputs with weights above 1: findings S45-C18a / S45-C18b.) -/
theorem fit_reproduces_exact_combination_partial (m : ℕ) (K : List (List α)) (w x : List α) (k : α)
    (hK : K ≠ []) (hw : K.length = w.length) (hrows : ∀ row ∈ K, row.length = m) (hfeas : feasible w) (hk : 0 < k)
    (hmin : IsMinimiser K (kernelLoading K (w.map (k * ·))) x) :
    kernelLoading K x = (kernelLoading K w).map (k * ·) := by
  have h := (exact_combination m K (kernelLoading K (w.map (k * ·))) (w.map (k * ·)) hK (by simpa using hw) hrows
    (feasible_smul w k hk.le hfeas) rfl).2.2 x hmin
  rw [h, kernelLoading_smul m K w k hK hw hrows]

/-! ### witnesses at ℚ -/

/-- the hypotheses of `isMinimiser_smul` are satisfiable: `[1]` minimises for the isotherm `[1, 2]` of the one-width kernel `[[1, 2]]` -/
example : IsMinimiser [[(1 : ℚ), 2]] [1, 2] [1] := by
  refine ⟨by intro v hv; simp at hv; subst hv; norm_num, rfl, fun y _ _ => ?_⟩
  have : sumSquares [[(1 : ℚ), 2]] [1, 2] [1] = 0 := by norm_num [sumSquares, kernelLoading]
  rw [this]
  exact sumSquares_nonneg _ _ _

/-- an absolute acceptance rule `objective ≤ tol` is not scale covariant: with `tol = 1/10000` the zero answer is accepted for the isotherm
`[1/200, 1/200]` (an exact combination, weight 1/200) and rejected for 1000 × the same isotherm -/
example : sumSquares [[(1 : ℚ), 1]] [1 / 200, 1 / 200] [0] ≤ 1 / 10000 ∧
    ¬ sumSquares [[(1 : ℚ), 1]] ([1 / 200, 1 / 200].map (1000 * ·)) ([0].map (1000 * ·)) ≤ 1 / 10000 := by
  norm_num [sumSquares, kernelLoading]

/-- … although the relative misfit of the zero answer is 1 at both scales (it is as far from the data as the start vector) -/
example : sumSquares [[(1 : ℚ), 1]] [1 / 200, 1 / 200] [0] = 1 * sumSquares [[(1 : ℚ), 1]] [1 / 200, 1 / 200] (List.replicate 1 0) ∧
    sumSquares [[(1 : ℚ), 1]] [5, 5] [0] = 1 * sumSquares [[(1 : ℚ), 1]] [5, 5] (List.replicate 1 0) := by
  norm_num [sumSquares, kernelLoading]

end PgVerif.Props.C18
