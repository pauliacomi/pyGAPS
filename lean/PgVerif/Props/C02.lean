/-
C02 — permanent isotherm conversions stay consistent over any conversion history.

Property theorems about the hand-written executable model `Model/IsoState.lean` of
`PointIsotherm.convert`, `convert_pressure`, `convert_loading`, `convert_material` (core/pointisotherm.py),
`convert_temperature` and the constructor's label checks (core/baseisotherm.py), which is tied to the code
by the driver's correspondence run.  The unit conversions underneath are `Model/Units.lean` over the
*generated* tables; their physical correctness is C01 (`Lemmas/Units.lean`, `Props/C01.lean`) and is reused here.

The model state `Iso α` holds only what a conversion can touch: labels, the pressure and loading columns,
the temperature and the two interpolator-cache flags.  Branch marks, extra data columns and metadata are
NOT part of the model state: no operation of the model can read or write them, which is the model's way of
saying "never altered" (the correspondence run checks that on the Python side).

How the file goes.  A: what any call may do to the state, for any context and any strings — each conversion is a core
(`pCore`/`lCore`/`mCore`: the method after its two argument defaults are resolved) with one case lemma and its branch
equations; `Effect` (footprint, refused ⇒ unchanged) is read off them; `convert(...)` is optional steps chained by `andThen`.
B: typed single steps — from labels that name a representation, a request for a supported target succeeds and multiplies the
column by old scale over new scale (`Conserved`).  C: histories — one invariant (`Tracks`) carried by `run_induction`.
D: arbitrary strings — a call is refused and changes nothing, or is a typed request of B (`step_any_typed`).
Examples over ℚ at the end.
-/
import PgVerif.Props.C01
import PgVerif.Model.IsoState

set_option linter.unusedSectionVars false
set_option linter.unusedSimpArgs false
set_option linter.unusedVariables false
set_option linter.unusedTactic false
set_option linter.unreachableTactic false

namespace PgVerif.C02
open PgVerif.Model PgVerif.Units
open PgVerif.Spec (LB MB Ads Mat gL gM PRep LRep MRep TRep physScale fac)

variable {α : Type} [Field α]

/-! ## A. Structure: refusals, row order, caches (any context, any state, any string arguments) -/

lemma map_mul_one (l : List α) : l.map (· * (1 : α)) = l := by
  simp

lemma map_mul_assoc (l : List α) (f g : α) : l.map (· * f * g) = l.map (· * (f * g)) :=
  List.map_congr_left fun x _ => mul_assoc x f g

lemma map_mul_mul (l : List α) (f g : α) : (l.map (· * f)).map (· * g) = l.map (· * (f * g)) := by
  rw [List.map_map]; exact map_mul_assoc l f g

/-- what one call may do to the state: columns are scaled, caches are only ever cleared, and a change of a
column clears both caches -/
structure Footprint (s s' : Iso α) : Prop where
  scaled : ∃ f g : α, s'.ps = s.ps.map (· * f) ∧ s'.ls = s.ls.map (· * g)
  cachesMono : (s.lcache = false → s'.lcache = false) ∧ (s.pcache = false → s'.pcache = false)
  changed : (s'.ps ≠ s.ps ∨ s'.ls ≠ s.ls) → s'.lcache = false ∧ s'.pcache = false

lemma Footprint.of_same {s s' : Iso α} (hp : s'.ps = s.ps) (hl : s'.ls = s.ls) (hlc : s'.lcache = s.lcache)
    (hpc : s'.pcache = s.pcache) : Footprint s s' :=
  ⟨⟨1, 1, by rw [hp, map_mul_one], by rw [hl, map_mul_one]⟩, ⟨fun h => hlc.trans h, fun h => hpc.trans h⟩,
    fun h => h.elim (absurd hp) (absurd hl)⟩

lemma Footprint.of_rescaled {s s' : Iso α} (f g : α) (hp : s'.ps = s.ps.map (· * f)) (hl : s'.ls = s.ls.map (· * g))
    (hlc : s'.lcache = false) (hpc : s'.pcache = false) : Footprint s s' :=
  ⟨⟨f, g, hp, hl⟩, ⟨fun _ => hlc, fun _ => hpc⟩, fun _ => ⟨hlc, hpc⟩⟩

lemma Footprint.refl (s : Iso α) : Footprint s s := .of_same rfl rfl rfl rfl

lemma Footprint.trans {s s' s'' : Iso α} (h1 : Footprint s s') (h2 : Footprint s' s'') : Footprint s s'' := by
  obtain ⟨⟨f1, g1, hp1, hl1⟩, ⟨ml1, mp1⟩, c1⟩ := h1
  obtain ⟨⟨f2, g2, hp2, hl2⟩, ⟨ml2, mp2⟩, c2⟩ := h2
  refine ⟨⟨f1 * f2, g1 * g2, by rw [hp2, hp1, map_mul_mul], by rw [hl2, hl1, map_mul_mul]⟩,
    ⟨fun h => ml2 (ml1 h), fun h => mp2 (mp1 h)⟩, fun h => ?_⟩
  -- the second call changed a column, or else the first one did
  by_cases h' : s''.ps = s'.ps ∧ s''.ls = s'.ls
  · rw [h'.1, h'.2] at h
    exact ⟨ml2 (c1 h).1, mp2 (c1 h).2⟩
  · exact c2 (not_and_or.1 h')

/-- `convert_pressure` after its two argument defaults have been resolved -/
def pCore (c : Ctx α) (s : Iso α) (mode' : String) (unit' : Option String) : Iso α × Outcome :=
  if mode' = s.lab.pmode ∧ unit' = s.lab.punit then (s, .ok)
  else
    match cPressure c.psat c.tempOk (1 : α) (some s.lab.pmode) (some mode') s.lab.punit unit' with
    | .error _ => (s, .err .calc)
    | .ok f =>
      let pu := if unit' ≠ s.lab.punit ∧ mode' = "absolute" then unit' else none
      ({ s with ps := s.ps.map (· * f), lab := { s.lab with pmode := mode', punit := pu }, lcache := false, pcache := false }, .ok)

def lCore (c : Ctx α) (s : Iso α) (basis' : String) (unit' : Option String) : Iso α × Outcome :=
  if basis' = s.lab.lbasis ∧ unit' = s.lab.lunit then (s, .ok)
  else if isFrac s.lab.lbasis && basis' = s.lab.lbasis then (s, .ok)
  else
    match cLoading c.env (1 : α) (some s.lab.lbasis) (some basis') s.lab.lunit unit' (some s.lab.mbasis) s.lab.munit with
    | .error e => (s, .err e)
    | .ok f =>
      let lu := if isFrac basis' then none else unit'
      ({ s with ls := s.ls.map (· * f), lab := { s.lab with lbasis := basis', lunit := lu }, lcache := false, pcache := false }, .ok)

def mCore (c : Ctx α) (s : Iso α) (basis' : String) (unit' : Option String) : Iso α × Outcome :=
  if basis' = s.lab.mbasis ∧ unit' = s.lab.munit then (s, .ok)
  else if isFrac s.lab.lbasis && basis' = s.lab.mbasis then
    match cMaterial c.env (1 : α) (some s.lab.mbasis) (some basis') s.lab.munit unit' with
    | .error e => (s, .err e)
    | .ok _ => ({ s with lab := { s.lab with munit := unit' } }, .ok)
  else
    match cMaterial c.env (1 : α) (some s.lab.mbasis) (some basis') s.lab.munit unit' with
    | .error e => (s, .err e)
    | .ok f1 =>
      let r2 : Except Err α :=
        if isFrac s.lab.lbasis then
          cLoading c.env (1 : α) (some (volLiq s.lab.mbasis)) (some (volLiq basis')) s.lab.munit unit' none none
        else .ok 1
      match r2 with
      | .error e => (s, .err e)
      | .ok f2 =>
        ({ s with ls := s.ls.map (· * f1 * f2), lab := { s.lab with mbasis := basis', munit := unit' },
                  lcache := false, pcache := false }, .ok)

/-- the resolved second argument: an omitted (falsy) unit keeps the current one only if the mode/basis stays -/
def unitArg (u : Option String) (same : Bool) (cur : Option String) : Option String :=
  if !truthy u && same then cur else u

lemma convertPressure_core (c : Ctx α) (s : Iso α) (m u : Option String) :
    convertPressure c s m u =
      pCore c s (orCurrent m s.lab.pmode) (unitArg u (orCurrent m s.lab.pmode = s.lab.pmode) s.lab.punit) := by
  unfold convertPressure pCore unitArg; rfl

lemma convertLoading_core (c : Ctx α) (s : Iso α) (b u : Option String) :
    convertLoading c s b u =
      lCore c s (orCurrent b s.lab.lbasis) (unitArg u (orCurrent b s.lab.lbasis = s.lab.lbasis) s.lab.lunit) := by
  unfold convertLoading lCore unitArg; rfl

lemma convertMaterial_core (c : Ctx α) (s : Iso α) (b u : Option String) :
    convertMaterial c s b u =
      mCore c s (orCurrent b s.lab.mbasis) (unitArg u (orCurrent b s.lab.mbasis = s.lab.mbasis) s.lab.munit) := by
  unfold convertMaterial mCore unitArg; rfl

lemma unitArg_eq_self {u : Option String} {same : Bool} {cur : Option String}
    (h : truthy u = true ∨ (same = true → cur = u)) : unitArg u same cur = u := by
  unfold unitArg
  split
  · rename_i hc
    simp only [Bool.and_eq_true, Bool.not_eq_true'] at hc
    rcases h with h | h
    · rw [h] at hc; cases hc.1
    · exact h hc.2
  · rfl

/-! ### the results a core can give

Each core returns the state as it was (early return or refusal, whatever the outcome) or — accepted — one of a few
shapes of new state.  Every structural fact below is read off these case lemmas, one term per shape. -/

lemma pCore_cases {P : Iso α × Outcome → Prop} (c : Ctx α) (s : Iso α) (m : String) (u : Option String)
    (kept : ∀ o, P (s, o))
    (conv : ∀ f pu, P ({ s with ps := s.ps.map (· * f), lab := { s.lab with pmode := m, punit := pu },
                                 lcache := false, pcache := false }, .ok)) :
    P (pCore c s m u) := by
  unfold pCore
  split
  · exact kept _
  · split
    · exact kept _
    · exact conv _ _

lemma lCore_cases {P : Iso α × Outcome → Prop} (c : Ctx α) (s : Iso α) (b : String) (u : Option String)
    (kept : ∀ o, P (s, o))
    (conv : ∀ f lu, P ({ s with ls := s.ls.map (· * f), lab := { s.lab with lbasis := b, lunit := lu },
                                 lcache := false, pcache := false }, .ok)) :
    P (lCore c s b u) := by
  unfold lCore
  split
  · exact kept _
  · split
    · exact kept _
    · split
      · exact kept _
      · exact conv _ _

/-- `relabel` is the "virtual" material-unit change under a fraction / percent loading -/
lemma mCore_cases {P : Iso α × Outcome → Prop} (c : Ctx α) (s : Iso α) (b : String) (u : Option String)
    (kept : ∀ o, P (s, o))
    (relabel : P ({ s with lab := { s.lab with munit := u } }, .ok))
    (conv : ∀ f1 f2, P ({ s with ls := s.ls.map (· * f1 * f2), lab := { s.lab with mbasis := b, munit := u },
                                  lcache := false, pcache := false }, .ok)) :
    P (mCore c s b u) := by
  unfold mCore
  split
  · exact kept _
  · split
    · split
      · exact kept _
      · exact relabel
    · split
      · exact kept _
      · simp only
        split
        · exact kept _
        · exact conv _ _

/-! the same, branch by branch, as equations: which condition gives which result -/

section Branches
variable {c : Ctx α} {s : Iso α} {m b : String} {u : Option String}

lemma pCore_same (h : m = s.lab.pmode ∧ u = s.lab.punit) : pCore c s m u = (s, .ok) := by
  simp [pCore, h]

lemma pCore_of_ok {f : α}
    (hne : ¬(m = s.lab.pmode ∧ u = s.lab.punit))
    (he : cPressure c.psat c.tempOk (1 : α) (some s.lab.pmode) (some m) s.lab.punit u = .ok f) :
    pCore c s m u =
      ({ s with ps := s.ps.map (· * f), lcache := false, pcache := false,
                lab := { s.lab with pmode := m, punit := if u ≠ s.lab.punit ∧ m = "absolute" then u else none } },
        .ok) := by
  simp [pCore, hne, he]

lemma pCore_of_error {e : Err}
    (hne : ¬(m = s.lab.pmode ∧ u = s.lab.punit))
    (he : cPressure c.psat c.tempOk (1 : α) (some s.lab.pmode) (some m) s.lab.punit u = .error e) :
    pCore c s m u = (s, .err .calc) := by
  simp [pCore, hne, he]

lemma lCore_same (h : b = s.lab.lbasis ∧ u = s.lab.lunit) : lCore c s b u = (s, .ok) := by
  simp [lCore, h]

/-- the second early return: under a fraction / percent loading an unchanged basis means "no loading units in this mode" -/
lemma lCore_frac_same (hne : ¬(b = s.lab.lbasis ∧ u = s.lab.lunit))
    (h2 : (isFrac s.lab.lbasis && decide (b = s.lab.lbasis)) = true) : lCore c s b u = (s, .ok) := by
  simp only [lCore, hne, if_false, h2, if_true]

lemma lCore_of_ok {f : α}
    (hne : ¬(b = s.lab.lbasis ∧ u = s.lab.lunit)) (hne2 : ¬((isFrac s.lab.lbasis && decide (b = s.lab.lbasis)) = true))
    (he : cLoading c.env (1 : α) (some s.lab.lbasis) (some b) s.lab.lunit u (some s.lab.mbasis) s.lab.munit = .ok f) :
    lCore c s b u =
      ({ s with ls := s.ls.map (· * f), lcache := false, pcache := false,
                lab := { s.lab with lbasis := b, lunit := if isFrac b then none else u } }, .ok) := by
  simp [lCore, hne, hne2, he]

lemma lCore_of_error {e : Err}
    (hne : ¬(b = s.lab.lbasis ∧ u = s.lab.lunit)) (hne2 : ¬((isFrac s.lab.lbasis && decide (b = s.lab.lbasis)) = true))
    (he : cLoading c.env (1 : α) (some s.lab.lbasis) (some b) s.lab.lunit u (some s.lab.mbasis) s.lab.munit = .error e) :
    lCore c s b u = (s, .err e) := by
  simp [lCore, hne, hne2, he]

lemma mCore_same (h : b = s.lab.mbasis ∧ u = s.lab.munit) : mCore c s b u = (s, .ok) := by
  simp [mCore, h]

lemma mCore_virtual {f : α}
    (hne : ¬(b = s.lab.mbasis ∧ u = s.lab.munit)) (hv : (isFrac s.lab.lbasis && decide (b = s.lab.mbasis)) = true)
    (he : cMaterial c.env (1 : α) (some s.lab.mbasis) (some b) s.lab.munit u = .ok f) :
    mCore c s b u = ({ s with lab := { s.lab with munit := u } }, .ok) := by
  simp only [mCore, hne, hv, he, if_false, if_true]

lemma mCore_of_ok {f1 f2 : α}
    (hne : ¬(b = s.lab.mbasis ∧ u = s.lab.munit)) (hv : ¬(isFrac s.lab.lbasis && decide (b = s.lab.mbasis)) = true)
    (h1 : cMaterial c.env (1 : α) (some s.lab.mbasis) (some b) s.lab.munit u = .ok f1)
    (h2 : (if isFrac s.lab.lbasis then
            cLoading c.env (1 : α) (some (volLiq s.lab.mbasis)) (some (volLiq b)) s.lab.munit u none none
          else .ok 1) = .ok f2) :
    mCore c s b u = ({ s with ls := s.ls.map (· * f1 * f2), lab := { s.lab with mbasis := b, munit := u },
                              lcache := false, pcache := false }, .ok) := by
  simp only [mCore, hne, hv, h1, h2, if_false, Bool.false_eq_true]

lemma mCore_of_error {e : Err}
    (hne : ¬(b = s.lab.mbasis ∧ u = s.lab.munit))
    (he : cMaterial c.env (1 : α) (some s.lab.mbasis) (some b) s.lab.munit u = .error e) :
    mCore c s b u = (s, .err e) := by
  unfold mCore
  simp only [hne, if_false, he]
  split <;> rfl

end Branches

/-- what a single-quantity call does: its footprint, and nothing at all when it is refused -/
structure Effect (s : Iso α) (r : Iso α × Outcome) : Prop where
  footprint : Footprint s r.1
  refused : r.2 ≠ .ok → r.1 = s

lemma Effect.kept (s : Iso α) (o : Outcome) : Effect s (s, o) := ⟨.refl s, fun _ => rfl⟩

lemma Effect.accepted {s s' : Iso α} (h : Footprint s s') : Effect s (s', .ok) := ⟨h, fun h => absurd rfl h⟩

lemma pCore_effect (c : Ctx α) (s : Iso α) (m : String) (u : Option String) : Effect s (pCore c s m u) :=
  pCore_cases (P := Effect s) c s m u (.kept s) fun f _ =>
    .accepted (.of_rescaled f 1 rfl (map_mul_one _).symm rfl rfl)

lemma lCore_effect (c : Ctx α) (s : Iso α) (b : String) (u : Option String) : Effect s (lCore c s b u) :=
  lCore_cases (P := Effect s) c s b u (.kept s) fun f _ =>
    .accepted (.of_rescaled 1 f (map_mul_one _).symm rfl rfl rfl)

lemma mCore_effect (c : Ctx α) (s : Iso α) (b : String) (u : Option String) : Effect s (mCore c s b u) :=
  mCore_cases (P := Effect s) c s b u (.kept s) (.accepted (.of_same rfl rfl rfl rfl)) fun f1 f2 =>
    .accepted (.of_rescaled 1 (f1 * f2) (map_mul_one _).symm (map_mul_assoc _ _ _) rfl rfl)

lemma convertPressure_effect (c : Ctx α) (s : Iso α) (m u : Option String) : Effect s (convertPressure c s m u) := by
  rw [convertPressure_core]; exact pCore_effect ..

lemma convertLoading_effect (c : Ctx α) (s : Iso α) (b u : Option String) : Effect s (convertLoading c s b u) := by
  rw [convertLoading_core]; exact lCore_effect ..

lemma convertMaterial_effect (c : Ctx α) (s : Iso α) (b u : Option String) : Effect s (convertMaterial c s b u) := by
  rw [convertMaterial_core]; exact mCore_effect ..

lemma convertTemperature_of_error {s : Iso α} {u : Option String} {e : Err}
    (h : cTemperature s.temp s.lab.tunit u = .error e) : convertTemperature s u = (s, .err e) := by
  simp only [convertTemperature, h]

lemma convertTemperature_of_ok {s : Iso α} {u : Option String} {t : α}
    (h : cTemperature s.temp s.lab.tunit u = .ok t) :
    convertTemperature s u = ({ s with temp := t, lab := { s.lab with tunit := normTemp u } }, .ok) := by
  simp only [convertTemperature, h]

lemma convertTemperature_effect (s : Iso α) (u : Option String) : Effect s (convertTemperature s u) := by
  cases h : cTemperature s.temp s.lab.tunit u with
  | error e => rw [convertTemperature_of_error h]; exact .kept s _
  | ok t => rw [convertTemperature_of_ok h]; exact .accepted (.of_same rfl rfl rfl rfl)

lemma step_single_effect (c : Ctx α) (s : Iso α) (op : Op)
    (hop : ∀ pm pu lb lu mb mu, op ≠ .all pm pu lb lu mb mu) : Effect s (step c s op) := by
  cases op with
  | pressure m u => exact convertPressure_effect c s m u
  | loading b u => exact convertLoading_effect c s b u
  | material b u => exact convertMaterial_effect c s b u
  | temperature u => exact convertTemperature_effect s u
  | all pm pu lb lu mb mu => exact absurd rfl (hop pm pu lb lu mb mu)

theorem convertPressure_refused_unchanged (c : Ctx α) (s : Iso α) (a b : Option String)
    (h : (convertPressure c s a b).2 ≠ .ok) : (convertPressure c s a b).1 = s :=
  (convertPressure_effect c s a b).refused h

theorem convertLoading_refused_unchanged (c : Ctx α) (s : Iso α) (a b : Option String)
    (h : (convertLoading c s a b).2 ≠ .ok) : (convertLoading c s a b).1 = s :=
  (convertLoading_effect c s a b).refused h

theorem convertMaterial_refused_unchanged (c : Ctx α) (s : Iso α) (a b : Option String)
    (h : (convertMaterial c s a b).2 ≠ .ok) : (convertMaterial c s a b).1 = s :=
  (convertMaterial_effect c s a b).refused h

theorem convertTemperature_refused_unchanged (s : Iso α) (u : Option String)
    (h : (convertTemperature s u).2 ≠ .ok) : (convertTemperature s u).1 = s :=
  (convertTemperature_effect s u).refused h

theorem step_single_refused_unchanged (c : Ctx α) (s : Iso α) (op : Op)
    (hop : ∀ pm pu lb lu mb mu, op ≠ .all pm pu lb lu mb mu)
    (h : (step c s op).2 ≠ .ok) : (step c s op).1 = s :=
  (step_single_effect c s op hop).refused h

lemma refused_of_err {o : Outcome} {e : Err} (h : o = .err e) : o ≠ .ok := by
  rintro rfl
  cases h

def optStep (b : Bool) (s : Iso α) (r : Iso α × Outcome) : Iso α × Outcome := if b then r else (s, .ok)

def andThen (r : Iso α × Outcome) (k : Iso α → Iso α × Outcome) : Iso α × Outcome :=
  match r with
  | (s1, .err e) => (s1, .err e)
  | (s1, .ok) => k s1

lemma convertAll_eq (c : Ctx α) (s : Iso α) (pm pu lb lu mb mu : Option String) :
    convertAll c s pm pu lb lu mb mu =
      andThen (optStep (truthy pm || truthy pu) s (convertPressure c s pm pu)) fun s1 =>
      andThen (optStep (truthy mb || truthy mu) s1 (convertMaterial c s1 mb mu)) fun s2 =>
      optStep (truthy lb || truthy lu) s2 (convertLoading c s2 lb lu) := rfl

lemma optStep_fst (b : Bool) (s : Iso α) (r : Iso α × Outcome) : (optStep b s r).1 = if b then r.1 else s := by
  cases b <;> rfl

lemma optStep_ok {b : Bool} {s : Iso α} {r : Iso α × Outcome} (h : (optStep b s r).2 = .ok) : b = false ∨ r.2 = .ok := by
  cases b
  · exact .inl rfl
  · exact .inr h

lemma optStep_refused {b : Bool} {s : Iso α} {r : Iso α × Outcome} {e : Err} (h : (optStep b s r).2 = .err e) :
    b = true ∧ r.2 = .err e ∧ optStep b s r = r := by
  cases b
  · cases h
  · exact ⟨rfl, h, rfl⟩

lemma andThen_refused {r : Iso α × Outcome} {k : Iso α → Iso α × Outcome} {e : Err} (h : (andThen r k).2 = .err e) :
    (r.2 = .err e ∧ andThen r k = r) ∨ (r.2 = .ok ∧ andThen r k = k r.1) := by
  obtain ⟨s1, o⟩ := r
  cases o with
  | ok => exact .inr ⟨rfl, rfl⟩
  | err e' => exact .inl ⟨h, rfl⟩

lemma andThen_invariant {P : Iso α → Prop} {r : Iso α × Outcome} {k : Iso α → Iso α × Outcome}
    (hr : P r.1) (hk : ∀ s1, P s1 → P (k s1).1) : P (andThen r k).1 := by
  obtain ⟨s1, o⟩ := r
  cases o with
  | ok => exact hk s1 hr
  | err e => exact hr

lemma optStep_invariant {P : Iso α → Prop} {b : Bool} {s : Iso α} {r : Iso α × Outcome} (hs : P s) (hr : P r.1) :
    P (optStep b s r).1 := by
  cases b
  · exact hs
  · exact hr

/-- what each of the three single conversions keeps, `convert(...)` keeps — accepted or refused half-way -/
lemma convertAll_invariant {P : Iso α → Prop} (c : Ctx α) (s : Iso α) (pm pu lb lu mb mu : Option String) (h0 : P s)
    (hP : ∀ s', P s' → P (convertPressure c s' pm pu).1) (hM : ∀ s', P s' → P (convertMaterial c s' mb mu).1)
    (hL : ∀ s', P s' → P (convertLoading c s' lb lu).1) : P (convertAll c s pm pu lb lu mb mu).1 := by
  rw [convertAll_eq]
  exact andThen_invariant (optStep_invariant h0 (hP s h0)) fun s1 h1 =>
    andThen_invariant (optStep_invariant h1 (hM s1 h1)) fun s2 h2 => optStep_invariant h2 (hL s2 h2)

/-- `convert(...)` runs pressure, then material, then loading (each only if one of its two arguments is truthy).
If it is refused with `e`, exactly one of the three sub-steps was the refusing one: all earlier sub-steps
returned normally (or were skipped), the refusing sub-step itself changed nothing, and the resulting state is
the state reached just before it. -/
theorem convertAll_refused_prefix (c : Ctx α) (s : Iso α) (pm pu lb lu mb mu : Option String) (e : Err)
    (h : (convertAll c s pm pu lb lu mb mu).2 = .err e) :
    let doP := truthy pm || truthy pu
    let doM := truthy mb || truthy mu
    let doL := truthy lb || truthy lu
    let s1 := if doP then (convertPressure c s pm pu).1 else s
    let s2 := if doM then (convertMaterial c s1 mb mu).1 else s1
    let okP := doP = false ∨ (convertPressure c s pm pu).2 = .ok
    let okM := doM = false ∨ (convertMaterial c s1 mb mu).2 = .ok
    -- refused by the pressure step: nothing changed at all
    (doP = true ∧ (convertPressure c s pm pu).2 = .err e ∧ (convertPressure c s pm pu).1 = s ∧
      (convertAll c s pm pu lb lu mb mu).1 = s) ∨
    -- refused by the material step: exactly the pressure step's effect
    (okP ∧ doM = true ∧ (convertMaterial c s1 mb mu).2 = .err e ∧ (convertMaterial c s1 mb mu).1 = s1 ∧
      (convertAll c s pm pu lb lu mb mu).1 = s1) ∨
    -- refused by the loading step: exactly the effect of pressure then material
    (okP ∧ okM ∧ doL = true ∧ (convertLoading c s2 lb lu).2 = .err e ∧ (convertLoading c s2 lb lu).1 = s2 ∧
      (convertAll c s pm pu lb lu mb mu).1 = s2) := by
  intro doP doM doL s1 s2 okP okM
  rw [convertAll_eq] at h ⊢
  rcases andThen_refused h with ⟨hP, eP⟩ | ⟨hP, eP⟩
  · obtain ⟨dP, hP, eP'⟩ := optStep_refused hP
    have hun := convertPressure_refused_unchanged c s pm pu (refused_of_err hP)
    exact .inl ⟨dP, hP, hun, by rw [eP, eP', hun]⟩
  rw [eP, optStep_fst] at h ⊢
  refine .inr ?_
  rcases andThen_refused h with ⟨hM, eM⟩ | ⟨hM, eM⟩
  · obtain ⟨dM, hM, eM'⟩ := optStep_refused hM
    have hun := convertMaterial_refused_unchanged c s1 mb mu (refused_of_err hM)
    exact .inl ⟨optStep_ok hP, dM, hM, hun, by rw [eM, eM', hun]⟩
  rw [eM, optStep_fst (truthy mb || truthy mu)] at h ⊢
  obtain ⟨dL, hL, eL⟩ := optStep_refused h
  have hun := convertLoading_refused_unchanged c s2 lb lu (refused_of_err hL)
  exact .inr ⟨optStep_ok hP, optStep_ok hM, dL, hL, hun, by rw [eL, hun]⟩

lemma step_footprint (c : Ctx α) (s : Iso α) (op : Op) : Footprint s (step c s op).1 := by
  cases op with
  | all pm pu lb lu mb mu =>
    exact convertAll_invariant (P := Footprint s) c s pm pu lb lu mb mu (.refl s)
      (fun s' h => h.trans (convertPressure_effect c s' pm pu).footprint)
      (fun s' h => h.trans (convertMaterial_effect c s' mb mu).footprint)
      (fun s' h => h.trans (convertLoading_effect c s' lb lu).footprint)
  | _ => exact (step_single_effect c s _ (by intros; simp)).footprint

/-- every call — single or combined, successful or refused, any arguments — multiplies the whole pressure column
by one factor and the whole loading column by one factor: rows are never added, dropped or reordered.
(Branch marks, extra data columns and metadata are not part of the model state: no op can touch them.) -/
theorem step_rows_scaled (c : Ctx α) (s : Iso α) (op : Op) :
    ∃ f g : α, (step c s op).1.ps = s.ps.map (· * f) ∧ (step c s op).1.ls = s.ls.map (· * g) :=
  (step_footprint c s op).scaled

theorem step_lengths (c : Ctx α) (s : Iso α) (op : Op) :
    (step c s op).1.ps.length = s.ps.length ∧ (step c s op).1.ls.length = s.ls.length := by
  obtain ⟨f, g, h1, h2⟩ := step_rows_scaled c s op
  rw [h1, h2]; simp

lemma run_cons (c : Ctx α) (s : Iso α) (op : Op) (ops : List Op) :
    run c s (op :: ops) = run c (step c s op).1 ops := rfl

/-- induction along a history: a relation between the state and a second component folded along the same list, kept by
every call, holds at the end -/
lemma run_induction {ρ ι : Type} {R : Iso α → ρ → Prop} (c : Ctx α) (f : ι → Op) (g : ρ → ι → ρ) (l : List ι)
    (hstep : ∀ i ∈ l, ∀ s r, R s r → R (step c s (f i)).1 (g r i)) (s : Iso α) (r : ρ) (h : R s r) :
    R (run c s (l.map f)) (l.foldl g r) := by
  induction l generalizing s r with
  | nil => exact h
  | cons i l ih =>
    exact ih (fun j hj => hstep j (List.mem_cons_of_mem _ hj)) _ _ (hstep i List.mem_cons_self s r h)

lemma run_invariant {P : Iso α → Prop} (c : Ctx α) (ops : List Op) (hstep : ∀ s op, P s → P (step c s op).1)
    (s : Iso α) (h : P s) : P (run c s ops) := by
  induction ops generalizing s with
  | nil => exact h
  | cons op ops ih => exact ih _ (hstep s op h)

theorem run_lengths (c : Ctx α) (s : Iso α) (ops : List Op) :
    (run c s ops).ps.length = s.ps.length ∧ (run c s ops).ls.length = s.ls.length :=
  run_invariant (P := fun s' => s'.ps.length = s.ps.length ∧ s'.ls.length = s.ls.length) c ops
    (fun s' op h => ⟨(step_lengths c s' op).1.trans h.1, (step_lengths c s' op).2.trans h.2⟩) s ⟨rfl, rfl⟩

/-- whenever a call (any op, any arguments, successful or — for the combined call — refused half-way) has
rewritten the pressure or the loading column, both cached interpolators have been dropped.  There is no hypothesis that the call
succeeded: a refused single call rewrites nothing, and `convert(...)` refused half-way has dropped the caches with the steps it completed. -/
theorem successful_conversion_resets_caches (c : Ctx α) (s : Iso α) (op : Op)
    (h : (step c s op).1.ps ≠ s.ps ∨ (step c s op).1.ls ≠ s.ls) :
    (step c s op).1.lcache = false ∧ (step c s op).1.pcache = false :=
  (step_footprint c s op).changed h

theorem step_caches_monotone (c : Ctx α) (s : Iso α) (op : Op) :
    (s.lcache = false → (step c s op).1.lcache = false) ∧ (s.pcache = false → (step c s op).1.pcache = false) :=
  (step_footprint c s op).cachesMono

/-- branch-level form: in every branch of the three data conversions that rewrites a column
(i.e. that is not an early return, a refusal or the "virtual" material-unit relabelling) the caches are cleared -/
theorem rewriting_branch_resets_caches (c : Ctx α) (s : Iso α) (m : String) (u : Option String) :
    (∀ f, ¬(m = s.lab.pmode ∧ u = s.lab.punit) →
        cPressure c.psat c.tempOk (1 : α) (some s.lab.pmode) (some m) s.lab.punit u = .ok f →
        (pCore c s m u).1.lcache = false ∧ (pCore c s m u).1.pcache = false ∧ (pCore c s m u).1.ps = s.ps.map (· * f)) ∧
    (∀ f, ¬(m = s.lab.lbasis ∧ u = s.lab.lunit) → ¬((isFrac s.lab.lbasis && m = s.lab.lbasis) = true) →
        cLoading c.env (1 : α) (some s.lab.lbasis) (some m) s.lab.lunit u (some s.lab.mbasis) s.lab.munit = .ok f →
        (lCore c s m u).1.lcache = false ∧ (lCore c s m u).1.pcache = false ∧ (lCore c s m u).1.ls = s.ls.map (· * f)) := by
  refine ⟨fun f h1 h2 => ?_, fun f h1 h2 h3 => ?_⟩
  · rw [pCore_of_ok h1 h2]; exact ⟨rfl, rfl, rfl⟩
  · rw [lCore_of_ok h1 h2 h3]; exact ⟨rfl, rfl, rfl⟩

lemma checkTemp_other_spelling (y : String) (hK : y ≠ "K") (hc : containsC y = false) :
    (checkTemp (some y) : Except Err α) = .error .param := by
  have hC : y ≠ "°C" := by
    intro h; rw [h] at hc; exact absurd hc (by decide)
  simp only [checkTemp, tempOffset, Gen.temperatureUnits, List.lookup, beq_eq_false_iff_ne.2 hK, beq_eq_false_iff_ne.2 hC]
  split <;> rfl

/-! ## B. Typed single-step specifications -/

variable [CharZero α]

structure Rep where
  p : PRep
  l : LRep
  m : MRep
  t : TRep

/-- labels of a pressure representation (relative modes store no unit) -/
def pLabel : PRep → String × Option String
  | .abs u => ("absolute", some u) | .rel _ => ("relative", none) | .relp _ => ("relative%", none)

/-- stored temperature label (every Celsius spelling is normalised to `°C`) -/
def tLabel : TRep → Option String
  | .K => some "K" | .C _ => some "°C"

def labelsOf (r : Rep) : Labels :=
  { pmode := (pLabel r.p).1, punit := (pLabel r.p).2,
    lbasis := r.l.basis, lunit := r.l.unit,        -- `.phys b u ↦ (b.name, some u)`, `.frac ↦ ("fraction", none)`, `.pct ↦ ("percent", none)`
    mbasis := r.m.b.name, munit := some r.m.u,
    tunit := tLabel r.t }

def Rep.Valid (ps : α) (a : Ads α) (mat : Mat α) (r : Rep) : Prop :=
  (r.p.scale Gen.pressureUnits ps).isSome ∧ (r.l.scale Gen.unitTable a r.m).isSome ∧
  (r.m.grams Gen.unitTable mat).isSome ∧ (r.t = .K ∨ r.t = .C "°C")

/-- Pa per stored pressure value / mol adsorbate per stored loading value / gram material per material unit
(total versions of the scales; under `Rep.Valid` they are the actual, non-zero scales) -/
def spOf (ps : α) (p : PRep) : α := (p.scale Gen.pressureUnits ps).getD 0
def slOf (a : Ads α) (l : LRep) (m : MRep) : α := (l.scale Gen.unitTable a m).getD 0
def gmOf (mat : Mat α) (m : MRep) : α := (m.grams Gen.unitTable mat).getD 0

/-- canonical content of one stored pressure: Pa -/
def canonP (ps : α) (r : Rep) (v : α) : α := v * spOf ps r.p
/-- canonical content of one stored loading: mol adsorbate per gram material -/
def canonL (a : Ads α) (mat : Mat α) (r : Rep) (v : α) : α := v * slOf a r.l r.m / gmOf mat r.m
/-- canonical content of the stored temperature: K -/
def kelvin (r : Rep) (v : α) : α := r.t.toK v

lemma fac_isSome_lookup {t : List (String × Nat × Nat)} {u : String} (h : (fac t u : Option α).isSome) :
    (t.lookup u).isSome := by
  rwa [fac, Option.isSome_map] at h

lemma physScale_isSome_lookup {a : Ads α} {b : LB} {u : String} (h : (physScale Gen.unitTable a b u).isSome) :
    ((Gen.unitTable b.table).lookup u).isSome := by
  unfold physScale at h
  by_cases hu : u = ""
  · simp [hu] at h
  · simp only [hu, if_false, Option.isSome_map] at h
    exact fac_isSome_lookup h

lemma grams_isSome_lookup {mat : Mat α} {m : MRep} (h : (m.grams Gen.unitTable mat).isSome) :
    ((Gen.unitTable m.b.table).lookup m.u).isSome := by
  unfold MRep.grams at h
  by_cases hu : m.u = ""
  · simp [hu] at h
  · simp only [hu, if_false, Option.isSome_map] at h
    exact fac_isSome_lookup h

lemma loadingMode_lookup (b : LB) : Gen.loadingMode.lookup b.name = some (some b.table) := by cases b <;> rfl

lemma materialMode_lookup (b : MB) : Gen.materialMode.lookup b.name = some (some b.table) := by cases b <;> rfl

theorem validLabels_of_valid (ps : α) (a : Ads α) (mat : Mat α) (r : Rep) (h : Rep.Valid ps a mat r) :
    validLabels (labelsOf r) = true := by
  obtain ⟨hp, hl, hm, ht⟩ := h
  obtain ⟨p, l, m, t⟩ := r
  obtain ⟨mb, mu⟩ := m
  have hmu := grams_isSome_lookup hm
  simp only at hp hl hm ht hmu
  have hP : (Gen.pressureMode.lookup (pLabel p).1).isSome = true := by cases p <;> rfl
  have hL : (Gen.loadingMode.lookup l.basis).isSome = true := by
    cases l with
    | phys b u => rw [LRep.basis, loadingMode_lookup]; rfl
    | frac => rfl
    | pct => rfl
  have hM := materialMode_lookup mb
  have hT : t = .K ∨ t = .C "°C" := ht
  unfold validLabels labelsOf
  simp only [hP, hL, hM, Option.isSome_some, Bool.and_self, Bool.true_and, Bool.and_eq_true]
  refine ⟨⟨?_, ?_⟩, ?_⟩
  · cases p with
    | abs u =>
      simp only [Spec.PRep.scale] at hp
      by_cases hu : u = ""
      · simp [hu] at hp
      · simp only [hu, if_false] at hp
        exact Bool.or_eq_true_iff.2 (.inr (fac_isSome_lookup hp))
    | rel u => rfl
    | relp u => rfl
  · cases l with
    | frac => rfl
    | pct => rfl
    | phys b u =>
      have h1 := physScale_isSome_lookup (a := a) hl
      have hb := loadingMode_lookup b
      simp only [LRep.basis, LRep.unit, hb, h1, hmu, Bool.and_self, Bool.or_true]
  · rcases hT with rfl | rfl <;> rfl

lemma orCurrent_some {x cur : String} (hx : x ≠ "") : orCurrent (some x) cur = x := by
  simp [orCurrent, hx]

lemma PRep.mode_ne_empty (t : PRep) : t.mode ≠ "" := by cases t <;> simp [PRep.mode]

def canonPRep : PRep → PRep
  | .abs u => .abs u | .rel _ => .rel none | .relp _ => .relp none

lemma canonPRep_mode (a : PRep) : (canonPRep a).mode = (pLabel a).1 := by cases a <;> rfl
lemma canonPRep_unit (a : PRep) : (canonPRep a).unit = (pLabel a).2 := by cases a <;> rfl
lemma canonPRep_scale (ps : α) (a : PRep) :
    (canonPRep a).scale Gen.pressureUnits ps = a.scale Gen.pressureUnits ps := by cases a <;> rfl

lemma scale_ne_zero_gen (ps : α) (hps : ps ≠ 0) (a : PRep) (sa : α)
    (ha : a.scale Gen.pressureUnits ps = some sa) : sa ≠ 0 := by
  rw [C01.tables_eq_spec.1] at ha
  exact C01.PRep.scale_ne_zero ps hps a sa ha

lemma pLabel_eq_name {ps : α} {a b : PRep} (hm : b.mode = (pLabel a).1) (hu : b.unit = (pLabel a).2) :
    b.scale Gen.pressureUnits ps = a.scale Gen.pressureUnits ps ∧ pLabel b = pLabel a := by
  cases a <;> cases b <;> simp [PRep.mode, PRep.unit, pLabel, Spec.PRep.scale] at hm hu ⊢
  · subst hu; exact ⟨rfl, rfl⟩

/-- the unit label `convert_pressure` stores -/
lemma punit_stored {a b : PRep} (hne : ¬(b.mode = (pLabel a).1 ∧ b.unit = (pLabel a).2)) :
    (if b.unit ≠ (pLabel a).2 ∧ b.mode = "absolute" then b.unit else none) = (pLabel b).2 := by
  cases a <;> cases b <;> simp [PRep.mode, PRep.unit, pLabel] at hne ⊢
  exact hne

/-- core of the typed pressure step: from labels naming `a`, a call whose resolved arguments are the mode and the
unit of `b` (ANY `b` with a scale, canonical or not) succeeds, relabels to `b`, and multiplies by `sa / sb` -/
lemma pCore_typed (ps : α) (hps : ps ≠ 0) (env : Env α) (s : Iso α) (a b : PRep) (sa sb : α)
    (hm : s.lab.pmode = (pLabel a).1) (hu : s.lab.punit = (pLabel a).2)
    (ha : a.scale Gen.pressureUnits ps = some sa) (hb : b.scale Gen.pressureUnits ps = some sb) :
    ∃ s', pCore ⟨some ps, env, true⟩ s b.mode b.unit = (s', .ok) ∧
      s'.lab = { s.lab with pmode := (pLabel b).1, punit := (pLabel b).2 } ∧ s'.ls = s.ls ∧ s'.temp = s.temp ∧
      s'.ps = s.ps.map (· * (sa / sb)) := by
  by_cases he : b.mode = s.lab.pmode ∧ b.unit = s.lab.punit
  · -- early return: `b` is the current representation
    obtain ⟨h1, h2⟩ := pLabel_eq_name (ps := ps) (he.1.trans hm) (he.2.trans hu)
    rw [ha, hb] at h1
    cases h1
    exact ⟨s, pCore_same he, by rw [h2, ← hm, ← hu], rfl, rfl,
      by rw [div_self (scale_ne_zero_gen ps hps a sa ha), map_mul_one]⟩
  · have hspec := cPressure_spec ps (1 : α) hps (canonPRep a) b sa sb (by rw [canonPRep_scale]; exact ha) hb
    rw [canonPRep_mode, canonPRep_unit, ← hm, ← hu] at hspec
    have h := pCore_of_ok (c := ⟨some ps, env, true⟩) he hspec
    refine ⟨_, h, ?_, rfl, rfl, by simp only [one_mul]⟩
    rw [hm, hu] at he
    simp only [hu, punit_stored he]
    cases b <;> rfl

/-- replace the (ignored) unit label of a relative representation -/
def withUnit : PRep → Option String → PRep
  | .abs u, _ => .abs u | .rel _, x => .rel x | .relp _, x => .relp x

lemma withUnit_mode (t : PRep) (x) : (withUnit t x).mode = t.mode := by cases t <;> rfl
lemma withUnit_label (t : PRep) (x) : pLabel (withUnit t x) = pLabel t := by cases t <;> rfl
lemma withUnit_scale (ps : α) (t : PRep) (x) :
    (withUnit t x).scale Gen.pressureUnits ps = t.scale Gen.pressureUnits ps := by cases t <;> rfl
lemma withUnit_unit (ps : α) (t : PRep) (st : α) (ht : t.scale Gen.pressureUnits ps = some st)
    (same : Bool) (cur : Option String) :
    (withUnit t (unitArg t.unit same cur)).unit = unitArg t.unit same cur := by
  cases t with
  | abs u =>
    have hu : u ≠ "" := by
      intro h; simp [Spec.PRep.scale, h] at ht
    simp [withUnit, PRep.unit, unitArg, truthy, hu]
  | rel x => rfl
  | relp x => rfl

/-- `t` is ANY supported target, canonical or not: a unit given with a relative mode is ignored.  The factor is Pa per old
unit over Pa per new unit: the stored column is the old column converted directly. -/
theorem convertPressure_typed (ps : α) (hps : ps ≠ 0) (env : Env α) (s : Iso α) (r : Rep) (t : PRep) (sp st : α)
    (hs : s.lab = labelsOf r)
    (hsp : r.p.scale Gen.pressureUnits ps = some sp) (hst : t.scale Gen.pressureUnits ps = some st) :
    (convertPressure ⟨some ps, env, true⟩ s (some t.mode) t.unit).2 = .ok ∧
    (convertPressure ⟨some ps, env, true⟩ s (some t.mode) t.unit).1.lab = labelsOf { r with p := t } ∧
    (convertPressure ⟨some ps, env, true⟩ s (some t.mode) t.unit).1.ls = s.ls ∧
    (convertPressure ⟨some ps, env, true⟩ s (some t.mode) t.unit).1.temp = s.temp ∧
    (convertPressure ⟨some ps, env, true⟩ s (some t.mode) t.unit).1.ps = s.ps.map (· * (sp / st)) := by
  rw [convertPressure_core, orCurrent_some (PRep.mode_ne_empty t)]
  set x := unitArg t.unit (decide (t.mode = s.lab.pmode)) s.lab.punit with hx
  obtain ⟨s', h, h2, h3, h4, h5⟩ := pCore_typed ps hps env s r.p (withUnit t x) sp st (by rw [hs]; rfl)
    (by rw [hs]; rfl) hsp (by rw [withUnit_scale]; exact hst)
  rw [withUnit_mode, hx, withUnit_unit ps t st hst, ← hx] at h
  rw [h]
  exact ⟨rfl, by rw [h2, withUnit_label, hs]; rfl, h3, h4, h5⟩

lemma LRep.ext_labels {l1 l2 : LRep} (hb : l1.basis = l2.basis) (hu : l1.unit = l2.unit) : l1 = l2 := by
  cases l1 <;> cases l2 <;> simp only [LRep.unit, LRep.basis, Option.some.injEq, reduceCtorEq] at hb hu
  · subst hu
    rename_i b1 _ b2
    cases b1 <;> cases b2 <;> simp [Spec.LB.name] at hb ⊢
  · rfl
  · simp at hb
  · simp at hb
  · rfl

lemma LRep.basis_ne_empty (l : LRep) : l.basis ≠ "" := by
  cases l with
  | phys b u => cases b <;> simp [LRep.basis, Spec.LB.name]
  | frac => simp [LRep.basis]
  | pct => simp [LRep.basis]

lemma LRep.isFrac_basis (l : LRep) : isFrac l.basis = true ↔ l.unit = none := by
  cases l with
  | phys b u => cases b <;> simp [LRep.basis, LRep.unit, Spec.LB.name, isFrac]
  | frac => simp [LRep.basis, LRep.unit, isFrac]
  | pct => simp [LRep.basis, LRep.unit, isFrac]

lemma grams_ne_zero_gen (mat : Mat α) (hp : Mat.Pos mat) (m : MRep) (g : α)
    (h : m.grams Gen.unitTable mat = some g) : g ≠ 0 := by
  rw [C01.unitTable_eq_spec] at h
  exact C01.MRep.grams_ne_zero mat hp m g h

lemma lCore_typed (a : Ads α) (mat : Mat α) (hc : a.Consistent) (hp : a.Pos) (psat : Option α) (tOk : Bool)
    (s : Iso α) (m : MRep) (l1 l2 : LRep) (s1 s2 : α)
    (hb : s.lab.lbasis = l1.basis) (hu : s.lab.lunit = l1.unit)
    (hmb : s.lab.mbasis = m.b.name) (hmu : s.lab.munit = some m.u)
    (h1 : l1.scale Gen.unitTable a m = some s1) (h2 : l2.scale Gen.unitTable a m = some s2) :
    ∃ s', lCore ⟨psat, envOf a mat, tOk⟩ s l2.basis l2.unit = (s', .ok) ∧
      s'.lab = { s.lab with lbasis := l2.basis, lunit := l2.unit } ∧ s'.ps = s.ps ∧ s'.temp = s.temp ∧
      s'.ls = s.ls.map (· * (s1 / s2)) := by
  by_cases he : l2.basis = s.lab.lbasis ∧ l2.unit = s.lab.lunit
  · -- early return: `l2` is the current representation
    cases LRep.ext_labels (he.1.trans hb) (he.2.trans hu)
    rw [h1] at h2; cases h2
    have hs1 : s1 ≠ 0 := Units.scale_ne_zero hp h1
    exact ⟨s, lCore_same he, by rw [he.1, he.2], rfl, rfl, by rw [div_self hs1, map_mul_one]⟩
  · -- the second early return (fraction / percent, basis unchanged) would make the units equal too
    have he2 : ¬((isFrac s.lab.lbasis && decide (l2.basis = s.lab.lbasis)) = true) := by
      intro h
      simp only [Bool.and_eq_true, decide_eq_true_eq] at h
      have e1 : l1.unit = none := (LRep.isFrac_basis l1).1 (by rw [← hb]; exact h.1)
      have e2 : l2.unit = none := (LRep.isFrac_basis l2).1 (by rw [h.2]; exact h.1)
      exact he ⟨h.2, by rw [hu, e1, e2]⟩
    have hspec := cLoading_spec a mat hc hp (1 : α) m l1 l2 s1 s2 h1 h2
    rw [← hb, ← hu, ← hmb, ← hmu] at hspec
    have h := lCore_of_ok (c := ⟨psat, envOf a mat, tOk⟩) he he2 hspec
    have hlu : (if isFrac l2.basis = true then none else l2.unit) = l2.unit := by
      split
      · exact ((LRep.isFrac_basis l2).1 ‹_›).symm
      · rfl
    exact ⟨_, h, by simp only [hlu], rfl, rfl, by simp only [one_mul]⟩

lemma unitArg_loading (a : Ads α) (m : MRep) (l1 l2 : LRep) (s2 : α)
    (h2 : l2.scale Gen.unitTable a m = some s2) :
    unitArg l2.unit (decide (l2.basis = l1.basis)) l1.unit = l2.unit := by
  -- a physical target has a truthy unit; a fraction / percent target has none, and neither has the current
  -- representation if its basis is the same
  have frac : ∀ l : LRep, isFrac l.basis = true → unitArg l.unit (decide (l.basis = l1.basis)) l1.unit = l.unit :=
    fun l hf => unitArg_eq_self (.inr fun h =>
      ((LRep.isFrac_basis l1).1 (by rw [← of_decide_eq_true h]; exact hf)).trans ((LRep.isFrac_basis l).1 hf).symm)
  cases l2 with
  | phys b u =>
    have hu : u ≠ "" := (physScale_inv (by simpa [LRep.scale] using h2)).1
    exact unitArg_eq_self (.inl (by simp [LRep.unit, truthy, hu]))
  | frac => exact frac _ rfl
  | pct => exact frac _ rfl

/-- the scale of the target is taken w.r.t. the current material representation; the factor is mol adsorbate per old unit
over mol per new unit -/
theorem convertLoading_typed (a : Ads α) (mat : Mat α) (hc : a.Consistent) (hp : a.Pos) (psat : Option α) (tOk : Bool)
    (s : Iso α) (r : Rep) (l : LRep) (sl sl' : α) (hs : s.lab = labelsOf r)
    (hsl : r.l.scale Gen.unitTable a r.m = some sl) (hsl' : l.scale Gen.unitTable a r.m = some sl') :
    (convertLoading ⟨psat, envOf a mat, tOk⟩ s (some l.basis) l.unit).2 = .ok ∧
    (convertLoading ⟨psat, envOf a mat, tOk⟩ s (some l.basis) l.unit).1.lab = labelsOf { r with l := l } ∧
    (convertLoading ⟨psat, envOf a mat, tOk⟩ s (some l.basis) l.unit).1.ps = s.ps ∧
    (convertLoading ⟨psat, envOf a mat, tOk⟩ s (some l.basis) l.unit).1.temp = s.temp ∧
    (convertLoading ⟨psat, envOf a mat, tOk⟩ s (some l.basis) l.unit).1.ls = s.ls.map (· * (sl / sl')) := by
  rw [convertLoading_core, orCurrent_some (LRep.basis_ne_empty l)]
  have e1 : s.lab.lbasis = r.l.basis := by rw [hs]; rfl
  have e2 : s.lab.lunit = r.l.unit := by rw [hs]; rfl
  rw [e1, e2, unitArg_loading a r.m r.l l sl' hsl']
  obtain ⟨s', h, h2, h3, h4, h5⟩ := lCore_typed a mat hc hp psat tOk s r.m r.l l sl sl' e1 e2
    (by rw [hs]; rfl) (by rw [hs]; rfl) hsl hsl'
  rw [h]
  exact ⟨rfl, by rw [h2, hs]; rfl, h3, h4, h5⟩

lemma MB.name_inj {b1 b2 : MB} (h : b1.name = b2.name) : b1 = b2 := Units.MB.name_inj.1 h

lemma MB.name_ne_empty (b : MB) : b.name ≠ "" := by cases b <;> simp [Spec.MB.name]

lemma volLiq_name (b : MB) : volLiq b.name = b.toLB.name := by cases b <;> rfl

/-- the material's own basis and unit always give a loading scale (same unit table) -/
lemma own_scale_of_grams (a : Ads α) (mat : Mat α) (m2 : MRep) (g2 : α)
    (hg2 : m2.grams Gen.unitTable mat = some g2) :
    ∃ p : α, physScale Gen.unitTable a m2.b.toLB m2.u = some p := by
  unfold MRep.grams at hg2
  unfold physScale
  by_cases hu : m2.u = ""
  · simp [hu] at hg2
  · simp only [hu, if_false, Option.map_eq_some_iff] at hg2 ⊢
    obtain ⟨f, hf, _⟩ := hg2
    have : m2.b.toLB.table = m2.b.table := by cases m2.b <;> rfl
    rw [this]
    exact ⟨_, f, hf, rfl⟩

/-- a fraction / percent loading has a scale w.r.t. every supported material representation; a physical one does not
depend on it -/
lemma lscale_of_grams (a : Ads α) (mat : Mat α) (l : LRep) (m1 m2 : MRep) (sl1 g2 : α)
    (hl1 : l.scale Gen.unitTable a m1 = some sl1) (hg2 : m2.grams Gen.unitTable mat = some g2) :
    ∃ sl2 : α, l.scale Gen.unitTable a m2 = some sl2 := by
  have key := own_scale_of_grams a mat m2 g2 hg2
  cases l with
  | phys b u => exact ⟨sl1, hl1⟩
  | frac => exact key
  | pct => obtain ⟨p, hp⟩ := key; exact ⟨p / 100, by simp [LRep.scale, hp]⟩

/-- fraction / percent scales: the physical scale of the material's own basis and unit, times 1 or 1/100 -/
lemma fracScale (a : Ads α) (l : LRep) (hf : isFrac l.basis = true) :
    ∃ k : α, k ≠ 0 ∧ ∀ (m : MRep) (sl : α), l.scale Gen.unitTable a m = some sl →
      ∃ p : α, physScale Gen.unitTable a m.b.toLB m.u = some p ∧ sl = p * k := by
  cases l with
  | phys b u => cases b <;> simp [LRep.basis, Spec.LB.name, isFrac] at hf
  | frac => exact ⟨1, one_ne_zero, fun m sl h => ⟨sl, h, (mul_one sl).symm⟩⟩
  | pct =>
    refine ⟨1 / 100, by norm_num, fun m sl h => ?_⟩
    simp only [LRep.scale, Option.map_eq_some_iff] at h
    obtain ⟨p, hp, rfl⟩ := h
    exact ⟨p, hp, div_eq_mul_one_div p 100⟩

lemma physScale_indep (a : Ads α) (l : LRep) (hf : ¬ isFrac l.basis = true) (m1 m2 : MRep) :
    l.scale Gen.unitTable a m1 = l.scale Gen.unitTable a m2 := by
  cases l with
  | phys b u => rfl
  | frac => simp [LRep.basis, isFrac] at hf
  | pct => simp [LRep.basis, isFrac] at hf

/-- (mol adsorbate per unit) / (gram material per unit) of the material's own basis does not depend on the unit -/
lemma own_ratio (a : Ads α) (mat : Mat α) (hmp : Mat.Pos mat) (m : MRep) (p g : α)
    (hp : physScale Gen.unitTable a m.b.toLB m.u = some p) (hg : m.grams Gen.unitTable mat = some g) :
    p / g = gL a m.b.toLB / gM mat m.b := by
  obtain ⟨_, f, hf, rfl, hn⟩ := physScale_inv hp
  obtain ⟨_, f', hf', rfl, hn', hgm⟩ := grams_inv hmp hg
  have : m.b.toLB.table = m.b.table := by cases m.b <;> rfl
  rw [this, hf'] at hf
  cases hf
  exact mul_div_mul_left _ _ hn

/-- a ratio of canonical contents (scale over grams), regrouped: grams ratio times scale ratio -/
lemma canon_ratio (x y g1 g2 : α) : x / g1 / (y / g2) = g2 / g1 * (x / y) := by
  rw [div_div_div_eq, div_mul_div_comm, mul_comm x g2]

/-- core of the typed material step: the loading column is multiplied by some `k`, the ratio of the canonical contents -/
lemma mCore_typed (a : Ads α) (mat : Mat α) (hc : a.Consistent) (hp : a.Pos) (hmp : Mat.Pos mat)
    (psat : Option α) (tOk : Bool) (s : Iso α) (l : LRep) (m1 m2 : MRep) (g1 g2 sl1 sl2 : α)
    (hb : s.lab.lbasis = l.basis) (hmb : s.lab.mbasis = m1.b.name) (hmu : s.lab.munit = some m1.u)
    (hg1 : m1.grams Gen.unitTable mat = some g1) (hg2 : m2.grams Gen.unitTable mat = some g2)
    (hl1 : l.scale Gen.unitTable a m1 = some sl1) (hl2 : l.scale Gen.unitTable a m2 = some sl2) :
    ∃ (s' : Iso α) (k : α), mCore ⟨psat, envOf a mat, tOk⟩ s m2.b.name (some m2.u) = (s', .ok) ∧
      s'.lab = { s.lab with mbasis := m2.b.name, munit := some m2.u } ∧ s'.ps = s.ps ∧ s'.temp = s.temp ∧
      s'.ls = s.ls.map (· * k) ∧ k = (sl1 / g1) / (sl2 / g2) := by
  have hg1n := grams_ne_zero_gen mat hmp m1 g1 hg1
  have hg2n := grams_ne_zero_gen mat hmp m2 g2 hg2
  have hs1n := Units.scale_ne_zero hp hl1
  have hs2n := Units.scale_ne_zero hp hl2
  have hspecM := cMaterial_spec a mat hmp (1 : α) m1 m2 g1 g2 hg1 hg2
  rw [← hmb, ← hmu] at hspecM
  by_cases he : m2.b.name = s.lab.mbasis ∧ some m2.u = s.lab.munit
  · -- early return: same representation
    obtain ⟨b2, u2⟩ := m2
    obtain ⟨b1, u1⟩ := m1
    obtain ⟨e1, e2⟩ := he
    simp only at e1 e2 hmb hmu
    cases MB.name_inj (e1.trans hmb)
    cases e2.trans hmu
    rw [hg1] at hg2; cases hg2
    rw [hl1] at hl2; cases hl2
    exact ⟨s, 1, mCore_same ⟨e1, e2⟩, by rw [e1, e2], rfl, rfl, (map_mul_one _).symm,
      (div_self (div_ne_zero hs1n hg1n)).symm⟩
  by_cases hv : (isFrac s.lab.lbasis && decide (m2.b.name = s.lab.mbasis)) = true
  · -- "virtual" unit change under a fraction / percent loading
    have hv' := hv
    simp only [Bool.and_eq_true, decide_eq_true_eq] at hv'
    obtain ⟨hf, hsame⟩ := hv'
    refine ⟨_, 1, mCore_virtual (c := ⟨psat, envOf a mat, tOk⟩) he hv hspecM, by rw [hsame], rfl, rfl,
      (map_mul_one _).symm, ?_⟩
    rw [hb] at hf
    obtain ⟨k, hk, hkey⟩ := fracScale a l hf
    obtain ⟨p1, hp1, rfl⟩ := hkey m1 sl1 hl1
    obtain ⟨p2, hp2, rfl⟩ := hkey m2 sl2 hl2
    have hbb : m2.b = m1.b := MB.name_inj (hsame.trans hmb)
    have r1 := own_ratio a mat hmp m1 p1 g1 hp1 hg1
    have r2 := own_ratio a mat hmp m2 p2 g2 hp2 hg2
    rw [hbb] at r2
    rw [mul_div_right_comm p2, r2, ← r1, ← mul_div_right_comm p1]
    exact (div_self (div_ne_zero hs1n hg1n)).symm
  by_cases hf : isFrac s.lab.lbasis = true
  · -- fraction / percent loading, material basis changes
    have hf' := hf
    rw [hb] at hf'
    obtain ⟨k, hk, hkey⟩ := fracScale a l hf'
    obtain ⟨p1, hp1, rfl⟩ := hkey m1 sl1 hl1
    obtain ⟨p2, hp2, rfl⟩ := hkey m2 sl2 hl2
    have hspecL := cLoading_phys a mat hc hp (1 : α) m1.b.toLB m2.b.toLB m1.u m2.u none none p1 p2 hp1 hp2
    rw [← volLiq_name, ← volLiq_name, ← hmb, ← hmu] at hspecL
    have hp2n : p2 ≠ 0 := left_ne_zero_of_mul hs2n
    refine ⟨_, (1 * g2 / g1) * (1 * p1 / p2), mCore_of_ok (c := ⟨psat, envOf a mat, tOk⟩) he hv hspecM
      (by rw [if_pos hf]; exact hspecL), rfl, rfl, rfl, map_mul_assoc _ _ _, ?_⟩
    rw [one_mul, one_mul, canon_ratio, mul_div_mul_right _ _ hk]
  · -- physical loading
    have hf' := hf
    rw [hb] at hf'
    rw [physScale_indep a l hf' m1 m2, hl2] at hl1
    cases hl1
    refine ⟨_, (1 * g2 / g1) * 1, mCore_of_ok (c := ⟨psat, envOf a mat, tOk⟩) he hv hspecM (by rw [if_neg hf]),
      rfl, rfl, rfl, map_mul_assoc _ _ _, ?_⟩
    rw [one_mul, mul_one, canon_ratio, div_self hs1n, mul_one]

/-- under a fraction / percent loading the `LRep` stays, but its scale is now taken w.r.t. the new material representation;
the factor is the ratio of the canonical contents: mol adsorbate per gram material of one old stored unit over that of one
new stored unit -/
theorem convertMaterial_typed (a : Ads α) (mat : Mat α) (hc : a.Consistent) (hp : a.Pos) (hmp : Mat.Pos mat)
    (psat : Option α) (tOk : Bool) (s : Iso α) (r : Rep) (m : MRep) (sl g sl' g' : α) (hs : s.lab = labelsOf r)
    (hsl : r.l.scale Gen.unitTable a r.m = some sl) (hg : r.m.grams Gen.unitTable mat = some g)
    (hsl' : r.l.scale Gen.unitTable a m = some sl') (hg' : m.grams Gen.unitTable mat = some g') :
    (convertMaterial ⟨psat, envOf a mat, tOk⟩ s (some m.b.name) (some m.u)).2 = .ok ∧
    (convertMaterial ⟨psat, envOf a mat, tOk⟩ s (some m.b.name) (some m.u)).1.lab = labelsOf { r with m := m } ∧
    (convertMaterial ⟨psat, envOf a mat, tOk⟩ s (some m.b.name) (some m.u)).1.ps = s.ps ∧
    (convertMaterial ⟨psat, envOf a mat, tOk⟩ s (some m.b.name) (some m.u)).1.temp = s.temp ∧
    (convertMaterial ⟨psat, envOf a mat, tOk⟩ s (some m.b.name) (some m.u)).1.ls =
      s.ls.map (· * ((sl / g) / (sl' / g'))) := by
  rw [convertMaterial_core, orCurrent_some (MB.name_ne_empty m.b)]
  rw [unitArg_eq_self (.inl (by simp [truthy, (grams_inv hmp hg').1]))]
  obtain ⟨s', k, h, h2, h3, h4, h5, rfl⟩ := mCore_typed a mat hc hp hmp psat tOk s r.l r.m m g g' sl sl'
    (by rw [hs]; rfl) (by rw [hs]; rfl) (by rw [hs]; rfl) hg hg' hsl hsl'
  rw [h]
  exact ⟨rfl, by rw [h2, hs]; rfl, h3, h4, h5⟩

def normT : TRep → TRep
  | .K => .K | .C _ => .C "°C"

lemma tLabel_normT (t : TRep) : tLabel (normT t) = tLabel t := by cases t <;> rfl

lemma normTemp_tLabel (t : TRep) (ht : TRep.Valid t) : normTemp (some t.label) = tLabel t := by
  rw [normTemp_label t ht]; cases t <;> rfl

theorem convertTemperature_typed (s : Iso α) (r : Rep) (t : TRep) (hs : s.lab = labelsOf r)
    (hrt : r.t = .K ∨ r.t = .C "°C") (ht : TRep.Valid t) :
    (convertTemperature s (some t.label)).2 = .ok ∧
    (convertTemperature s (some t.label)).1.lab = labelsOf { r with t := normT t } ∧
    (convertTemperature s (some t.label)).1.ps = s.ps ∧
    (convertTemperature s (some t.label)).1.ls = s.ls ∧
    (convertTemperature s (some t.label)).1.temp = t.ofK (r.t.toK s.temp) ∧
    (normT t).toK (convertTemperature s (some t.label)).1.temp = r.t.toK s.temp := by
  have hv : TRep.Valid r.t := by
    rcases hrt with h | h <;> rw [h]
    · trivial
    · exact ⟨by decide, by decide⟩
  have hl : s.lab.tunit = some r.t.label := by
    rw [hs]; rcases hrt with h | h <;> rw [labelsOf, h] <;> rfl
  have hspec := cTemperature_spec s.temp r.t t hv ht
  rw [← hl] at hspec
  rw [convertTemperature_of_ok hspec, normTemp_tLabel t ht]
  refine ⟨rfl, ?_, rfl, rfl, rfl, ?_⟩
  · rw [hs]; simp only [labelsOf, tLabel_normT]
  · cases t <;> simp [normT, Spec.TRep.toK, Spec.TRep.ofK]

/-- state `s'` under representation `r'` carries the same physical content as `s` under `r`, row by row
(list equality: same number of rows, same order), and its labels name `r'` -/
structure Conserved (ps : α) (a : Ads α) (mat : Mat α) (s : Iso α) (r : Rep) (s' : Iso α) (r' : Rep) : Prop where
  lab : s'.lab = labelsOf r'
  ps : s'.ps.map (canonP ps r') = s.ps.map (canonP ps r)
  ls : s'.ls.map (canonL a mat r') = s.ls.map (canonL a mat r)
  temp : kelvin r' s'.temp = kelvin r s.temp

lemma Conserved.refl (ps : α) (a : Ads α) (mat : Mat α) (s : Iso α) (r : Rep) (h : s.lab = labelsOf r) :
    Conserved ps a mat s r s r := ⟨h, rfl, rfl, rfl⟩

lemma Conserved.trans {ps : α} {a : Ads α} {mat : Mat α} {s s' s'' : Iso α} {r r' r'' : Rep}
    (h1 : Conserved ps a mat s r s' r') (h2 : Conserved ps a mat s' r' s'' r'') :
    Conserved ps a mat s r s'' r'' :=
  ⟨h2.lab, h2.ps.trans h1.ps, h2.ls.trans h1.ls, h2.temp.trans h1.temp⟩

/-- row-wise reading of `Conserved`: the i-th stored pressure / loading carries the content of the i-th original one
(and there is an i-th row on one side iff there is one on the other) -/
theorem Conserved.rowwise {ps : α} {a : Ads α} {mat : Mat α} {s s' : Iso α} {r r' : Rep}
    (h : Conserved ps a mat s r s' r') (i : Nat) :
    (s'.ps[i]?).map (canonP ps r') = (s.ps[i]?).map (canonP ps r) ∧
    (s'.ls[i]?).map (canonL a mat r') = (s.ls[i]?).map (canonL a mat r) := by
  have h1 := congrArg (fun l => l[i]?) h.ps
  have h2 := congrArg (fun l => l[i]?) h.ls
  simp only [List.getElem?_map] at h1 h2
  exact ⟨h1, h2⟩

lemma map_mul_read (l : List α) {k y x : α} (h : k * y = x) : (l.map (· * k)).map (· * y) = l.map (· * x) := by
  rw [map_mul_mul, h]

lemma canonL_eq (a : Ads α) (mat : Mat α) (r : Rep) : canonL a mat r = (· * (slOf a r.l r.m / gmOf mat r.m)) :=
  funext fun v => mul_div_assoc ..

lemma spOf_eq {ps : α} {p : PRep} {x : α} (h : p.scale Gen.pressureUnits ps = some x) : spOf ps p = x := by
  simp [spOf, h]
lemma slOf_eq {a : Ads α} {l : LRep} {m : MRep} {x : α} (h : l.scale Gen.unitTable a m = some x) :
    slOf a l m = x := by simp [slOf, h]
lemma gmOf_eq {mat : Mat α} {m : MRep} {x : α} (h : m.grams Gen.unitTable mat = some x) : gmOf mat m = x := by
  simp [gmOf, h]

lemma Rep.Valid.scales {ps : α} {a : Ads α} {mat : Mat α} {r : Rep} (hps : ps ≠ 0) (hp : a.Pos) (hmp : Mat.Pos mat)
    (h : Rep.Valid ps a mat r) :
    (r.p.scale Gen.pressureUnits ps = some (spOf ps r.p) ∧ spOf ps r.p ≠ 0) ∧
    (r.l.scale Gen.unitTable a r.m = some (slOf a r.l r.m) ∧ slOf a r.l r.m ≠ 0) ∧
    (r.m.grams Gen.unitTable mat = some (gmOf mat r.m) ∧ gmOf mat r.m ≠ 0) := by
  obtain ⟨h1, h2, h3, _⟩ := h
  obtain ⟨x, hx⟩ := Option.isSome_iff_exists.1 h1
  obtain ⟨y, hy⟩ := Option.isSome_iff_exists.1 h2
  obtain ⟨z, hz⟩ := Option.isSome_iff_exists.1 h3
  rw [spOf_eq hx, slOf_eq hy, gmOf_eq hz]
  exact ⟨⟨hx, scale_ne_zero_gen ps hps _ _ hx⟩, ⟨hy, Units.scale_ne_zero hp hy⟩,
    ⟨hz, grams_ne_zero_gen mat hmp _ _ hz⟩⟩

/-! ## C. Histories -/

inductive TOp | toP (t : PRep) | toL (l : LRep) | toM (m : MRep) | toT (t : TRep)

/-- the call a typed request stands for: the single-quantity method with both arguments given -/
def TOp.toOp : TOp → Op
  | .toP t => .pressure (some t.mode) t.unit
  | .toL l => .loading (some l.basis) l.unit
  | .toM m => .material (some m.b.name) (some m.u)
  | .toT t => .temperature (some t.label)

def TOp.apply (r : Rep) : TOp → Rep
  | .toP t => { r with p := t }
  | .toL l => { r with l := l }
  | .toM m => { r with m := m }
  | .toT t => { r with t := normT t }

/-- the target is supported (a fraction / percent target needs nothing: it is expressed in the current, valid,
material representation) -/
def TOp.Valid (ps : α) (a : Ads α) (mat : Mat α) : TOp → Prop
  | .toP t => (t.scale Gen.pressureUnits ps).isSome
  | .toL (.phys b u) => (physScale Gen.unitTable a b u).isSome
  | .toL _ => True
  | .toM m => (m.grams Gen.unitTable mat).isSome
  | .toT t => TRep.Valid t

lemma valid_apply (ps : α) (a : Ads α) (mat : Mat α) (r : Rep) (op : TOp)
    (hr : Rep.Valid ps a mat r) (hop : TOp.Valid ps a mat op) : Rep.Valid ps a mat (TOp.apply r op) := by
  obtain ⟨h1, h2, h3, h4⟩ := hr
  cases op with
  | toP t => exact ⟨hop, h2, h3, h4⟩
  | toL l =>
    refine ⟨h1, ?_, h3, h4⟩
    obtain ⟨g, hg⟩ := Option.isSome_iff_exists.1 h3
    obtain ⟨p, hp⟩ := own_scale_of_grams a mat r.m g hg
    cases l with
    | phys b u => exact hop
    | frac => simp [TOp.apply, LRep.scale, hp]
    | pct => simp [TOp.apply, LRep.scale, hp]
  | toM m =>
    obtain ⟨y, hy⟩ := Option.isSome_iff_exists.1 h2
    obtain ⟨g, hg⟩ := Option.isSome_iff_exists.1 hop
    obtain ⟨y', hy'⟩ := lscale_of_grams a mat r.l r.m m y g hy hg
    exact ⟨h1, by simp [TOp.apply, hy'], hop, h4⟩
  | toT t => exact ⟨h1, h2, h3, by cases t <;> simp [TOp.apply, normT]⟩

theorem step_typed (ps : α) (hps : ps ≠ 0) (a : Ads α) (mat : Mat α) (hc : a.Consistent) (hp : a.Pos) (hmp : Mat.Pos mat)
    (s : Iso α) (r : Rep) (op : TOp) (hs : s.lab = labelsOf r)
    (hr : Rep.Valid ps a mat r) (hop : TOp.Valid ps a mat op) :
    (step ⟨some ps, envOf a mat, true⟩ s op.toOp).2 = .ok ∧
    Conserved ps a mat s r (step ⟨some ps, envOf a mat, true⟩ s op.toOp).1 (TOp.apply r op) ∧
    Rep.Valid ps a mat (TOp.apply r op) := by
  have hv' := valid_apply ps a mat r op hr hop
  obtain ⟨⟨hsp, hspn⟩, ⟨hsl, hsln⟩, ⟨hg, hgn⟩⟩ := hr.scales hps hp hmp
  obtain ⟨⟨hsp', hspn'⟩, ⟨hsl', hsln'⟩, ⟨hg', hgn'⟩⟩ := hv'.scales hps hp hmp
  -- each case: the explicit effect of the typed call; the rewritten column keeps its canonical content because the
  -- factor is old scale over new scale (`map_mul_read`), the other columns because their representation has not changed
  cases op with
  | toP t =>
    simp only [step, TOp.toOp]
    obtain ⟨h1, h2, h3, h4, h5⟩ := convertPressure_typed ps hps (envOf a mat) s r t _ _ hs hsp hsp'
    refine ⟨h1, ⟨h2, ?_, by rw [h3]; rfl, by rw [h4]; rfl⟩, hv'⟩
    rw [h5]
    exact map_mul_read _ (div_mul_cancel₀ _ hspn')
  | toL l =>
    simp only [step, TOp.toOp]
    obtain ⟨h1, h2, h3, h4, h5⟩ := convertLoading_typed a mat hc hp (some ps) true s r l _ _ hs hsl hsl'
    refine ⟨h1, ⟨h2, by rw [h3]; rfl, ?_, by rw [h4]; rfl⟩, hv'⟩
    rw [h5, canonL_eq, canonL_eq]
    exact map_mul_read _ (div_mul_div_cancel₀ hsln')
  | toM m =>
    simp only [step, TOp.toOp]
    obtain ⟨h1, h2, h3, h4, h5⟩ :=
      convertMaterial_typed a mat hc hp hmp (some ps) true s r m _ _ _ _ hs hsl hg hsl' hg'
    refine ⟨h1, ⟨h2, by rw [h3]; rfl, ?_, by rw [h4]; rfl⟩, hv'⟩
    rw [h5, canonL_eq, canonL_eq]
    exact map_mul_read _ (div_mul_cancel₀ _ (div_ne_zero hsln' hgn'))
  | toT t =>
    simp only [step, TOp.toOp]
    obtain ⟨h1, h2, h3, h4, _, h6⟩ := convertTemperature_typed s r t hs hr.2.2.2 hop
    exact ⟨h1, ⟨h2, by rw [h3]; rfl, by rw [h4]; rfl, h6⟩, hv'⟩

/-- `s`, read in the representation `r`, is a valid isotherm that carries the content of `s0` read in `r0`: the
invariant of every history -/
structure Tracks (ps : α) (a : Ads α) (mat : Mat α) (s0 : Iso α) (r0 : Rep) (s : Iso α) (r : Rep) : Prop where
  valid : Rep.Valid ps a mat r
  conserved : Conserved ps a mat s0 r0 s r

section
variable {ps : α} {a : Ads α} {mat : Mat α} {s0 s : Iso α} {r0 r : Rep}

lemma Tracks.refl (hs : s0.lab = labelsOf r0) (hr : Rep.Valid ps a mat r0) : Tracks ps a mat s0 r0 s0 r0 :=
  ⟨hr, .refl ps a mat s0 r0 hs⟩

lemma Tracks.validLabels (h : Tracks ps a mat s0 r0 s r) : validLabels s.lab = true := by
  rw [h.conserved.lab]; exact validLabels_of_valid ps a mat r h.valid

lemma Tracks.step (hps : ps ≠ 0) (hc : a.Consistent) (hp : a.Pos) (hmp : Mat.Pos mat) (h : Tracks ps a mat s0 r0 s r)
    {op : TOp} (hop : TOp.Valid ps a mat op) :
    Tracks ps a mat s0 r0 (Model.step ⟨some ps, envOf a mat, true⟩ s op.toOp).1 (TOp.apply r op) := by
  obtain ⟨_, hcn, hv⟩ := step_typed ps hps a mat hc hp hmp s r op h.conserved.lab h.valid hop
  exact ⟨hv, h.conserved.trans hcn⟩

end

/-- after ANY list of typed conversions with supported targets, the labels name exactly the
representation obtained by applying the requests in order, those labels would be accepted by the constructor, and the
stored pressures, loadings and temperature carry row by row the same Pa, mol/g and K as the original data. -/
theorem history_invariant (ps : α) (hps : ps ≠ 0) (a : Ads α) (mat : Mat α) (hc : a.Consistent) (hp : a.Pos)
    (hmp : Mat.Pos mat) (ops : List TOp) (hops : ∀ op ∈ ops, TOp.Valid ps a mat op)
    (s0 : Iso α) (r0 : Rep) (hs : s0.lab = labelsOf r0) (hr : Rep.Valid ps a mat r0) :
    (run ⟨some ps, envOf a mat, true⟩ s0 (ops.map TOp.toOp)).lab = labelsOf (ops.foldl TOp.apply r0) ∧
    validLabels (run ⟨some ps, envOf a mat, true⟩ s0 (ops.map TOp.toOp)).lab = true ∧
    Rep.Valid ps a mat (ops.foldl TOp.apply r0) ∧
    Conserved ps a mat s0 r0 (run ⟨some ps, envOf a mat, true⟩ s0 (ops.map TOp.toOp)) (ops.foldl TOp.apply r0) := by
  have h := run_induction (R := Tracks ps a mat s0 r0) _ TOp.toOp TOp.apply ops
    (fun op hop s r h => h.step hps hc hp hmp (hops op hop)) s0 r0 (.refl hs hr)
  exact ⟨h.conserved.lab, h.validLabels, h.valid, h.conserved⟩

lemma map_mul_cancel (l1 l2 : List α) (x y : α) (hx : x ≠ 0)
    (h : l1.map (· * x) = l2.map (· * y)) : l1 = l2.map (· * (y / x)) := by
  have h' := congrArg (List.map (· * x⁻¹)) h
  rwa [map_mul_mul, map_mul_mul, mul_inv_cancel₀ hx, map_mul_one, ← div_eq_mul_inv] at h'

lemma TRep.ofK_toK (t : TRep) (v : α) : t.ofK (t.toK v) = v := by
  cases t <;> simp [Spec.TRep.toK, Spec.TRep.ofK]

/-- conservation under a valid final representation, solved for the stored numbers -/
lemma Conserved.direct {ps : α} {a : Ads α} {mat : Mat α} {s0 sf : Iso α} {r0 rf : Rep}
    (hps : ps ≠ 0) (hp : a.Pos) (hmp : Mat.Pos mat)
    (hvf : Rep.Valid ps a mat rf) (hcons : Conserved ps a mat s0 r0 sf rf) :
    sf.ps = s0.ps.map (· * (spOf ps r0.p / spOf ps rf.p)) ∧
    sf.ls = s0.ls.map (· * ((slOf a r0.l r0.m / gmOf mat r0.m) / (slOf a rf.l rf.m / gmOf mat rf.m))) ∧
    sf.temp = rf.t.ofK (r0.t.toK s0.temp) := by
  obtain ⟨⟨_, hspn⟩, ⟨_, hsln⟩, ⟨_, hgn⟩⟩ := hvf.scales hps hp hmp
  refine ⟨map_mul_cancel _ _ _ _ hspn hcons.ps, ?_, ?_⟩
  · have h := hcons.ls
    rw [canonL_eq, canonL_eq] at h
    exact map_mul_cancel _ _ _ _ (div_ne_zero hsln hgn) h
  · rw [← TRep.ofK_toK rf.t sf.temp]
    exact congrArg _ hcons.temp

/-- history = direct conversion: the final columns are the ORIGINAL columns converted in one step to the final
representation (pressure: Pa per original unit over Pa per final unit; loading: ratio of the canonical contents,
mol adsorbate per gram material), and the final temperature is the original one converted through Kelvin. -/
theorem history_direct (ps : α) (hps : ps ≠ 0) (a : Ads α) (mat : Mat α) (hc : a.Consistent) (hp : a.Pos)
    (hmp : Mat.Pos mat) (ops : List TOp) (hops : ∀ op ∈ ops, TOp.Valid ps a mat op)
    (s0 : Iso α) (r0 : Rep) (hs : s0.lab = labelsOf r0) (hr : Rep.Valid ps a mat r0) :
    let sf := run ⟨some ps, envOf a mat, true⟩ s0 (ops.map TOp.toOp)
    let rf := ops.foldl TOp.apply r0
    sf.ps = s0.ps.map (· * (spOf ps r0.p / spOf ps rf.p)) ∧
    sf.ls = s0.ls.map (· * ((slOf a r0.l r0.m / gmOf mat r0.m) / (slOf a rf.l rf.m / gmOf mat rf.m))) ∧
    sf.temp = rf.t.ofK (r0.t.toK s0.temp) := by
  intro sf rf
  obtain ⟨_, _, hvf, hcons⟩ := history_invariant ps hps a mat hc hp hmp ops hops s0 r0 hs hr
  exact hcons.direct hps hp hmp hvf

theorem back_to_start (ps : α) (hps : ps ≠ 0) (a : Ads α) (mat : Mat α) (hc : a.Consistent) (hp : a.Pos)
    (hmp : Mat.Pos mat) (ops : List TOp) (hops : ∀ op ∈ ops, TOp.Valid ps a mat op)
    (s0 : Iso α) (r0 : Rep) (hs : s0.lab = labelsOf r0) (hr : Rep.Valid ps a mat r0)
    (hback : ops.foldl TOp.apply r0 = r0) :
    let sf := run ⟨some ps, envOf a mat, true⟩ s0 (ops.map TOp.toOp)
    sf.ps = s0.ps ∧ sf.ls = s0.ls ∧ sf.temp = s0.temp ∧ sf.lab = s0.lab := by
  intro sf
  obtain ⟨hl, _, hv, hcn⟩ := history_invariant ps hps a mat hc hp hmp ops hops s0 r0 hs hr
  obtain ⟨h1, h2, h3⟩ := hcn.direct hps hp hmp hv
  obtain ⟨⟨_, hspn⟩, ⟨_, hsln⟩, ⟨_, hgn⟩⟩ := hr.scales hps hp hmp
  rw [hback] at h1 h2 h3 hl
  exact ⟨by rw [h1, div_self hspn, map_mul_one], by rw [h2, div_self (div_ne_zero hsln hgn), map_mul_one],
    by rw [h3, TRep.ofK_toK], by rw [hl, hs]⟩

/-- a step of a mixed history: a typed request, or an arbitrary call (any strings) -/
inductive HStep | typed (t : TOp) | raw (o : Op)

def HStep.toOp : HStep → Op
  | .typed t => t.toOp | .raw o => o

/-- a raw (refused) call leaves the representation alone -/
def HStep.apply (r : Rep) : HStep → Rep
  | .typed t => TOp.apply r t | .raw _ => r

/-- every typed request has a supported target; every raw call is a single-quantity call (not `convert(...)`) that is
REFUSED at the state in which it is issued -/
def Admissible (ps : α) (a : Ads α) (mat : Mat α) (c : Ctx α) : Iso α → List HStep → Prop
  | _, [] => True
  | s, .typed t :: rest => TOp.Valid ps a mat t ∧ Admissible ps a mat c (step c s t.toOp).1 rest
  | s, .raw o :: rest =>
      (∀ pm pu lb lu mb mu, o ≠ .all pm pu lb lu mb mu) ∧ (step c s o).2 ≠ .ok ∧
      Admissible ps a mat c (step c s o).1 rest

/-- along an admissible mixed history the invariant is kept: a typed request keeps it, a refused call changes nothing -/
lemma Tracks.admissible {ps : α} {a : Ads α} {mat : Mat α} {s0 : Iso α} {r0 : Rep} (hps : ps ≠ 0) (hc : a.Consistent)
    (hp : a.Pos) (hmp : Mat.Pos mat) (steps : List HStep) (s : Iso α) (r : Rep) (h : Tracks ps a mat s0 r0 s r)
    (hadm : Admissible ps a mat ⟨some ps, envOf a mat, true⟩ s steps) :
    Tracks ps a mat s0 r0 (run ⟨some ps, envOf a mat, true⟩ s (steps.map HStep.toOp)) (steps.foldl HStep.apply r) := by
  induction steps generalizing s r with
  | nil => exact h
  | cons st steps ih =>
    cases st with
    | typed t => exact ih _ _ (h.step hps hc hp hmp hadm.1) hadm.2
    | raw o =>
      have hun := step_single_refused_unchanged _ s o hadm.1 hadm.2.1
      show Tracks ps a mat s0 r0 (run _ (Model.step _ s o).1 _) _
      rw [hun]
      exact ih s r h (hun ▸ hadm.2.2)

/-- a history made of typed successful requests and arbitrary REFUSED single-quantity calls
(any string arguments, any error class) satisfies the same conclusions as a history of the typed requests alone:
each refused call leaves the state exactly as it was (part A), so labels, validity, conservation and the direct-conversion
form all survive. -/
theorem refusals_interleaved (ps : α) (hps : ps ≠ 0) (a : Ads α) (mat : Mat α) (hc : a.Consistent) (hp : a.Pos)
    (hmp : Mat.Pos mat) (steps : List HStep) (s0 : Iso α) (r0 : Rep)
    (hadm : Admissible ps a mat ⟨some ps, envOf a mat, true⟩ s0 steps)
    (hs : s0.lab = labelsOf r0) (hr : Rep.Valid ps a mat r0) :
    let sf := run ⟨some ps, envOf a mat, true⟩ s0 (steps.map HStep.toOp)
    let rf := steps.foldl HStep.apply r0
    sf.lab = labelsOf rf ∧ validLabels sf.lab = true ∧ Rep.Valid ps a mat rf ∧ Conserved ps a mat s0 r0 sf rf ∧
    sf.ps = s0.ps.map (· * (spOf ps r0.p / spOf ps rf.p)) ∧
    sf.ls = s0.ls.map (· * ((slOf a r0.l r0.m / gmOf mat r0.m) / (slOf a rf.l rf.m / gmOf mat rf.m))) ∧
    sf.temp = rf.t.ofK (r0.t.toK s0.temp) := by
  intro sf rf
  have h := Tracks.admissible hps hc hp hmp steps s0 r0 (.refl hs hr) hadm
  obtain ⟨d1, d2, d3⟩ := h.conserved.direct hps hp hmp h.valid
  exact ⟨h.conserved.lab, h.validLabels, h.valid, h.conserved, d1, d2, d3⟩

/-! ## D. Completeness of validation: ANY single-quantity call, arbitrary string arguments

The idea: a call with arbitrary strings is refused (and then changes nothing), or its resolved arguments are those of a
typed request with a supported target — so it IS that typed request, and part B applies. -/

lemma checkUnit_cases (t : List (String × Nat × Nat)) (u : Option String) :
    (∃ y, ∃ f : α, u = some y ∧ y ≠ "" ∧ (facOf t y : Option α) = some f ∧ (checkUnit t u : Except Err α) = .ok f) ∨
    (checkUnit t u : Except Err α) = .error .param := by
  cases u with
  | none => right; rfl
  | some y =>
    by_cases hy : y = ""
    · right; simp [checkUnit, hy]
    · cases hf : (facOf t y : Option α) with
      | none => right; simp [checkUnit, hy, hf]
      | some f => left; exact ⟨y, f, rfl, hy, hf, by simp [checkUnit, hy, hf]⟩

lemma orCurrent_cases (arg : Option String) (cur : String) :
    orCurrent arg cur = cur ∨ ∃ x, arg = some x ∧ x ≠ "" ∧ orCurrent arg cur = x := by
  cases arg with
  | none => exact Or.inl rfl
  | some x =>
    by_cases hx : x = ""
    · left; simp [orCurrent, hx]
    · right; exact ⟨x, rfl, hx, by simp [orCurrent, hx]⟩

lemma orCurrent_idem (arg : Option String) (cur : String) :
    orCurrent (some (orCurrent arg cur)) cur = orCurrent arg cur := by
  rcases orCurrent_cases arg cur with h | ⟨x, -, hx, h⟩ <;> rw [h]
  · simp [orCurrent]
  · exact orCurrent_some hx

lemma unitArg_idem (u : Option String) (same : Bool) (cur : Option String) :
    unitArg (unitArg u same cur) same cur = unitArg u same cur := by
  unfold unitArg
  by_cases h : (!truthy u && same) = true <;> simp [h]

lemma unitArg_eq_cur (u : Option String) (m' cur' : String) (cur : Option String) (h1 : m' = cur')
    (h2 : truthy (unitArg u (decide (m' = cur')) cur) = false) : unitArg u (decide (m' = cur')) cur = cur := by
  unfold unitArg at h2 ⊢
  cases ht : truthy u <;> simp [ht, h1] at h2 ⊢

/-- with a basis that stays, a unit argument that leaves the early return behind is a truthy unit other than the
current one (an omitted one has been resolved to it) -/
lemma unit_of_not_same {b cur : String} {u curU : Option String} (he : ¬(b = cur ∧ u = curU))
    (hres : b = cur → truthy u = false → u = curU) (e1 : b = cur) : truthy u = true ∧ curU ≠ u := by
  refine ⟨?_, fun h => he ⟨e1, h.symm⟩⟩
  by_contra hf
  exact he ⟨e1, hres e1 (by simpa using hf)⟩

lemma pLabel_mode_cases (a : PRep) :
    (pLabel a).1 = "absolute" ∨ (pLabel a).1 = "relative" ∨ (pLabel a).1 = "relative%" := by
  cases a <;> simp [pLabel]

/-- converting to `absolute` with an unusable unit is refused (the guard excludes the one case where the code does not
look at the unit: absolute → absolute with a falsy unit, which `convert_pressure` resolves to the current unit) -/
lemma cPressure_abs_bad (ps : α) (v : α) (a : PRep) (ut : Option String)
    (hbad : (checkUnit Gen.pressureUnits ut : Except Err α) = .error .param)
    (hg : a.mode = "absolute" → truthy ut = true) :
    ∃ e, cPressure (some ps) true v (some a.mode) (some "absolute") a.unit ut = .error e := by
  refine ⟨.param, ?_⟩
  obtain ⟨ta, hma⟩ := checkBasis_pressure a
  have hmb : checkBasis Gen.pressureMode (some "absolute") = .ok ("absolute", some "pressure") := rfl
  by_cases hm : a.mode = "absolute"
  · -- absolute → absolute: a truthy unit is converted, and the conversion checks it
    rw [hm] at hma ⊢
    rw [cPressure_same _ _ _ _ _ hma hmb]
    simp [hg hm, cUnit, hbad, bind, Except.bind]
  · -- relative → absolute: the unit of the absolute side is checked first
    rw [cPressure_abs _ _ _ _ _ hma hmb hm (.inr rfl), if_neg hm, hbad]
    rfl

/-- any pressure call (resolved arguments `m'`, `u'`): refused and unchanged, or `m'`, `u'` are the mode and unit of
a supported `PRep` -/
lemma pCore_any (ps : α) (env : Env α) (s : Iso α) (r : Rep) (sp : α) (hs : s.lab = labelsOf r)
    (hsp : r.p.scale Gen.pressureUnits ps = some sp)
    (m' : String) (u' : Option String) (hres : m' = s.lab.pmode → truthy u' = false → u' = s.lab.punit) :
    ((pCore ⟨some ps, env, true⟩ s m' u').2 ≠ .ok ∧ (pCore ⟨some ps, env, true⟩ s m' u').1 = s) ∨
    ∃ t : PRep, (t.scale Gen.pressureUnits ps).isSome ∧ t.mode = m' ∧ t.unit = u' := by
  have hm : s.lab.pmode = (pLabel r.p).1 := by rw [hs]; rfl
  have hu : s.lab.punit = (pLabel r.p).2 := by rw [hs]; rfl
  by_cases h1 : m' = "relative"
  · exact .inr ⟨.rel u', rfl, h1.symm, rfl⟩
  by_cases h2 : m' = "relative%"
  · exact .inr ⟨.relp u', rfl, h2.symm, rfl⟩
  by_cases he : m' = s.lab.pmode ∧ u' = s.lab.punit
  · -- the current representation, in canonical form
    exact .inr ⟨canonPRep r.p, by rw [canonPRep_scale, hsp]; rfl, by rw [canonPRep_mode, ← hm, he.1],
      by rw [canonPRep_unit, ← hu, he.2]⟩
  have refused : (∃ e, cPressure (some ps) true (1 : α) (some s.lab.pmode) (some m') s.lab.punit u' = .error e) →
      (pCore ⟨some ps, env, true⟩ s m' u').2 ≠ .ok ∧ (pCore ⟨some ps, env, true⟩ s m' u').1 = s := by
    rintro ⟨e, hce⟩
    rw [pCore_of_error (c := ⟨some ps, env, true⟩) he hce]
    exact ⟨by simp, rfl⟩
  by_cases h3 : m' = "absolute"
  · rcases checkUnit_cases (α := α) Gen.pressureUnits u' with ⟨y, f, rfl, hy, hf, _⟩ | hbad
    · exact .inr ⟨.abs y, by simp only [Spec.PRep.scale, hy, if_false]; rw [← facOf_eq_fac, hf]; rfl, h3.symm, rfl⟩
    · refine .inl (refused ?_)
      have := cPressure_abs_bad ps (1 : α) (canonPRep r.p) u' hbad fun hmode =>
        (unit_of_not_same he hres (by rw [h3, hm, ← canonPRep_mode, hmode])).1
      rwa [canonPRep_mode, canonPRep_unit, ← hm, ← hu, ← h3] at this
  · refine .inl (refused ⟨.param, ?_⟩)
    have hl : Gen.pressureMode.lookup m' = none := by
      simp [Gen.pressureMode, List.lookup, beq_eq_false_iff_ne.2 h1, beq_eq_false_iff_ne.2 h2, beq_eq_false_iff_ne.2 h3]
    exact C01.cPressure_refuses_mode _ _ _ _ _ _ _
      (Or.inr (C01.checkBasis_refuses Gen.pressureMode (some m') (Or.inr (Or.inr ⟨m', rfl, hl⟩))))

lemma cTemperature_ok_inv (v x : α) (uf ut : Option String) (h : cTemperature v uf ut = .ok x) :
    ∃ t : TRep, TRep.Valid t ∧ ut = some t.label := by
  cases ut with
  | none => simp [cTemperature, normTemp, checkTemp, bind, Except.bind] at h
  | some y =>
    by_cases hy : y ≠ "" ∧ containsC y = true
    · exact ⟨.C y, hy, rfl⟩
    by_cases hK : y = "K"
    · exact ⟨.K, trivial, by rw [hK]; rfl⟩
    -- neither kelvin nor a Celsius spelling: `checkTemp` refuses it
    exfalso
    have hc : containsC y = false := by
      by_cases h0 : y = ""
      · rw [h0]; rfl
      · simpa [h0] using hy
    simp [cTemperature, normTemp, hc, checkTemp_other_spelling (α := α) y hK hc, bind, Except.bind] at h

lemma convertTemperature_any (s : Iso α) (u : Option String) :
    ((convertTemperature s u).2 ≠ .ok ∧ (convertTemperature s u).1 = s) ∨
    ∃ t : TRep, TRep.Valid t ∧ u = some t.label := by
  cases h : cTemperature s.temp s.lab.tunit u with
  | error e =>
    rw [convertTemperature_of_error h]
    exact .inl ⟨refused_of_err rfl, rfl⟩
  | ok x => exact .inr (cTemperature_ok_inv _ _ _ _ h)

lemma mb_cases (b' : String) : (∃ b : MB, b.name = b') ∨ Gen.materialMode.lookup b' = none := by
  by_cases h1 : b' = "mass"
  · exact Or.inl ⟨.mass, h1.symm⟩
  by_cases h2 : b' = "volume"
  · exact Or.inl ⟨.volume, h2.symm⟩
  by_cases h3 : b' = "molar"
  · exact Or.inl ⟨.molar, h3.symm⟩
  right
  simp [Gen.materialMode, List.lookup, beq_eq_false_iff_ne.2 h1, beq_eq_false_iff_ne.2 h2, beq_eq_false_iff_ne.2 h3]

/-- a material conversion whose target unit is unusable is refused (guard: for an unchanged basis the code only looks at
a truthy unit different from the current one — `convert_material` has resolved the other cases before) -/
lemma cMaterial_bad_unit (env : Env α) (v : α) (b1 b2 : MB) (u1 : String) (ut : Option String)
    (hbad : (checkUnit (Gen.unitTable b2.table) ut : Except Err α) = .error .param)
    (hg : b1 = b2 → truthy ut = true ∧ some u1 ≠ ut) :
    ∃ e, cMaterial env v (some b1.name) (some b2.name) (some u1) ut = .error e := by
  by_cases hb : b1 = b2
  · subst hb
    obtain ⟨g1, g2⟩ := hg rfl
    refine ⟨.param, ?_⟩
    rw [cMaterial_same _ v _ _ (Units.checkBasis_material b1) (Units.checkBasis_material b1)]
    simp [g1, g2, cUnit, hbad, bind, Except.bind]
  · exact ⟨.param, C01.cMaterial_refuses_unit env v b1 b2 hb (some u1) ut (Or.inr hbad)⟩

lemma mCore_any (a : Ads α) (mat : Mat α) (psat : Option α) (tOk : Bool) (s : Iso α) (r : Rep) (g : α)
    (hs : s.lab = labelsOf r) (hg : r.m.grams Gen.unitTable mat = some g)
    (b' : String) (u' : Option String) (hres : b' = s.lab.mbasis → truthy u' = false → u' = s.lab.munit) :
    ((mCore ⟨psat, envOf a mat, tOk⟩ s b' u').2 ≠ .ok ∧ (mCore ⟨psat, envOf a mat, tOk⟩ s b' u').1 = s) ∨
    ∃ m : MRep, (m.grams Gen.unitTable mat).isSome ∧ m.b.name = b' ∧ some m.u = u' := by
  have hmb : s.lab.mbasis = r.m.b.name := by rw [hs]; rfl
  have hmu : s.lab.munit = some r.m.u := by rw [hs]; rfl
  by_cases he : b' = s.lab.mbasis ∧ u' = s.lab.munit
  · exact .inr ⟨r.m, by rw [hg]; rfl, by rw [he.1, hmb], by rw [he.2, hmu]⟩
  have refused : (∃ e, cMaterial (envOf a mat) (1 : α) (some s.lab.mbasis) (some b') s.lab.munit u' = .error e) →
      (mCore ⟨psat, envOf a mat, tOk⟩ s b' u').2 ≠ .ok ∧ (mCore ⟨psat, envOf a mat, tOk⟩ s b' u').1 = s := by
    rintro ⟨e, hce⟩
    rw [mCore_of_error (c := ⟨psat, envOf a mat, tOk⟩) he hce]
    exact ⟨by simp, rfl⟩
  rcases mb_cases b' with ⟨b, rfl⟩ | hnone
  · rcases checkUnit_cases (α := α) (Gen.unitTable b.table) u' with ⟨y, f, rfl, hy, hf, _⟩ | hbad
    · exact .inr ⟨⟨b, y⟩, by simp only [Spec.MRep.grams, hy, if_false]; rw [← facOf_eq_fac, hf]; rfl, rfl, rfl⟩
    · refine .inl (refused ?_)
      rw [hmb, hmu]
      refine cMaterial_bad_unit _ _ _ _ _ _ hbad fun hbb => ?_
      rw [← hmu]
      exact unit_of_not_same he hres (by rw [hmb, hbb])
  · refine .inl (refused ⟨.param, ?_⟩)
    have hbt := C01.checkBasis_refuses Gen.materialMode (some b') (Or.inr (Or.inr ⟨b', rfl, hnone⟩))
    rw [hmb]
    simp [cMaterial, Units.checkBasis_material, hbt, bind, Except.bind]

lemma lb_cases (b' : String) :
    (∃ b : LB, b.name = b') ∨ b' = "fraction" ∨ b' = "percent" ∨ Gen.loadingMode.lookup b' = none := by
  by_cases h1 : b' = "mass"
  · exact Or.inl ⟨.mass, h1.symm⟩
  by_cases h2 : b' = "volume_gas"
  · exact Or.inl ⟨.volGas, h2.symm⟩
  by_cases h3 : b' = "volume_liquid"
  · exact Or.inl ⟨.volLiq, h3.symm⟩
  by_cases h4 : b' = "molar"
  · exact Or.inl ⟨.molar, h4.symm⟩
  by_cases h5 : b' = "fraction"
  · exact Or.inr (Or.inl h5)
  by_cases h6 : b' = "percent"
  · exact Or.inr (Or.inr (Or.inl h6))
  right; right; right
  simp [Gen.loadingMode, List.lookup, beq_eq_false_iff_ne.2 h1, beq_eq_false_iff_ne.2 h2, beq_eq_false_iff_ne.2 h3, beq_eq_false_iff_ne.2 h4, beq_eq_false_iff_ne.2 h5, beq_eq_false_iff_ne.2 h6]

lemma checkBasis_lrep (l : LRep) : ∃ tf, checkBasis Gen.loadingMode (some l.basis) = .ok (l.basis, tf) := by
  cases l with
  | phys b u => exact ⟨_, Units.checkBasis_loading b⟩
  | frac => exact ⟨_, frac_basis⟩
  | pct => exact ⟨_, pct_basis⟩

/-- a loading conversion to a physical basis whose unit is unusable is refused (guard as for the material) -/
lemma cLoading_bad_unit (env : Env α) (v : α) (l1 : LRep) (b2 : LB) (ut bm um : Option String)
    (hbad : (checkUnit (Gen.unitTable b2.table) ut : Except Err α) = .error .param)
    (hg : l1.basis = b2.name → truthy ut = true ∧ l1.unit ≠ ut) :
    ∃ e, cLoading env v (some l1.basis) (some b2.name) l1.unit ut bm um = .error e := by
  cases l1 with
  | phys b1 u1 =>
    by_cases hb : b1 = b2
    · subst hb
      obtain ⟨g1, g2⟩ := hg rfl
      refine ⟨.param, ?_⟩
      simp only [LRep.unit] at g2
      rw [LRep.basis, LRep.unit, cLoading_same _ v _ _ bm um (Units.checkBasis_loading b1) (Units.checkBasis_loading b1)]
      simp [g1, g2, cUnit, hbad, bind, Except.bind]
    · exact ⟨.param, C01.cLoading_refuses_unit env v b1 b2 hb (some u1) ut bm um (Or.inr hbad)⟩
  | frac =>
    refine ⟨.param, ?_⟩
    have hne : "fraction" ≠ b2.name := (LB.name_ne_fraction b2).symm
    simp [cLoading, LRep.basis, frac_basis, Units.checkBasis_loading, hne, hbad, bind, Except.bind]
  | pct =>
    refine ⟨.param, ?_⟩
    have hne : "percent" ≠ b2.name := (LB.name_ne_percent b2).symm
    simp [cLoading, LRep.basis, pct_basis, Units.checkBasis_loading, hne, hbad, bind, Except.bind]

/-- towards fraction / percent the target unit argument is never looked at -/
lemma cLoading_frac_unit_indep (env : Env α) (v : α) (l1 : LRep) (bt : String)
    (hbt : bt = "fraction" ∨ bt = "percent") (hne : l1.basis ≠ bt) (uf ut bm um : Option String) :
    cLoading env v (some l1.basis) (some bt) uf ut bm um = cLoading env v (some l1.basis) (some bt) uf none bm um := by
  obtain ⟨tf, hb1⟩ := checkBasis_lrep l1
  have hb2 : checkBasis Gen.loadingMode (some bt) = .ok (bt, none) := by
    rcases hbt with rfl | rfl
    exacts [frac_basis, pct_basis]
  have hfr : isFrac bt = true := by rcases hbt with rfl | rfl <;> rfl
  -- with no unit table on the target side `ut` is not checked, and the unit used is the material's
  simp only [cLoading, hb1, hb2, hne, hfr, bind, Except.bind, ne_eq, not_false_eq_true, if_true, Bool.and_true]

/-- any loading call: refused and unchanged, or the same call as with the basis and unit of a supported `LRep` -/
lemma lCore_any (a : Ads α) (mat : Mat α) (psat : Option α) (tOk : Bool) (s : Iso α) (r : Rep) (sl g : α)
    (hs : s.lab = labelsOf r)
    (hsl : r.l.scale Gen.unitTable a r.m = some sl) (hg : r.m.grams Gen.unitTable mat = some g)
    (b' : String) (u' : Option String) (hres : b' = s.lab.lbasis → truthy u' = false → u' = s.lab.lunit) :
    ((lCore ⟨psat, envOf a mat, tOk⟩ s b' u').2 ≠ .ok ∧ (lCore ⟨psat, envOf a mat, tOk⟩ s b' u').1 = s) ∨
    ∃ l : LRep, (l.scale Gen.unitTable a r.m).isSome ∧
      lCore ⟨psat, envOf a mat, tOk⟩ s b' u' = lCore ⟨psat, envOf a mat, tOk⟩ s l.basis l.unit := by
  have hb : s.lab.lbasis = r.l.basis := by rw [hs]; rfl
  have hu : s.lab.lunit = r.l.unit := by rw [hs]; rfl
  -- the two early returns: the call is the one that names the current representation
  have current : lCore ⟨psat, envOf a mat, tOk⟩ s b' u' = (s, .ok) →
      ∃ l : LRep, (l.scale Gen.unitTable a r.m).isSome ∧
        lCore ⟨psat, envOf a mat, tOk⟩ s b' u' = lCore ⟨psat, envOf a mat, tOk⟩ s l.basis l.unit :=
    fun h => ⟨r.l, by rw [hsl]; rfl, by rw [h, ← hb, ← hu, lCore_same ⟨rfl, rfl⟩]⟩
  by_cases he : b' = s.lab.lbasis ∧ u' = s.lab.lunit
  · exact .inr (current (lCore_same he))
  by_cases he2 : (isFrac s.lab.lbasis && decide (b' = s.lab.lbasis)) = true
  · exact .inr (current (lCore_frac_same he he2))
  have refused : (∃ e, cLoading (envOf a mat) (1 : α) (some s.lab.lbasis) (some b') s.lab.lunit u'
        (some s.lab.mbasis) s.lab.munit = .error e) →
      (lCore ⟨psat, envOf a mat, tOk⟩ s b' u').2 ≠ .ok ∧ (lCore ⟨psat, envOf a mat, tOk⟩ s b' u').1 = s := by
    rintro ⟨e, hce⟩
    rw [lCore_of_error (c := ⟨psat, envOf a mat, tOk⟩) he he2 hce]
    exact ⟨by simp, rfl⟩
  -- towards fraction / percent: the unit argument is irrelevant
  have fracTarget : isFrac b' = true → (b' = "fraction" ∨ b' = "percent") →
      lCore ⟨psat, envOf a mat, tOk⟩ s b' u' = lCore ⟨psat, envOf a mat, tOk⟩ s b' none := by
    intro hfb hbt
    have hne : b' ≠ s.lab.lbasis := by
      intro h
      apply he2
      simp only [Bool.and_eq_true, decide_eq_true_eq]
      exact ⟨by rw [← h]; exact hfb, h⟩
    have hind := cLoading_frac_unit_indep (envOf a mat) (1 : α) r.l b' hbt (fun h => hne (by rw [hb, h])) s.lab.lunit u'
      (some s.lab.mbasis) s.lab.munit
    rw [← hb] at hind
    have hn1 : ¬(b' = s.lab.lbasis ∧ none = s.lab.lunit) := fun h => hne h.1
    cases hc : cLoading (envOf a mat) (1 : α) (some s.lab.lbasis) (some b') s.lab.lunit u' (some s.lab.mbasis) s.lab.munit with
    | error e =>
      rw [lCore_of_error (c := ⟨psat, envOf a mat, tOk⟩) he he2 hc,
        lCore_of_error (c := ⟨psat, envOf a mat, tOk⟩) hn1 he2 (hind.symm.trans hc)]
    | ok f =>
      rw [lCore_of_ok (c := ⟨psat, envOf a mat, tOk⟩) he he2 hc,
        lCore_of_ok (c := ⟨psat, envOf a mat, tOk⟩) hn1 he2 (hind.symm.trans hc)]
      simp only [hfb, if_true]
  obtain ⟨p, hpown⟩ := own_scale_of_grams a mat r.m g hg
  rcases lb_cases b' with ⟨b, rfl⟩ | rfl | rfl | hnone
  · rcases checkUnit_cases (α := α) (Gen.unitTable b.table) u' with ⟨y, f, rfl, hy, hf, _⟩ | hbad
    · refine .inr ⟨.phys b y, ?_, rfl⟩
      simp only [Spec.LRep.scale, Spec.physScale, hy, if_false]
      rw [← facOf_eq_fac, hf]; rfl
    · refine .inl (refused ?_)
      rw [hb, hu]
      refine cLoading_bad_unit _ _ _ _ _ _ _ hbad fun hbb => ?_
      rw [← hu]
      exact unit_of_not_same he hres (by rw [hb, hbb])
  · exact .inr ⟨.frac, by simp [Spec.LRep.scale, hpown], fracTarget rfl (.inl rfl)⟩
  · exact .inr ⟨.pct, by simp [Spec.LRep.scale, hpown], fracTarget rfl (.inr rfl)⟩
  · refine .inl (refused ⟨.param, ?_⟩)
    have hbt := C01.checkBasis_refuses Gen.loadingMode (some b') (Or.inr (Or.inr ⟨b', rfl, hnone⟩))
    obtain ⟨tf, hb1⟩ := checkBasis_lrep r.l
    rw [hb]
    simp [cLoading, hb1, hbt, bind, Except.bind]

/-- from a valid typed state, ANY single-quantity call with ARBITRARY optional-string arguments either is refused —
then the state is exactly unchanged — or is one of the typed requests of part B, with a supported target -/
lemma step_any_typed (ps : α) (a : Ads α) (mat : Mat α) (hp : a.Pos) (hmp : Mat.Pos mat) (hps : ps ≠ 0)
    (s : Iso α) (r : Rep) (hs : s.lab = labelsOf r) (hr : Rep.Valid ps a mat r)
    (op : Op) (hop : ∀ pm pu lb lu mb mu, op ≠ .all pm pu lb lu mb mu) :
    ((step ⟨some ps, envOf a mat, true⟩ s op).2 ≠ .ok ∧ (step ⟨some ps, envOf a mat, true⟩ s op).1 = s) ∨
    ∃ t : TOp, TOp.Valid ps a mat t ∧
      step ⟨some ps, envOf a mat, true⟩ s op = step ⟨some ps, envOf a mat, true⟩ s t.toOp := by
  obtain ⟨⟨hsp, -⟩, ⟨hsl, -⟩, ⟨hg, -⟩⟩ := hr.scales hps hp hmp
  cases op with
  | all pm pu lb lu mb mu => exact absurd rfl (hop pm pu lb lu mb mu)
  | pressure m u =>
    simp only [step]
    rw [convertPressure_core]
    rcases pCore_any ps (envOf a mat) s r _ hs hsp _ _ (unitArg_eq_cur u (orCurrent m s.lab.pmode) _ _) with
      h | ⟨t, hv, h1, h2⟩
    · exact .inl h
    · refine .inr ⟨.toP t, hv, ?_⟩
      simp only [step, TOp.toOp]
      rw [h1, h2, convertPressure_core, orCurrent_idem, unitArg_idem]
  | material b u =>
    simp only [step]
    rw [convertMaterial_core]
    rcases mCore_any a mat (some ps) true s r _ hs hg _ _ (unitArg_eq_cur u (orCurrent b s.lab.mbasis) _ _) with
      h | ⟨m, hv, h1, h2⟩
    · exact .inl h
    · refine .inr ⟨.toM m, hv, ?_⟩
      simp only [step, TOp.toOp]
      rw [h1, h2, convertMaterial_core, orCurrent_idem, unitArg_idem]
  | loading b u =>
    simp only [step]
    rw [convertLoading_core]
    rcases lCore_any a mat (some ps) true s r _ _ hs hsl hg _ _ (unitArg_eq_cur u (orCurrent b s.lab.lbasis) _ _) with
      h | ⟨l, hv, heq⟩
    · exact .inl h
    · obtain ⟨sl', hsl'⟩ := Option.isSome_iff_exists.1 hv
      refine .inr ⟨.toL l, by cases l <;> first | exact hv | trivial, ?_⟩
      simp only [step, TOp.toOp]
      rw [heq, convertLoading_core, orCurrent_some (LRep.basis_ne_empty l)]
      have e1 : s.lab.lbasis = r.l.basis := by rw [hs]; rfl
      have e2 : s.lab.lunit = r.l.unit := by rw [hs]; rfl
      rw [e1, e2, unitArg_loading a r.m r.l l sl' hsl']
  | temperature u =>
    rcases convertTemperature_any s u with h | ⟨t, ht, rfl⟩
    · exact .inl h
    · exact .inr ⟨.toT t, ht, rfl⟩

/-- completeness of validation, all four quantities: from a valid typed state,
ANY single-quantity call with ARBITRARY optional-string arguments (unknown modes, bases and units, empty strings,
omitted arguments, …) either is refused — then the state is exactly unchanged — or returns normally — then the new
labels are again `labelsOf` of a supported representation `r'` (so the constructor would accept them) and pressures,
loadings and temperature carry row by row the same Pa, mol/g and K as before.  No argument can drive the isotherm
into a state whose labels do not describe its data. -/
theorem step_any_args (ps : α) (hps : ps ≠ 0) (a : Ads α) (mat : Mat α) (hc : a.Consistent) (hp : a.Pos)
    (hmp : Mat.Pos mat) (s : Iso α) (r : Rep) (hs : s.lab = labelsOf r) (hr : Rep.Valid ps a mat r)
    (op : Op) (hop : ∀ pm pu lb lu mb mu, op ≠ .all pm pu lb lu mb mu) :
    ((step ⟨some ps, envOf a mat, true⟩ s op).2 ≠ .ok ∧ (step ⟨some ps, envOf a mat, true⟩ s op).1 = s) ∨
    ((step ⟨some ps, envOf a mat, true⟩ s op).2 = .ok ∧ ∃ r' : Rep, Rep.Valid ps a mat r' ∧
      validLabels (step ⟨some ps, envOf a mat, true⟩ s op).1.lab = true ∧
      Conserved ps a mat s r (step ⟨some ps, envOf a mat, true⟩ s op).1 r') := by
  rcases step_any_typed ps a mat hp hmp hps s r hs hr op hop with h | ⟨t, hv, heq⟩
  · exact .inl h
  · obtain ⟨hok, hcn, hv'⟩ := step_typed ps hps a mat hc hp hmp s r t hs hr hv
    rw [← heq] at hok hcn
    exact .inr ⟨hok, _, hv', by rw [hcn.lab]; exact validLabels_of_valid ps a mat _ hv', hcn⟩

/-- "still a valid isotherm, consistent with its data": the labels name a supported representation under which the
stored numbers carry the reference content -/
def Good (ps : α) (a : Ads α) (mat : Mat α) (s0 : Iso α) (r0 : Rep) (s : Iso α) : Prop :=
  ∃ r : Rep, Rep.Valid ps a mat r ∧ validLabels s.lab = true ∧ Conserved ps a mat s0 r0 s r

lemma good_single (ps : α) (hps : ps ≠ 0) (a : Ads α) (mat : Mat α) (hc : a.Consistent) (hp : a.Pos)
    (hmp : Mat.Pos mat) (s0 : Iso α) (r0 : Rep) (s : Iso α) (hgood : Good ps a mat s0 r0 s)
    (op : Op) (hop : ∀ pm pu lb lu mb mu, op ≠ .all pm pu lb lu mb mu) :
    Good ps a mat s0 r0 (step ⟨some ps, envOf a mat, true⟩ s op).1 := by
  obtain ⟨r, hv, hl, hcn⟩ := hgood
  rcases step_any_args ps hps a mat hc hp hmp s r hcn.lab hv op hop with ⟨_, h⟩ | ⟨_, r', hv', hl', hcn'⟩
  · rw [h]; exact ⟨r, hv, hl, hcn⟩
  · exact ⟨r', hv', hl', hcn.trans hcn'⟩

/-- after every call, successful or refused, single or combined, with any arguments, the isotherm is still valid
and consistent with its data -/
theorem step_any_op_good (ps : α) (hps : ps ≠ 0) (a : Ads α) (mat : Mat α) (hc : a.Consistent) (hp : a.Pos)
    (hmp : Mat.Pos mat) (s0 : Iso α) (r0 : Rep) (s : Iso α) (hgood : Good ps a mat s0 r0 s) (op : Op) :
    Good ps a mat s0 r0 (step ⟨some ps, envOf a mat, true⟩ s op).1 := by
  have single := fun s' h op hop => good_single ps hps a mat hc hp hmp s0 r0 s' h op hop
  cases op with
  | all pm pu lb lu mb mu =>
    -- `convert(...)` keeps what its three single conversions keep, also when it is refused half-way
    exact convertAll_invariant (P := Good ps a mat s0 r0) _ s pm pu lb lu mb mu hgood
      (fun s' h => single s' h (.pressure pm pu) (by intros; simp))
      (fun s' h => single s' h (.material mb mu) (by intros; simp))
      (fun s' h => single s' h (.loading lb lu) (by intros; simp))
  | _ => exact single s hgood _ (by intros; simp)

/-- any history whatsoever (arbitrary ops, arbitrary string arguments, refused or not): the final labels are
accepted by the constructor, they name a supported representation `rf`, and under `rf` the stored pressures, loadings
and temperature are row by row the original Pa, mol/g and K — equivalently the final columns are the original columns
converted directly to `rf`. -/
theorem run_any_history (ps : α) (hps : ps ≠ 0) (a : Ads α) (mat : Mat α) (hc : a.Consistent) (hp : a.Pos)
    (hmp : Mat.Pos mat) (s0 : Iso α) (r0 : Rep) (hs : s0.lab = labelsOf r0) (hr : Rep.Valid ps a mat r0)
    (ops : List Op) :
    ∃ rf : Rep, Rep.Valid ps a mat rf ∧
      validLabels (run ⟨some ps, envOf a mat, true⟩ s0 ops).lab = true ∧
      Conserved ps a mat s0 r0 (run ⟨some ps, envOf a mat, true⟩ s0 ops) rf ∧
      (run ⟨some ps, envOf a mat, true⟩ s0 ops).ps = s0.ps.map (· * (spOf ps r0.p / spOf ps rf.p)) ∧
      (run ⟨some ps, envOf a mat, true⟩ s0 ops).ls =
        s0.ls.map (· * ((slOf a r0.l r0.m / gmOf mat r0.m) / (slOf a rf.l rf.m / gmOf mat rf.m))) ∧
      (run ⟨some ps, envOf a mat, true⟩ s0 ops).temp = rf.t.ofK (r0.t.toK s0.temp) := by
  obtain ⟨rf, hv, hl, hcn⟩ := run_invariant (P := Good ps a mat s0 r0) _ ops
    (fun s op h => step_any_op_good ps hps a mat hc hp hmp s0 r0 s h op) s0
    ⟨r0, hr, (Tracks.refl hs hr).validLabels, .refl ps a mat s0 r0 hs⟩
  obtain ⟨d1, d2, d3⟩ := hcn.direct hps hp hmp hv
  exact ⟨rf, hv, hl, hcn, d1, d2, d3⟩

/-! ## Non-vacuity: a concrete valid representation over ℚ and a three-step history through `relative%` and `fraction` -/

section Example

/-- N2-like rationals (as in `Props/C01.lean`): M = 28 g/mol, consistent densities; a material of density 2 g/cm3 and
molar mass 60 g/mol; p_sat = 101325 Pa -/
def exAds : Ads ℚ := ⟨28, 4 / 5, 1 / 35, 7 / 1000, 1 / 4000⟩
def exMat : Mat ℚ := ⟨2, 60⟩
def exCtx : Ctx ℚ := ⟨some 101325, envOf exAds exMat, true⟩
def exRep : Rep := ⟨.abs "bar", .phys .molar "mmol", ⟨.mass, "g"⟩, .K⟩
def exIso : Iso ℚ := ⟨labelsOf exRep, [1, 2], [3, 4], 77, true, true⟩
def exOps : List TOp := [.toP (.relp none), .toL .frac, .toP (.abs "kPa")]

example : exAds.Consistent ∧ exAds.Pos ∧ Mat.Pos exMat ∧ (101325 : ℚ) ≠ 0 := by
  simp only [Ads.Consistent, Ads.Pos, Mat.Pos, exAds, exMat]
  decide +kernel

example : Rep.Valid (101325 : ℚ) exAds exMat exRep :=
  ⟨by decide +kernel, by decide +kernel, by decide +kernel, Or.inl rfl⟩

example : ∀ op ∈ exOps, TOp.Valid (101325 : ℚ) exAds exMat op := by
  intro op hop
  simp only [exOps, List.mem_cons, List.not_mem_nil, or_false] at hop
  rcases hop with rfl | rfl | rfl
  · show (PRep.scale Gen.pressureUnits (101325 : ℚ) (.relp none)).isSome = true; decide +kernel
  · trivial
  · show (PRep.scale Gen.pressureUnits (101325 : ℚ) (.abs "kPa")).isSome = true; decide +kernel

/-- 1 bar, 2 bar → % of p_sat → (loading to g/g) → kPa: 100 kPa, 200 kPa; 3 mmol/g, 4 mmol/g of M = 28 → 0.084, 0.112 g/g -/
example : (run exCtx exIso (exOps.map TOp.toOp)).ps = [100, 200] := by decide +kernel
example : (run exCtx exIso (exOps.map TOp.toOp)).ls = [21 / 250, 14 / 125] := by decide +kernel
example : (run exCtx exIso (exOps.map TOp.toOp)).lab =
    ⟨"absolute", some "kPa", "fraction", none, "mass", some "g", some "K"⟩ := by decide +kernel
example : (run exCtx exIso (exOps.map TOp.toOp)).lab = labelsOf (exOps.foldl TOp.apply exRep) := by decide +kernel
/-- the intermediate state really is in `relative%` (labels carry no pressure unit there) -/
example : (run exCtx exIso ((exOps.take 1).map TOp.toOp)).lab.pmode = "relative%" ∧
    (run exCtx exIso ((exOps.take 1).map TOp.toOp)).lab.punit = none ∧
    (run exCtx exIso ((exOps.take 1).map TOp.toOp)).ps = [10000000 / 101325, 20000000 / 101325] := by decide +kernel
/-- and a refused call in between (unknown unit) changes nothing -/
example : (step exCtx exIso (.pressure none (some "psi"))).2 = .err .calc ∧
    (step exCtx exIso (.pressure none (some "psi"))).1.ps = exIso.ps ∧
    (step exCtx exIso (.pressure none (some "psi"))).1.lab = exIso.lab := by decide +kernel

end Example

end PgVerif.C02
