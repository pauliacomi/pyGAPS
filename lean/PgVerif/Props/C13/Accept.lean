/-
C13, what a RETURN of `iast_point` / `reverse_iast` guarantees about the spreading pressures (finding S50-C13a).

`scipy.optimize.root(method='lm')` sets `success` whenever MINPACK terminates with info 1-4 — also when the step collapses next to a
mole fraction that turns negative (the residual is NaN beyond it) far away from a root.  Before the repository fix the point was handed
out unchecked: Langmuir / Henry / Langmuir / Quadratic from the guess (0.0488, 0.0407, 0.0128, 0.8977) returned a point with the
spreading pressures 64.8869 / 41.0183 / 24.4627 / 14.5892.  The fix evaluates the spreading pressures at the returned point and accepts
it only if `numpy.allclose(sp, sp[0], rtol = 1e-4, atol = 0)`; otherwise `CalculationError`.

`Accepted r sp` is that test (`|sp_i - sp_0| ≤ r·|sp_0|` for every component).  An accepted point has pairwise differences ≤ 2·r·|sp_0|,
hence a relative spread (max − min) / max|sp| ≤ 2·r: the class boundary `NON_SOLUTION = 1e-3 = 5 · (2 · 1e-4)` of the harness
(harness/props/c13.py) cannot be exceeded by any return of the repaired code.  At `r = 0` the test IS the IAST equation (zero residual
vector of `spreading_pressure_differences`).  "A returned point has equal spreading pressures" holds at `r = 0` only; for the `r = 1e-4`
of the code `accepted_not_equal` is the witness that equality does not follow — the remainder (|sp_i − sp_0| ≤ 1e-4·|sp_0|, in practice
1e-8 without a trace component) is numerical and is measured by the certificate of every run; with a trace component it is the known
finding S22.  The S50-C13a point is a non-root and is refused by the test (at ℚ).
-/
import PgVerif.Props.C13.Point
import Mathlib.Tactic

namespace PgVerif.Props.C13
open PgVerif.Model PgVerif.Model.Iast

section Accept
variable {α : Type} [Field α] [LinearOrder α] [IsStrictOrderedRing α]

/-- `numpy.allclose(sp, sp[0], rtol = r, atol = 0)`: every spreading pressure lies within `r · |sp₀|` of the first one -/
def Accepted (r : α) (sp : List α) : Prop := ∀ s ∈ sp, |s - sp.headD 0| ≤ r * |sp.headD 0|

theorem accepted_pairwise {r : α} {sp : List α} (h : Accepted r sp) {a b : α} (ha : a ∈ sp) (hb : b ∈ sp) :
    |a - b| ≤ 2 * r * |sp.headD 0| := by
  calc |a - b| ≤ |a - sp.headD 0| + |sp.headD 0 - b| := abs_sub_le a (sp.headD 0) b
    _ ≤ r * |sp.headD 0| + r * |sp.headD 0| := add_le_add (h a ha) ((abs_sub_comm _ _).trans_le (h b hb))
    _ = 2 * r * |sp.headD 0| := by rw [mul_assoc, two_mul]

/-- relative spread of an accepted point: against any scale `m ≥ |sp₀|` (e.g. `max |sp_i|`) the difference of two spreading
pressures is at most `2 r m` -/
theorem accepted_spread_le {r m : α} {sp : List α} (hr : 0 ≤ r) (h : Accepted r sp) (hm : |sp.headD 0| ≤ m)
    {a b : α} (ha : a ∈ sp) (hb : b ∈ sp) : |a - b| ≤ 2 * r * m :=
  (accepted_pairwise h ha hb).trans (mul_le_mul_of_nonneg_left hm (mul_nonneg zero_le_two hr))

theorem accepted_mono {r r' : α} {sp : List α} (hrr : r ≤ r') (h : Accepted r sp) : Accepted r' sp :=
  fun s hs => (h s hs).trans (mul_le_mul_of_nonneg_right hrr (abs_nonneg _))

/-- at tolerance zero the acceptance test is the IAST equation: all spreading pressures equal the first -/
theorem accepted_zero_iff (sp : List α) :
    Accepted 0 sp ↔ ∀ i (h : i < sp.length), sp[i] = sp[0]'(by omega) := by
  cases sp with
  | nil => simp [Accepted]
  | cons s0 t =>
    simp only [Accepted, List.headD_cons, zero_mul, abs_nonpos_iff, sub_eq_zero, List.getElem_cons_zero]
    exact List.forall_mem_iff_forall_getElem

/-- … i.e. the residual vector of `spreading_pressure_differences` vanishes -/
theorem accepted_zero_iff_spreadDiffs (sp : List α) : Accepted 0 sp ↔ ∀ d ∈ spreadDiffs sp, d = 0 := by
  rw [accepted_zero_iff, spreadDiffs_zero_iff]

/-- A point accepted at tolerance ZERO has equal spreading pressures.  The property speaks of every returned (= accepted) point; at the
`r = 1e-4` of the code equality does not follow (`accepted_not_equal`), the remainder is numerical and measured by the certificate. -/
theorem equal_of_accepted_partial {sp : List α} (h : Accepted 0 sp) {a b : α} (ha : a ∈ sp) (hb : b ∈ sp) : a = b := by
  have := accepted_pairwise h ha hb
  simp only [mul_zero, zero_mul, abs_nonpos_iff, sub_eq_zero] at this
  exact this

end Accept

/-! ## witnesses at ℚ -/

/-- the hypothesis `r = 0` of `equal_of_accepted_partial` is needed: a point accepted at `1e-4` need not have equal spreading pressures -/
theorem accepted_not_equal : ∃ sp : List ℚ, Accepted (1 / 10000) sp ∧ ¬ Accepted 0 sp := by
  unfold Accepted
  exact ⟨[1, 1 + 1 / 10000], by decide +kernel, by decide +kernel⟩

/-- the point returned for the S50-C13a witness (spreading pressures rounded to 4 digits) is refused by the acceptance test -/
theorem stall_not_accepted : ¬ Accepted (1 / 10000 : ℚ) [648869 / 10000, 410183 / 10000, 244627 / 10000, 145892 / 10000] := by
  unfold Accepted
  decide +kernel

/-- … and it is not a root: the residual vector of `spreading_pressure_differences` does not vanish although the root finder reported success -/
theorem stall_residual_ne_zero :
    ¬ ∀ d ∈ spreadDiffs ([648869 / 10000, 410183 / 10000, 244627 / 10000, 145892 / 10000] : List ℚ), d = 0 := by
  rw [← accepted_zero_iff_spreadDiffs]
  intro h
  exact stall_not_accepted (accepted_mono (by norm_num) h)

/-- a converged point (relative differences 1e-8) is accepted -/
example : Accepted (1 / 10000 : ℚ) [385484 / 10000, 385484 / 10000 + 1 / 100000000, 385484 / 10000] := by
  unfold Accepted
  decide +kernel

end PgVerif.Props.C13
