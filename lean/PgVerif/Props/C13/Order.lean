/-
C13, the selectivity helper `iast_binary_svp` as a function of the SEQUENCE of pressures it is given (seeded change C13-m15).

The helper is a map of the point calculation over the pressures, reported beside the pressures in the caller's order.  The clause of the
property — "the selectivity helper returns exactly what the point calculation gives" — is a statement about every ROW, whatever the order of
the rows and however often a pressure occurs.  The model is deliberately small (no IAST inside: `point` is any function), so that what is
proved is exactly the bookkeeping the seeded change broke:

In the order of the file: one row per pressure, row `i` belongs to pressure `i`; re-ordering the pressures re-orders the rows and changes
none of them; a pressure that occurs twice gives two equal rows.  Then the defect class of C13-m15 (`svpSortedReported`: the values are
computed along the SORTED pressures and reported beside the pressures as given): on an already sorted argument (the only kind the
repository's tests use: `numpy.linspace`) it is invisible, on a decreasing argument it reports the value of another pressure
(kernel-checked at ℕ).

The tie to the code is the section "argument SEQUENCES in any order" of harness/props/c13.py (each row against `iast_point` at ITS
pressure, 1e-9; pressures reported in the order passed; a repeated pressure gives identical rows).
-/
import Mathlib.Data.List.Sort
import Mathlib.Data.List.Perm.Basic
import Mathlib.Tactic

namespace PgVerif.Props.C13.Order

variable {α β : Type}

/-- `iast_binary_svp`: the point calculation at every pressure, in the order of the argument. -/
def svp (point : α → β) (ps : List α) : List (α × β) := ps.map (fun p => (p, point p))

theorem svp_length (point : α → β) (ps : List α) : (svp point ps).length = ps.length := by
  simp [svp]

theorem svp_row (point : α → β) (ps : List α) (i : Nat) :
    (svp point ps)[i]? = (ps[i]?).map (fun p => (p, point p)) := by
  simp [svp]

theorem svp_reverse (point : α → β) (ps : List α) : svp point ps.reverse = (svp point ps).reverse := by
  simp [svp, List.map_reverse]

theorem svp_perm (point : α → β) {ps qs : List α} (h : ps.Perm qs) : (svp point ps).Perm (svp point qs) :=
  h.map _

theorem svp_repeat (point : α → β) (ps : List α) (i j : Nat) (p : α) (hi : ps[i]? = some p) (hj : ps[j]? = some p) :
    (svp point ps)[i]? = (svp point ps)[j]? := by
  rw [svp_row, svp_row, hi, hj]

private theorem zip_map_self (f : α → β) (ps : List α) : ps.zip (ps.map f) = ps.map (fun p => (p, f p)) := by
  induction ps with
  | nil => rfl
  | cons a as ih => simp [ih]

/-- The defect class of C13-m15: values computed along the sorted pressures, reported beside the pressures as given. -/
def svpSortedReported [LinearOrder α] (point : α → β) (ps : List α) : List (α × β) :=
  ps.zip ((ps.insertionSort (· ≤ ·)).map point)

/-- On an argument that is already sorted the defect cannot be seen. -/
theorem svpSortedReported_sorted [LinearOrder α] (point : α → β) (ps : List α) (h : ps.Pairwise (· ≤ ·)) :
    svpSortedReported point ps = svp point ps := by
  have hs : ps.insertionSort (· ≤ ·) = ps := List.Pairwise.insertionSort_eq h
  unfold svpSortedReported svp
  rw [hs, zip_map_self]

/-- On a decreasing argument the row of a pressure carries the value of another pressure. -/
theorem svpSortedReported_witness :
    svpSortedReported (fun p : Nat => 10 * p) [3, 1, 2] = [(3, 10), (1, 20), (2, 30)]
    ∧ svp (fun p : Nat => 10 * p) [3, 1, 2] = [(3, 30), (1, 10), (2, 20)] := by
  decide

example : (svp (fun p : Nat => p + 1) [5, 7, 5])[0]? = (svp (fun p : Nat => p + 1) [5, 7, 5])[2]? :=
  svp_repeat _ _ 0 2 5 rfl rfl

end PgVerif.Props.C13.Order
