/-
C13 for mixtures of POINT isotherms: the certificate computed from the raw data (`PgVerif.Model.Iast.pointCert`,
`fractionsOf`, `spreadDiffs`, `mixingResidual`; run at ℚ by the `pcert` / `resid` ops of `Drv/Iast.lean`) decides the
IAST equations for the piecewise-linear isotherms through the data, and the solution it certifies is determined by the
raw data and the partial pressures alone — so a result that depends on what was asked from the isotherm OBJECTS before
(a cached interpolator of another kind, branch or fill value) fails the certificate for at least one history.

* E. certificate arithmetic over any field: fractions recomputed from returned loadings, zero residual vector of
     `spreading_pressure_differences` ⇔ equal spreading pressures, zero mixing residual ⇔ ideal-mixing total;
* F. point isotherms: origin guard, `spreadFun_strictMonoOn` (positive loadings), `pointCert_spec` (the certificate
     returns the linear interpolant and `∫₀^q n(p)/p dp` of the Henry-continued interpolant, `PgVerif.C11`),
     `point_certificate_sound` (certificate ⇒ `Solves`), `point_certified_unique` (history independence);
* G. non-vacuity examples.
-/
import PgVerif.Model.IastPoint
import PgVerif.Props.C13
import PgVerif.Props.C11.Point
import PgVerif.Props.C11.Origin
import Mathlib.Tactic

namespace PgVerif.Props.C13
open PgVerif.Model PgVerif.Model.Iast PgVerif.C11

/-! ## E. the certificate arithmetic (any field) -/

section E
variable {α : Type} [Field α]

theorem fractionsOf_sum (loads : List α) (h : loads.sum ≠ 0) : (fractionsOf loads).sum = 1 := by
  unfold fractionsOf
  simp only [div_eq_mul_inv]
  rw [List.sum_map_mul_right, List.map_id']
  exact mul_inv_cancel₀ h

theorem fractionsOf_loadings (x n0 : List α) (hinv : inverseLoading x n0 ≠ 0) (hx : x.sum = 1) :
    fractionsOf (loadings x n0) = x := by
  unfold fractionsOf
  exact loadings_fraction_of_sum x n0 hinv hx

/-- zero residual vector of `spreading_pressure_differences` ⇔ all spreading pressures are equal (to the first) -/
theorem spreadDiffs_zero_iff (sp : List α) :
    (∀ d ∈ spreadDiffs sp, d = 0) ↔ ∀ i (h : i < sp.length), sp[i] = sp[0]'(by omega) := by
  constructor
  · intro hd i
    induction i with
    | zero => intro h; rfl
    | succ i ih =>
      intro h
      have hi : i < sp.length := by omega
      have hlen : i < (spreadDiffs sp).length := by
        simp only [spreadDiffs, List.length_zipWith, List.length_tail]; omega
      have h0 := hd _ (List.getElem_mem hlen)
      simp only [spreadDiffs, List.getElem_zipWith, List.getElem_tail] at h0
      rw [← ih hi]
      exact (sub_eq_zero.mp h0).symm
  · intro h d hd
    obtain ⟨i, hi, rfl⟩ := List.getElem_of_mem hd
    have hi' : i + 1 < sp.length := by
      simp only [spreadDiffs, List.length_zipWith, List.length_tail] at hi; omega
    simp only [spreadDiffs, List.getElem_zipWith, List.getElem_tail]
    rw [h i (by omega), h (i + 1) hi', sub_self]

theorem mixingResidual_zero_iff (x n0 : List α) (total : α) (ht : total ≠ 0) (hinv : inverseLoading x n0 ≠ 0) :
    mixingResidual x n0 total = 0 ↔ total = totalLoading x n0 := by
  unfold mixingResidual totalLoading
  rw [sub_eq_zero]
  constructor
  · intro h; rw [← h, one_div_one_div]
  · intro h; rw [h, one_div_one_div]

end E

/-! ## F. point isotherms -/

theorem dropOrigin_of_pos (ps ls : List ℝ) (hne : ps ≠ []) (hpos : 0 < ps.head hne) : dropOrigin ps ls = (ps, ls) := by
  rcases ps with _ | ⟨p0, _ | ⟨p1, ps⟩⟩ <;> rcases ls with _ | ⟨l0, _ | ⟨l1, ls⟩⟩ <;>
    simp only [dropOrigin]
  have : p0 ≠ 0 := by simpa using hpos.ne'
  simp [this]

theorem dropOrigin_origin (p1 l1 : ℝ) (ps ls : List ℝ) :
    dropOrigin (0 :: p1 :: ps) (0 :: l1 :: ls) = (p1 :: ps, l1 :: ls) :=
  PgVerif.C11.dropOrigin_origin p1 l1 ps ls

theorem pointCert_origin (p1 l1 : ℝ) (ps ls logs : List ℝ) (q lg : ℝ) (hp1 : 0 < p1) :
    pointCert (0 :: p1 :: ps) (0 :: l1 :: ls) logs q lg = pointCert (p1 :: ps) (l1 :: ls) logs q lg := by
  unfold pointCert
  rw [dropOrigin_origin, dropOrigin_of_pos (p1 :: ps) (l1 :: ls) (by simp) (by simpa using hp1)]

lemma qInterp_pos (ps ls : List ℝ) (hne : ps ≠ []) (hpos : 0 < ps.head hne) (hlen : ps.length = ls.length)
    (hs : ps.Pairwise (· < ·)) (hl : ∀ l ∈ ls, 0 < l) {x : ℝ} (hx0 : 0 < x) (hxl : x ≤ ps.getLast hne) :
    0 < qInterp ps ls x := by
  have hlenpos : 0 < ps.length := List.length_pos_iff.mpr hne
  have hlp : ∀ i, i < ls.length → 0 < ls.getD i 0 := fun i hi => hl _ (gd_mem hi)
  rcases qInterp_cases ps ls hne hpos hs hxl with e | ⟨j, hj, hlo, hhi, e⟩ <;> rw [e]
  · exact mul_pos (div_pos (hlp 0 (by omega)) (by rw [← head_eq_gd hne]; exact hpos)) hx0
  · exact div_pos (add_pos_of_nonneg_of_pos (mul_nonneg (hlp j (by omega)).le (sub_nonneg.mpr hhi))
      (mul_pos (hlp (j + 1) (by omega)) (sub_pos.mpr hlo))) (sub_pos.mpr (hlo.trans_le hhi))

lemma interpLin_ge_head {ps ls : List ℝ} {p lq : ℝ} (h : interpLin ps ls p = some lq) : ps.getD 0 0 ≤ p := by
  rcases ps with _ | ⟨p0, _ | ⟨p1, ps⟩⟩ <;> rcases ls with _ | ⟨l0, _ | ⟨l1, ls⟩⟩ <;>
    simp only [interpLin] at h <;> try contradiction
  · split_ifs at h with hx
    exact hx.ge
  · by_contra hc
    rw [if_pos (show p < p0 from not_le.mp hc)] at h
    exact absurd h.symm (Option.some_ne_none lq)

theorem spreadFun_strictMonoOn (ps ls : List ℝ) (hne : ps ≠ []) (hpos : 0 < ps.head hne) (hlen : ps.length = ls.length)
    (hs : ps.Pairwise (· < ·)) (hl : ∀ l ∈ ls, 0 < l) :
    StrictMonoOn (spreadFun ps ls) (Set.Icc 0 (ps.getLast hne)) := by
  intro a ha b hb hab
  have hI := spreadPoint_additive ps ls a b hne hpos hlen hs ha.1 hab.le hb.2
  have hint : IntervalIntegrable (fun x => qInterp ps ls x / x) MeasureTheory.volume a b :=
    (qInterp_intervalIntegrable ps ls hne hpos hs a ha.1 ha.2).symm.trans
      (qInterp_intervalIntegrable ps ls hne hpos hs b hb.1 hb.2)
  have hp := intervalIntegral.intervalIntegral_pos_of_pos_on hint
    (fun x hx => div_pos (qInterp_pos ps ls hne hpos hlen hs hl (lt_of_le_of_lt ha.1 hx.1) (hx.2.le.trans hb.2))
      (lt_of_le_of_lt ha.1 hx.1)) hab
  linarith

/-- what the raw-data certificate returns for one component (first pressure positive): the loading is the
piecewise-linear interpolant, the spreading pressure is `∫₀^q n(p)/p dp` of that interpolant, `q` lies in the
measured range -/
theorem pointCert_spec (ps ls : List ℝ) (q n s : ℝ) (hne : ps ≠ []) (hpos : 0 < ps.head hne)
    (hlen : ps.length = ls.length) (hs : ps.Pairwise (· < ·))
    (h : pointCert ps ls (realLogs ps) q (lastLog ps q) = some (n, s)) :
    ps.head hne ≤ q ∧ q ≤ ps.getLast hne ∧ interpLin ps ls q = some n ∧
      s = ∫ x in (0:ℝ)..q, qInterp ps ls x / x := by
  have hd := dropOrigin_of_pos ps ls hne hpos
  unfold pointCert at h
  rw [hd] at h
  simp only at h
  cases hI : interpLin ps ls q with
  | none => rw [hI] at h; simp at h
  | some lq =>
    rw [hI] at h
    simp only [Option.map_eq_some_iff] at h
    obtain ⟨s', hs', he⟩ := h
    obtain ⟨rfl, rfl⟩ := Prod.mk.inj he
    have hge := interpLin_ge_head hI
    rw [← head_eq_gd hne] at hge
    have hq0 : 0 ≤ q := hpos.le.trans hge
    have hsp := spreadPoint_eq_integral ps ls q lq hne hpos hlen hs hq0 (fun _ => hI)
    rw [hsp] at hs'
    refine ⟨hge, ?_, rfl, (Option.some.inj hs').symm⟩
    rw [getLast_eq_gd hne]
    have hlenpos : 0 < ps.length := List.length_pos_iff.mpr hne
    rcases hge.eq_or_lt with heq | hlt
    · rw [← heq, head_eq_gd hne]; exact gd_le hs (Nat.zero_le _) (by omega)
    · have hk := (interpLin_spec hlen hs hI (by rw [← head_eq_gd hne]; exact hlt)).1
      exact (le_gd_of_nBelow_le hs le_rfl hk).trans (gd_le hs (by omega) (by omega))

/-- every component's data are admissible: non-empty, positive strictly increasing pressures, as many loadings -/
def Admissible (D : List (List ℝ × List ℝ)) : Prop :=
  ∀ d ∈ D, ∃ hne : d.1 ≠ [], 0 < d.1.head hne ∧ d.1.length = d.2.length ∧ d.1.Pairwise (· < ·)

/-- Soundness of the raw-data certificate.  If for every component the certificate at the fictitious pressure
`p_i / x_i` returns the same spreading pressure `c` (zero `spreadDiffs`), and the fractions are positive and sum to
one, then `xs` solves the IAST equations for the spreading pressures `∫₀^q n_i(p)/p dp` of the piecewise-linear
isotherms through the raw data — independently of any isotherm object. -/
theorem point_certificate_sound (D : List (List ℝ × List ℝ)) (pp xs n0 : List ℝ) (c : ℝ) (hD : Admissible D)
    (hl1 : D.length = pp.length) (hl2 : xs.length = pp.length) (hl3 : n0.length = pp.length)
    (hsum : xs.sum = 1) (hpos : ∀ x ∈ xs, 0 < x)
    (hc : ∀ i (h1 : i < D.length) (h2 : i < pp.length) (h3 : i < xs.length) (h4 : i < n0.length),
      pointCert D[i].1 D[i].2 (realLogs D[i].1) (pp[i] / xs[i]) (lastLog D[i].1 (pp[i] / xs[i])) = some (n0[i], c)) :
    Solves (D.map fun d => spreadFun d.1 d.2) pp xs c := by
  refine ⟨by simp [hl1], hl2, hsum, hpos, ?_⟩
  intro i h1 h2
  have hi : i < D.length := by simpa using h1
  have h2' : i < pp.length := by omega
  have h3 : i < xs.length := by omega
  have h4 : i < n0.length := by omega
  obtain ⟨hne, hp, hlen, hs⟩ := hD _ (List.getElem_mem hi)
  obtain ⟨hge, hle, -, hint⟩ := pointCert_spec _ _ _ _ _ hne hp hlen hs (hc i hi h2' h3 h4)
  simp only [List.getElem_map, fictitious, List.getElem_zipWith]
  rw [spreadFun_eq_integral _ _ _ hne hp hlen hs (hp.le.trans hge) hle, hint]

/-- The certified result is determined by the raw data.  Two results that both pass the raw-data certificate for
the same data and partial pressures (e.g. obtained from isotherm objects with different query histories) have the
same mole fractions and the same spreading pressure; with positive loadings. -/
theorem point_certified_unique (D : List (List ℝ × List ℝ)) (pp xs xs' n0 n0' : List ℝ) (c c' : ℝ) (hD : Admissible D)
    (hload : ∀ d ∈ D, ∀ l ∈ d.2, 0 < l) (hpp : ∀ p ∈ pp, 0 < p)
    (hl1 : D.length = pp.length) (hl2 : xs.length = pp.length) (hl3 : n0.length = pp.length)
    (hl2' : xs'.length = pp.length) (hl3' : n0'.length = pp.length)
    (hsum : xs.sum = 1) (hpos : ∀ x ∈ xs, 0 < x) (hsum' : xs'.sum = 1) (hpos' : ∀ x ∈ xs', 0 < x)
    (hc : ∀ i (h1 : i < D.length) (h2 : i < pp.length) (h3 : i < xs.length) (h4 : i < n0.length),
      pointCert D[i].1 D[i].2 (realLogs D[i].1) (pp[i] / xs[i]) (lastLog D[i].1 (pp[i] / xs[i])) = some (n0[i], c))
    (hc' : ∀ i (h1 : i < D.length) (h2 : i < pp.length) (h3 : i < xs'.length) (h4 : i < n0'.length),
      pointCert D[i].1 D[i].2 (realLogs D[i].1) (pp[i] / xs'[i]) (lastLog D[i].1 (pp[i] / xs'[i])) = some (n0'[i], c')) :
    xs = xs' ∧ c = c' ∧ n0 = n0' := by
  have S := point_certificate_sound D pp xs n0 c hD hl1 hl2 hl3 hsum hpos hc
  have S' := point_certificate_sound D pp xs' n0' c' hD hl1 hl2' hl3' hsum' hpos' hc'
  let Dom : ℕ → Set ℝ := fun i =>
    {q | ∀ (h : i < D.length) (hne : D[i].1 ≠ []), q ∈ Set.Icc 0 (D[i].1.getLast hne)}
  have hmono : ∀ i (h : i < (D.map fun d => spreadFun d.1 d.2).length),
      StrictMonoOn (D.map fun d => spreadFun d.1 d.2)[i] (Dom i) := by
    intro i h
    have hi : i < D.length := by simpa using h
    obtain ⟨hne, hp, hlen, hs⟩ := hD _ (List.getElem_mem hi)
    rw [List.getElem_map]
    exact (spreadFun_strictMonoOn _ _ hne hp hlen hs (hload _ (List.getElem_mem hi))).mono
      (fun q hq => hq hi hne)
  have hdom : ∀ i (h2 : i < pp.length) (h3 : i < xs.length), pp[i] / xs[i] ∈ Dom i := by
    intro i h2 h3 hi hne
    obtain ⟨_, hp, hlen, hs⟩ := hD _ (List.getElem_mem hi)
    obtain ⟨hge, hle, -, -⟩ := pointCert_spec _ _ _ _ _ hne hp hlen hs (hc i hi h2 h3 (by omega))
    exact ⟨hp.le.trans hge, hle⟩
  have hdom' : ∀ i (h2 : i < pp.length) (h3 : i < xs'.length), pp[i] / xs'[i] ∈ Dom i := by
    intro i h2 h3 hi hne
    obtain ⟨_, hp, hlen, hs⟩ := hD _ (List.getElem_mem hi)
    obtain ⟨hge, hle, -, -⟩ := pointCert_spec _ _ _ _ _ hne hp hlen hs (hc' i hi h2 h3 (by omega))
    exact ⟨hp.le.trans hge, hle⟩
  obtain ⟨hx, hcc⟩ := solution_unique_on _ Dom pp xs xs' c c' hmono hpp S S' hdom hdom'
  subst hx
  subst hcc
  refine ⟨rfl, rfl, ?_⟩
  apply List.ext_getElem (by omega)
  intro i h4 h4'
  have a := hc i (by omega) (by omega) (by omega) h4
  have b := hc' i (by omega) (by omega) (by omega) h4'
  rw [a] at b
  exact (Prod.mk.inj (Option.some.inj b)).1

/-! ## G. non-vacuity -/

example : fractionsOf [(1 : ℚ), 3] = [1 / 4, 3 / 4] := by norm_num [fractionsOf]

example : spreadDiffs [(5 : ℚ), 5, 5] = [0, 0] := by norm_num [spreadDiffs]

example : mixingResidual [(1 / 4 : ℚ), 3 / 4] [2, 6] 4 = 0 := by norm_num [mixingResidual, inverseLoading]

/-- data `(1,1), (2,3/2), (4,2)`, `q = 3`: loading `7/4`; with logarithm inputs `7/10`, `2/5` the fold gives `5/2` -/
example : pointCert [(1 : ℚ), 2, 4] [1, 3 / 2, 2] [7 / 10, 7 / 10] 3 (2 / 5) = some (7 / 4, 5 / 2) := by
  decide +kernel

end PgVerif.Props.C13
