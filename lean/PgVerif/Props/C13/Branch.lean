/-
C13 on the DESORPTION branch of hysteretic point isotherms (`iast_point(..., branch='des')` and the entry points built on it).
The certificate is computed from the RAW stored rows of the whole isotherm, their branch marks and the requested branch
(`PgVerif.Model.Iast.pointCertBranch`, run at ℚ by the `pcertb` op of `Drv/Iast.lean`): selection of the rows of the branch
(`branchRows`), orientation (`orient`: desorption rows are stored in order of decreasing pressure and are reversed), origin guard,
linear interpolation and the exact fold.  Both the spreading pressure AND the pure-component loading of the ideal-mixing rule
come from the rows of the requested branch — a result that equates desorption spreading pressures but mixes with adsorption
loadings (the defect repaired by repository commit 4306ac7) fails the mixing residual.

* H. `branchRows_ads` / `branchRows_des`: a hysteretic isotherm stored as adsorption rows followed by desorption rows;
* I. `pointCertStored_of_increasing` / `_of_decreasing`, `pointCertStored_spec`: what the certificate returns on rows stored in
     either order: the linear interpolant through the rows of the branch and `∫₀^q n(p)/p dp` of it;
* J. `stored_certificate_sound`, `stored_certified_unique`: soundness and uniqueness (history independence) of the certificate for
     branches stored in either order;
* K. `mixing_with_other_loadings_fails`: with the fractions and the total fixed, the ideal-mixing residual vanishes for at most one
     value of a component's pure loading — the loading of the other branch, when different, is detected;
* L. non-vacuity.
-/
import PgVerif.Props.C13.Point
import PgVerif.Props.C11.Branch

namespace PgVerif.Props.C13
open PgVerif.Model PgVerif.Model.Iast PgVerif.C11

/-! ## H. selection of the rows of a branch -/

section H
variable {β : Type}

lemma branchRows_replicate_same (xs : List β) (b : Nat) : branchRows xs (List.replicate xs.length b) b = xs := by
  unfold branchRows
  induction xs with
  | nil => rfl
  | cons x t ih =>
    simp only [List.length_cons, List.replicate_succ, List.zip_cons_cons, List.filter_cons, beq_self_eq_true, if_true,
      List.map_cons]
    rw [ih]

lemma branchRows_replicate_other (xs : List β) (b c : Nat) (h : c ≠ b) :
    branchRows xs (List.replicate xs.length c) b = [] := by
  unfold branchRows
  induction xs with
  | nil => rfl
  | cons x t ih =>
    have : (c == b) = false := by simpa using h
    simp only [List.length_cons, List.replicate_succ, List.zip_cons_cons, List.filter_cons, this]
    exact ih

lemma branchRows_append (xs ys : List β) (m1 m2 : List Nat) (b : Nat) (h : xs.length = m1.length) :
    branchRows (xs ++ ys) (m1 ++ m2) b = branchRows xs m1 b ++ branchRows ys m2 b := by
  unfold branchRows
  rw [List.zip_append h, List.filter_append, List.map_append]

/-- adsorption rows `a` followed by desorption rows `d` (marks 0 … 0 1 … 1): the adsorption branch is `a` -/
theorem branchRows_ads (a d : List β) :
    branchRows (a ++ d) (List.replicate a.length 0 ++ List.replicate d.length 1) 0 = a := by
  rw [branchRows_append a d _ _ 0 (by simp), branchRows_replicate_same, branchRows_replicate_other d 0 1 (by decide),
    List.append_nil]

/-- … and the desorption branch is `d`, in stored order -/
theorem branchRows_des (a d : List β) :
    branchRows (a ++ d) (List.replicate a.length 0 ++ List.replicate d.length 1) 1 = d := by
  rw [branchRows_append a d _ _ 1 (by simp), branchRows_replicate_same, branchRows_replicate_other a 1 0 (by decide),
    List.nil_append]

end H

/-! ## I. the certificate on rows stored in either order -/

theorem pointCertStored_of_increasing {α : Type} [Field α] [LinearOrder α] (ps ls logs : List α) (q lg : α)
    (h : ps.Pairwise (· < ·)) : pointCertStored ps ls logs q lg = pointCert ps ls logs q lg := by
  unfold pointCertStored
  rw [orient_of_increasing ps ls h]

theorem pointCertStored_of_decreasing {α : Type} [Field α] [LinearOrder α] (ps ls logs : List α) (q lg : α)
    (hlen : 2 ≤ ps.length) (h : ps.Pairwise (· > ·)) :
    pointCertStored ps ls logs q lg = pointCert ps.reverse ls.reverse logs q lg := by
  unfold pointCertStored
  rw [orient_of_decreasing ps ls hlen h]

/-- the whole-isotherm form: adsorption rows `pa, la` followed by strictly decreasing desorption rows `pd, ld`; the certificate
for `branch = 1` is the certificate of the reversed desorption rows, the adsorption rows do not enter -/
theorem pointCertBranch_des {α : Type} [Field α] [LinearOrder α] (pa la pd ld logs : List α) (q lg : α)
    (hla : la.length = pa.length) (hld : ld.length = pd.length) (hlen : 2 ≤ pd.length) (h : pd.Pairwise (· > ·)) :
    pointCertBranch (pa ++ pd) (la ++ ld) (List.replicate pa.length 0 ++ List.replicate pd.length 1) 1 logs q lg =
      pointCert pd.reverse ld.reverse logs q lg := by
  unfold pointCertBranch
  rw [branchRows_des pa pd]
  have := branchRows_des la ld
  rw [hla, hld] at this
  rw [this]
  exact pointCertStored_of_decreasing pd ld logs q lg hlen h

/-- … and for `branch = 0` the certificate of the adsorption rows, the desorption rows do not enter -/
theorem pointCertBranch_ads {α : Type} [Field α] [LinearOrder α] (pa la pd ld logs : List α) (q lg : α)
    (hla : la.length = pa.length) (hld : ld.length = pd.length) (h : pa.Pairwise (· < ·)) :
    pointCertBranch (pa ++ pd) (la ++ ld) (List.replicate pa.length 0 ++ List.replicate pd.length 1) 0 logs q lg =
      pointCert pa la logs q lg := by
  unfold pointCertBranch
  rw [branchRows_ads pa pd]
  have := branchRows_ads la ld
  rw [hla, hld] at this
  rw [this]
  exact pointCertStored_of_increasing pa la logs q lg h

/-- the logarithm inputs of the certificate on stored rows: those of the oriented rows -/
noncomputable def storedLogs (ps ls : List ℝ) : List ℝ := realLogs (orient ps ls).1

noncomputable def storedLastLog (ps ls : List ℝ) (q : ℝ) : ℝ := lastLog (orient ps ls).1 q

/-- what the certificate returns for one component on the rows of a branch stored in either order (positive pressures): the
loading is the piecewise-linear interpolant through THE ROWS OF THAT BRANCH, the spreading pressure is `∫₀^q n(p)/p dp` of that
interpolant, `q` lies in the measured range of the branch -/
theorem pointCertStored_spec (ps ls : List ℝ) (q n s : ℝ) (hne : ps ≠ []) (hpos : ∀ x ∈ ps, 0 < x)
    (hlen : ps.length = ls.length) (hm : StoredMonotone ps)
    (h : pointCertStored ps ls (storedLogs ps ls) q (storedLastLog ps ls q) = some (n, s)) :
    interpLin (orient ps ls).1 (orient ps ls).2 q = some n ∧
      s = ∫ x in (0:ℝ)..q, qInterp (orient ps ls).1 (orient ps ls).2 x / x ∧ s = spreadStored ps ls q := by
  obtain ⟨hne', hp, hl, hs⟩ := orient_admissible ps ls hne hpos hlen hm
  obtain ⟨hge, hle, hI, hint⟩ := pointCert_spec _ _ q n s hne' hp hl hs h
  refine ⟨hI, hint, ?_⟩
  rw [hint]
  exact (spreadFun_eq_integral _ _ q hne' hp hl hs (hp.le.trans hge) hle).symm

/-! ## J. soundness and uniqueness for branches stored in either order -/

/-- every component's branch rows as stored: non-empty, positive pressures in a strictly monotone order, as many loadings -/
def AdmissibleStored (D : List (List ℝ × List ℝ)) : Prop :=
  ∀ d ∈ D, d.1 ≠ [] ∧ (∀ x ∈ d.1, 0 < x) ∧ d.1.length = d.2.length ∧ StoredMonotone d.1

/-- the oriented data of every component -/
noncomputable def orientAll (D : List (List ℝ × List ℝ)) : List (List ℝ × List ℝ) := D.map fun d => orient d.1 d.2

lemma admissible_orientAll (D : List (List ℝ × List ℝ)) (hD : AdmissibleStored D) : Admissible (orientAll D) := by
  intro d hd
  obtain ⟨d0, hd0, rfl⟩ := List.mem_map.mp hd
  obtain ⟨hne, hpos, hlen, hm⟩ := hD d0 hd0
  exact orient_admissible d0.1 d0.2 hne hpos hlen hm

/-- Soundness of the raw-data certificate on any branch.  If for every component the certificate computed from the rows of
the requested branch AS STORED returns the same spreading pressure `c` at the fictitious pressure `p_i / x_i`, and the fractions
are positive and sum to one, then `xs` solves the IAST equations for the spreading pressures of the requested branch. -/
theorem stored_certificate_sound (D : List (List ℝ × List ℝ)) (pp xs n0 : List ℝ) (c : ℝ) (hD : AdmissibleStored D)
    (hl1 : D.length = pp.length) (hl2 : xs.length = pp.length) (hl3 : n0.length = pp.length)
    (hsum : xs.sum = 1) (hpos : ∀ x ∈ xs, 0 < x)
    (hc : ∀ i (h1 : i < D.length) (h2 : i < pp.length) (h3 : i < xs.length) (h4 : i < n0.length),
      pointCertStored D[i].1 D[i].2 (storedLogs D[i].1 D[i].2) (pp[i] / xs[i]) (storedLastLog D[i].1 D[i].2 (pp[i] / xs[i]))
        = some (n0[i], c)) :
    Solves (D.map fun d => spreadStored d.1 d.2) pp xs c := by
  have h := point_certificate_sound (orientAll D) pp xs n0 c (admissible_orientAll D hD)
    (by simp [orientAll, hl1]) hl2 hl3 hsum hpos (by
      intro i h1 h2 h3 h4
      have hi : i < D.length := by simpa [orientAll] using h1
      simp only [orientAll, List.getElem_map]
      exact hc i hi h2 h3 h4)
  have e : (D.map fun d => spreadStored d.1 d.2) = (orientAll D).map fun d => spreadFun d.1 d.2 := by
    unfold orientAll
    rw [List.map_map]
    rfl
  rw [e]
  exact h

/-- The certified result on a branch is determined by the raw rows of that branch (positive loadings). -/
theorem stored_certified_unique (D : List (List ℝ × List ℝ)) (pp xs xs' n0 n0' : List ℝ) (c c' : ℝ)
    (hD : AdmissibleStored D) (hload : ∀ d ∈ D, ∀ l ∈ d.2, 0 < l) (hpp : ∀ p ∈ pp, 0 < p)
    (hl1 : D.length = pp.length) (hl2 : xs.length = pp.length) (hl3 : n0.length = pp.length)
    (hl2' : xs'.length = pp.length) (hl3' : n0'.length = pp.length)
    (hsum : xs.sum = 1) (hpos : ∀ x ∈ xs, 0 < x) (hsum' : xs'.sum = 1) (hpos' : ∀ x ∈ xs', 0 < x)
    (hc : ∀ i (h1 : i < D.length) (h2 : i < pp.length) (h3 : i < xs.length) (h4 : i < n0.length),
      pointCertStored D[i].1 D[i].2 (storedLogs D[i].1 D[i].2) (pp[i] / xs[i]) (storedLastLog D[i].1 D[i].2 (pp[i] / xs[i]))
        = some (n0[i], c))
    (hc' : ∀ i (h1 : i < D.length) (h2 : i < pp.length) (h3 : i < xs'.length) (h4 : i < n0'.length),
      pointCertStored D[i].1 D[i].2 (storedLogs D[i].1 D[i].2) (pp[i] / xs'[i]) (storedLastLog D[i].1 D[i].2 (pp[i] / xs'[i]))
        = some (n0'[i], c')) :
    xs = xs' ∧ c = c' ∧ n0 = n0' := by
  refine point_certified_unique (orientAll D) pp xs xs' n0 n0' c c' (admissible_orientAll D hD) ?_ hpp
    (by simp [orientAll, hl1]) hl2 hl3 hl2' hl3' hsum hpos hsum' hpos' ?_ ?_
  · intro d hd l hl
    obtain ⟨d0, hd0, rfl⟩ := List.mem_map.mp hd
    exact hload d0 hd0 l ((orient_perm d0.1 d0.2).2.subset hl)
  · intro i h1 h2 h3 h4
    have hi : i < D.length := by simpa [orientAll] using h1
    simp only [orientAll, List.getElem_map]
    exact hc i hi h2 h3 h4
  · intro i h1 h2 h3 h4
    have hi : i < D.length := by simpa [orientAll] using h1
    simp only [orientAll, List.getElem_map]
    exact hc' i hi h2 h3 h4

/-! ## K. the ideal-mixing rule tells the branches apart -/

/-- Two components, fractions `x₀, x₁ ≠ 0`, pure loadings `a` (component 0) and `n₁`: if the total passes the ideal-mixing rule with
`a` it does not pass it with another loading `b ≠ a` of component 0 (e.g. the loading read on the other branch at the same
fictitious pressure). -/
theorem mixing_with_other_loadings_fails {α : Type} [Field α] (x0 x1 a b n1 total : α) (hx0 : x0 ≠ 0) (ha : a ≠ 0)
    (hb : b ≠ 0) (hab : a ≠ b) (h : mixingResidual [x0, x1] [a, n1] total = 0) :
    mixingResidual [x0, x1] [b, n1] total ≠ 0 := by
  intro h'
  simp only [mixingResidual, inverseLoading, List.zipWith_cons_cons, List.zipWith_nil_right, List.sum_cons, List.sum_nil,
    add_zero] at h h'
  have e : x0 / a = x0 / b := by linear_combination h' - h
  rw [div_eq_div_iff ha hb] at e
  exact hab (mul_left_cancel₀ hx0 e).symm

/-! ## L. non-vacuity -/

/-- a hysteretic isotherm: adsorption rows `(1,1), (2,3/2), (4,2)`, then desorption rows `(3, 19/10), (1/2, 1)` -/
example : branchRows [(1 : ℚ), 2, 4, 3, 1 / 2] [0, 0, 0, 1, 1] 1 = [3, 1 / 2] ∧
    branchRows [(1 : ℚ), 2, 4, 3, 1 / 2] [0, 0, 0, 1, 1] 0 = [1, 2, 4] := by
  constructor <;> decide +kernel

/-- certificate on the desorption branch at `q = 2` (from the reversed rows `(1/2, 1), (3, 19/10)`: loading `77/50`), on the
adsorption branch at `q = 3` (loading `7/4`): different rows, different numbers -/
example : pointCertBranch [(1 : ℚ), 2, 4, 3, 1 / 2] [1, 3 / 2, 2, 19 / 10, 1] [0, 0, 0, 1, 1] 1 [7 / 10] 2 (1 / 2)
    = some (77 / 50, 39 / 20) := by decide +kernel

example : pointCertBranch [(1 : ℚ), 2, 4, 3, 1 / 2] [1, 3 / 2, 2, 19 / 10, 1] [0, 0, 0, 1, 1] 0 [7 / 10, 7 / 10] 3 (2 / 5)
    = some (7 / 4, 5 / 2) := by decide +kernel

example : AdmissibleStored [([3, 1 / 2], [19 / 10, 1])] := by
  intro d hd
  simp only [List.mem_singleton] at hd
  subst hd
  refine ⟨by simp, ?_, by simp, Or.inr ⟨by simp, ?_⟩⟩
  · intro x hx; simp at hx; rcases hx with rfl | rfl <;> norm_num
  · simp only [List.pairwise_cons, List.mem_singleton, forall_eq, List.not_mem_nil, IsEmpty.forall_iff, implies_true,
      List.Pairwise.nil, and_true]
    norm_num

/-- mixing with the loading of the other branch: residual `0` with `2`, not with `3/2` -/
example : mixingResidual [(1 / 2 : ℚ), 1 / 2] [2, 6] 3 = 0 ∧ mixingResidual [(1 / 2 : ℚ), 1 / 2] [3 / 2, 6] 3 ≠ 0 := by
  constructor <;> norm_num [mixingResidual, inverseLoading]

end PgVerif.Props.C13
