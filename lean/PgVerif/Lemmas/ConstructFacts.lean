/-
Facts about `Model/Construct.construct` shared by Props/C05/Construct.lean (which restates them as theorems), Props/C02/Construct.lean and
Props/C06/Params.lean: accepted ⇔ valid labels after defaulting, what ends up among the metadata, well-formedness of an accepted isotherm.
Separate from the C05 theorem file so that the C02 / C06 cones do not depend on the ties of the generated tables to the documented
interface (a changed default breaks C05's obligations, not theirs).
-/
import Mathlib.Tactic
import PgVerif.Lemmas.Construct

set_option linter.unusedSimpArgs false

namespace PgVerif.Model.Construct
open PgVerif.Gen PgVerif.Gen.IsoParams

variable {α : Type}

section
variable [Field α]

/-- the label state the checks see: defaults for absent keys, `pressure_unit` forced to `None` under a `relative…` mode; a unit that is
not a string is no unit; `none` when a mode / basis is not a string at all -/
def effLabels (kw : Args α) : Option Labels :=
  match strOf (eff kw "pressure_mode"), strOf (eff kw "loading_basis"), strOf (eff kw "material_basis") with
  | some pms, some lbs, some mbs =>
    some ⟨pms, strOf (forced pms (eff kw "pressure_unit")), lbs, strOf (eff kw "loading_unit"), mbs, strOf (eff kw "material_unit"),
          strOf (eff kw "temperature_unit")⟩
  | _, _, _ => none

omit [Field α] in
lemma checkLabels_accepts_iff_validLabels (kw : Args α) :
    (∃ l, checked kw = .ok l ∧ effLabels kw = some l.labels) ↔
      ∃ L, effLabels kw = some L ∧ validLabels L = true := by
  constructor
  · rintro ⟨l, hl, he⟩
    obtain ⟨_, _, _, _, -, -, -, -, -, hv⟩ := (checkLabels_ok_iff _ _ _ _ _ _ _ _).1 hl
    exact ⟨l.labels, he, hv⟩
  · rintro ⟨L, he, hv⟩
    unfold effLabels at he
    cases h1 : strOf (eff kw "pressure_mode") with
    | none => simp [h1] at he
    | some pms =>
      cases h2 : strOf (eff kw "loading_basis") with
      | none => simp [h1, h2] at he
      | some lbs =>
        cases h3 : strOf (eff kw "material_basis") with
        | none => simp [h1, h2, h3] at he
        | some mbs =>
          simp only [h1, h2, h3, Option.some.injEq] at he
          subst he
          cases h4 : strOf (eff kw "temperature_unit") with
          | none => simp [validLabels, h4] at hv
          | some tus =>
            refine ⟨⟨pms, forced pms (eff kw "pressure_unit"), lbs, eff kw "loading_unit", mbs, eff kw "material_unit", tus⟩, ?_, ?_⟩
            · apply (checkLabels_ok_iff _ _ _ _ _ _ _ _).2
              refine ⟨pms, lbs, mbs, tus, (strOf_eq_some _ _).1 h1, (strOf_eq_some _ _).1 h2, (strOf_eq_some _ _).1 h3,
                (strOf_eq_some _ _).1 h4, rfl, ?_⟩
              simpa [LabelVals.labels, h4] using hv
            · simp [effLabels, h1, h2, h3, h4, LabelVals.labels]

/-- acceptance is decided after defaulting and after the forcing of `pressure_unit`; the three required descriptors must be usable for
the label checks to be reached at all -/
lemma construct_accepts_iff_validLabels (w : World α) (a : Args α) (ads : String) (t : α)
    (hreq : missingRequired (prepCall a) = false) (hads : setAdsorbate w (prepCall a).adsorbate = .ok ads)
    (ht : toFloat (prepCall a).temperature = .ok t) :
    (∃ i, construct w a = .ok i ∧ effLabels (prepCall a).kw = some i.lab.labels) ↔
      ∃ L, effLabels (prepCall a).kw = some L ∧ validLabels L = true := by
  rw [← checkLabels_accepts_iff_validLabels]
  constructor
  · rintro ⟨i, hi, he⟩
    exact ⟨i.lab, ((construct_ok_iff w a i).1 hi).2.2.2.1, he⟩
  · rintro ⟨l, hl, he⟩
    exact ⟨⟨_, ads, t, l, _⟩, (construct_ok_iff w a _).2 ⟨hreq, hads, ht, hl, rfl, rfl⟩, he⟩

lemma accepted_labels_valid (w : World α) (a : Args α) (i : Construct.Iso α) (h : construct w a = .ok i) : validLabels i.lab.labels = true := by
  obtain ⟨-, -, -, hl, -, -⟩ := (construct_ok_iff w a i).1 h
  obtain ⟨_, _, _, _, -, -, -, -, -, hv⟩ := (checkLabels_ok_iff _ _ _ _ _ _ _ _).1 hl
  exact hv

lemma properties_are_the_other_keys (w : World α) (a : Args α) (i : Construct.Iso α) (h : construct w a = .ok i) (k : String) :
    i.properties.lookup k = if unitPops.contains k || specialKeys.contains k then none else a.lookup k := by
  obtain ⟨-, -, -, -, -, hp⟩ := (construct_ok_iff w a i).1 h
  rw [hp, prepCall_eq]
  show ((a.filter fun kv => !specialKeys.contains kv.1).filter fun kv => !unitPops.contains kv.1).lookup k = _
  rw [lookup_filter_key _ (fun k => !unitPops.contains k) k, lookup_filter_key a (fun k => !specialKeys.contains k) k]
  cases unitPops.contains k <;> cases specialKeys.contains k <;> simp

lemma reserved_keys_not_in_properties (w : World α) (a : Args α) (i : Construct.Iso α) (h : construct w a = .ok i) :
    ∀ k ∈ keys i.properties, k ∉ unitPops ∧ k ∉ initParams ∧ k ∉ shorthands.map (·.1) ∧ k ∈ keys a := by
  intro k hk
  have hl := properties_are_the_other_keys w a i h k
  rw [mem_keys_iff] at hk
  by_cases hc : (unitPops.contains k || specialKeys.contains k) = true
  · rw [if_pos hc] at hl
    simp [hl] at hk
  · rw [if_neg hc] at hl
    simp only [Bool.or_eq_true, not_or, specialKeys, List.contains_eq_mem, List.mem_append, decide_eq_true_eq] at hc
    refine ⟨hc.1, hc.2.1, hc.2.2, ?_⟩
    rw [mem_keys_iff, ← hl]
    exact hk

lemma properties_keys_nodup (w : World α) (a : Args α) (i : Construct.Iso α) (h : construct w a = .ok i) (hn : (keys a).Nodup) :
    (keys i.properties).Nodup := by
  obtain ⟨-, -, -, -, -, hp⟩ := (construct_ok_iff w a i).1 h
  rw [hp, prepCall_eq]
  exact nodup_keys_filter (nodup_keys_filter hn _) _

omit [Field α] in
lemma forced_idem (pms : String) (pu : Val α) : forced pms (forced pms pu) = forced pms pu := by
  unfold forced; split_ifs <;> rfl

lemma construct_wellformed (w : World α) (a : Args α) (i : Construct.Iso α) (h : construct w a = .ok i) (hn : (keys a).Nodup) :
    validLabels i.lab.labels = true ∧ forced i.lab.pmode i.lab.punit = i.lab.punit ∧
      (∀ k ∈ keys i.properties, k ∉ specialKeys ∧ k ∉ unitPops) ∧ (keys i.properties).Nodup := by
  refine ⟨accepted_labels_valid w a i h, ?_, ?_, properties_keys_nodup w a i h hn⟩
  · obtain ⟨-, -, -, hl, -, -⟩ := (construct_ok_iff w a i).1 h
    obtain ⟨pms, lbs, mbs, tus, -, -, -, -, h5, -⟩ := (checkLabels_ok_iff _ _ _ _ _ _ _ _).1 hl
    rw [h5]
    exact forced_idem _ _
  · intro k hk
    obtain ⟨h1, h2, h3, -⟩ := reserved_keys_not_in_properties w a i h k hk
    refine ⟨?_, h1⟩
    simp only [specialKeys, List.mem_append, not_or]
    exact ⟨h2, h3⟩

omit [Field α] in
lemma keys_render (pr : α → String) (d : Args α) : (render pr d).map (·.1) = keys d := by
  simp [render, keys, List.map_map, Function.comp_def]

end

end PgVerif.Model.Construct
