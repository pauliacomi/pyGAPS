/-
Linear interpolation through the knots (`Model.interpLin`, scipy's `interp1d(kind='linear')` without fill) under a change of
units: used by the accessors (C03), the spreading-pressure fold (C11) and the unit-independence theorems (C15).
-/
import PgVerif.Model.SpreadPoint
import Mathlib.Tactic

namespace PgVerif.Model

variable {α : Type} [Field α] [LinearOrder α] [IsStrictOrderedRing α]

omit [LinearOrder α] [IsStrictOrderedRing α] in
/-- the value on one segment when the abscissae are multiplied by `k ≠ 0` and the ordinates by `c` -/
lemma segment_scale {k : α} (hk : k ≠ 0) (c l0 l1 p0 p1 x : α) :
    c * l0 + (c * l1 - c * l0) / (k * p1 - k * p0) * (k * x - k * p0)
      = c * (l0 + (l1 - l0) / (p1 - p0) * (x - p0)) := by
  rw [← mul_sub, ← mul_sub, ← mul_sub, div_mul_eq_mul_div, mul_left_comm, mul_div_mul_left _ _ hk]
  ring

/-- interpolation commutes with a change of units: multiplying the abscissae and the query by `k > 0` and the ordinates by any `c`
multiplies the value by `c` and keeps "outside the measured range" (`k > 0` keeps the order of query and knots, so the same segment is
chosen) -/
theorem interpLin_scale (k c : α) (hk : 0 < k) (xs ys : List α) (x : α) :
    interpLin (xs.map (k * ·)) (ys.map (c * ·)) (k * x) = (interpLin xs ys x).map (c * ·) := by
  induction xs generalizing ys with
  | nil => rfl
  | cons p0 pt ih =>
    rcases pt with _ | ⟨p1, pt⟩ <;> rcases ys with _ | ⟨l0, _ | ⟨l1, lt⟩⟩ <;> try rfl
    · simp only [List.map_cons, List.map_nil, interpLin, mul_right_inj' hk.ne']
      split_ifs <;> rfl
    · have ih' := ih (l1 :: lt)
      simp only [List.map_cons] at ih' ⊢
      simp only [interpLin, mul_lt_mul_iff_right₀ hk, mul_le_mul_iff_right₀ hk, ih', segment_scale hk.ne']
      split_ifs <;> rfl

end PgVerif.Model
