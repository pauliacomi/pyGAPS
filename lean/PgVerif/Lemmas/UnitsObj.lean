/-
Helper lemmas for `Props/C01/History.lean`: disjoint unit tables and the `Material` property store.
-/
import PgVerif.Lemmas.Units
import PgVerif.Model.UnitsObj

set_option linter.unusedSectionVars false
set_option linter.unusedSimpArgs false
set_option linter.unusedVariables false

namespace PgVerif.Units
open PgVerif.Model PgVerif.Gen
open PgVerif.Spec (LB MB Ads Mat gL gM PRep LRep MRep TRep physScale fac)

variable {α : Type} [Field α] [CharZero α]

/-- the four unit tables of `converter_unit.py`, by the name `Gen.unitTable` knows them under -/
def tableNames : List String := ["pressure", "molar", "mass", "volume"]

def disjointFrom (t1 t2 : List (String × Nat × Nat)) : Bool := t1.all fun e => (t2.lookup e.1).isNone

theorem disjoint_lookup (t1 t2 : List (String × Nat × Nat)) (hd : disjointFrom t1 t2 = true) (s : String)
    (h : (t1.lookup s).isSome = true) : t2.lookup s = none := by
  obtain ⟨p, hp, hs⟩ := List.lookup_isSome_iff.mp h
  rw [eq_of_beq hs]
  exact Option.isNone_iff_eq_none.mp (List.all_eq_true.mp hd p hp)

theorem lookup_all' {κ β : Type} [BEq κ] (t : List (κ × β)) (P : β → Bool) (hall : t.all (fun e => P e.2) = true)
    (s : κ) (b : β) (h : t.lookup s = some b) : P b = true := by
  induction t with
  | nil => simp [List.lookup] at h
  | cons e t ih =>
    simp only [List.all_cons, Bool.and_eq_true] at hall
    rw [List.lookup_cons] at h
    split at h
    · cases h; exact hall.1
    · exact ih hall.2 h

section store
variable [DecidableEq α]

theorem matProps_snoc (ops : List (MatOp α)) (o : MatOp α) :
    matProps (ops ++ [o]) = matStep (matProps ops) o := by
  simp [matProps, List.foldl_append]

end store

end PgVerif.Units
