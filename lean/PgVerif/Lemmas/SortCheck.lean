/-
A kernel-friendly duplicate check: `strictSorted (msort fuel l) = true → l.Nodup`.
(`List.Nodup` by `decide` is quadratic — 3 minutes on the 817 shipped aliases; this is n·log n — a second.)
-/
import Mathlib.Data.List.Perm.Basic
import Mathlib.Data.List.Nodup
import Mathlib.Data.List.Sort
import Mathlib.Tactic

namespace PgVerif.SortCheck

def strictSorted : List Nat → Bool
  | a :: b :: t => decide (a < b) && strictSorted (b :: t)
  | _ => true

/-- split into the elements at even and odd positions -/
def halve : List Nat → List Nat × List Nat
  | [] => ([], [])
  | [a] => ([a], [])
  | a :: b :: t => let (l, r) := halve t; (a :: l, b :: r)

/-- merge with explicit fuel (structural for the kernel) -/
def merge : Nat → List Nat → List Nat → List Nat
  | 0, l, r => l ++ r
  | _ + 1, [], r => r
  | _ + 1, l, [] => l
  | f + 1, a :: l, b :: r => if a ≤ b then a :: merge f l (b :: r) else b :: merge f (a :: l) r

def msort : Nat → List Nat → List Nat
  | 0, l => l
  | _ + 1, [] => []
  | _ + 1, [a] => [a]
  | f + 1, l => let (x, y) := halve l; merge (l.length) (msort f x) (msort f y)

theorem halve_perm : ∀ l : List Nat, ((halve l).1 ++ (halve l).2).Perm l
  | [] => by simp [halve]
  | [a] => by simp [halve]
  | a :: b :: t => by
    have ih := halve_perm t
    simp only [halve]
    have : (a :: (halve t).1 ++ b :: (halve t).2).Perm (a :: b :: ((halve t).1 ++ (halve t).2)) := by
      simp only [List.cons_append]
      exact List.Perm.cons a (List.perm_middle)
    exact this.trans (List.Perm.cons a (List.Perm.cons b ih))

theorem merge_perm (f : Nat) (l r : List Nat) : (merge f l r).Perm (l ++ r) := by
  induction f generalizing l r with
  | zero => simp [merge]
  | succ f ih =>
    cases l with
    | nil => simp [merge]
    | cons a l =>
      cases r with
      | nil => simp [merge]
      | cons b r =>
        simp only [merge]
        split
        · exact List.Perm.cons a (ih l (b :: r))
        · have h := List.Perm.cons b (ih (a :: l) r)
          exact h.trans (List.perm_middle.symm)

theorem msort_perm (f : Nat) (l : List Nat) : (msort f l).Perm l := by
  induction f generalizing l with
  | zero => simp [msort]
  | succ f ih =>
    match l with
    | [] => simp [msort]
    | [a] => simp [msort]
    | a :: b :: t =>
      simp only [msort]
      refine (merge_perm _ _ _).trans ?_
      refine ((ih _).append (ih _)).trans ?_
      exact halve_perm (a :: b :: t)

theorem nodup_of_strictSorted (l : List Nat) (h : strictSorted l = true) : l.Nodup := by
  have hs : l.Pairwise (· < ·) := by
    induction l with
    | nil => exact List.Pairwise.nil
    | cons a t ih =>
      cases t with
      | nil => exact List.pairwise_singleton _ _
      | cons b t =>
        simp only [strictSorted, Bool.and_eq_true, decide_eq_true_eq] at h
        have ht := ih h.2
        refine List.Pairwise.cons ?_ ht
        intro x hx
        rcases List.mem_cons.mp hx with rfl | hx'
        · exact h.1
        · exact lt_trans h.1 (List.rel_of_pairwise_cons ht hx')
  exact hs.imp (fun hab => ne_of_lt hab)

theorem nodup_of_check (f : Nat) (l : List Nat) (h : strictSorted (msort f l) = true) : l.Nodup :=
  ((msort_perm f l).nodup_iff).mp (nodup_of_strictSorted _ h)

end PgVerif.SortCheck
