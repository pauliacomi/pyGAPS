/-
Shared lemmas for C08 / C09.  `exec` runs a `Sql` program from a working state; `exec_stmt` is the exact behaviour of one statement
under the fault plan.  Two program logics follow: a relational one for pairs of runs (`Rel`) and a unary one for invariants of the
working copy in fault-free runs (`Inv`).  Both reach every operation body through its structure: adsorbates and materials are two
instances of one named `Item`, `Writes op` lists the write statements of an operation, and every body is composed from them, read
from the end, for any judgement closed under sequencing (`Compositional`).  Last comes `runOp` through `exec`, and what holds of
every call: the in-memory lists are never read, a fault is atomic, an invariant of the body is an invariant of the committed content.
-/
import PgVerif.Model.Store
import Mathlib.Tactic
set_option linter.unusedSimpArgs false
namespace PgVerif.StoreL
open PgVerif.Model.Store

def exec {β : Type} (p : Sql β) (w : Work) : Except SqlErr β × Work := (ExceptT.run p).run w

@[simp] lemma exec_pure {β} (a : β) (w : Work) : exec (pure a : Sql β) w = (.ok a, w) := rfl
@[simp] lemma exec_throw {β} (e : SqlErr) (w : Work) : exec (throw e : Sql β) w = (.error e, w) := rfl
@[simp] lemma exec_raise {β} (e : SqlErr) (w : Work) : exec (raise e : Sql β) w = (.error e, w) := rfl
lemma exec_bind {α β} (p : Sql α) (f : α → Sql β) (w : Work) :
    exec (p >>= f) w = match exec p w with
      | (.ok a, w') => exec (f a) w'
      | (.error e, w') => (.error e, w') := by
  simp only [exec, ExceptT.run_bind, StateT.run_bind]
  show (match (StateT.run (ExceptT.run p) w) with | (a, s) => _) = _
  rcases h : StateT.run (ExceptT.run p) w with ⟨r, w'⟩
  cases r <;> rfl
lemma exec_bind_of_error {α β} {p : Sql α} (f : α → Sql β) {w : Work} {e : SqlErr} (h : (exec p w).1 = .error e) :
    exec (p >>= f) w = (.error e, (exec p w).2) := by
  rw [exec_bind]
  rcases hx : exec p w with ⟨r, w1⟩
  rw [hx] at h
  subst h
  rfl
lemma exec_bind_of_ok {α β} {p : Sql α} (f : α → Sql β) {w : Work} {a : α} (h : (exec p w).1 = .ok a) :
    exec (p >>= f) w = exec (f a) (exec p w).2 := by
  rw [exec_bind]
  rcases hx : exec p w with ⟨r, w1⟩
  rw [hx] at h
  subst h
  rfl
@[simp] lemma exec_get (w : Work) : exec (get : Sql Work) w = (.ok w, w) := rfl
@[simp] lemma exec_set (w' w : Work) : exec (set w' : Sql Unit) w = (.ok (), w') := rfl
@[simp] lemma exec_modify (f : Work → Work) (w : Work) : exec (modify f : Sql Unit) w = (.ok (), f w) := rfl
@[simp] lemma exec_modifyMem (f : Mem → Mem) (w : Work) : exec (modifyMem f) w = (.ok (), { w with mem := f w.mem }) := rfl


/-- the fault injected at statement `k` before the statement runs -/
def injected (f : Option (Nat × FaultKind)) (k : Nat) : Option SqlErr :=
  match f with
  | some (kf, .integrity) => if kf = k then some .integrity else none
  | some (kf, .interface) => if kf = k then some .interface else none
  | some (kf, .operational) => if kf = k then some .operational else none
  | some (kf, .foreign) => if kf = k then some .foreign else none
  | some (kf, .exitBefore) => if kf = k then some .exit else none
  | _ => none

lemma injected_miss (k n : Nat) (kind : FaultKind) (h : k ≠ n) : injected (some (k, kind)) n = none := by
  cases kind <;> simp [injected, h]

lemma exec_stmt {β} (body : Db → Except SqlErr (β × Db)) (w : Work) :
    exec (stmt body) w =
      match injected w.fault w.n with
      | some e => (.error e, { w with n := w.n + 1 })
      | none =>
        match body w.db with
        | .error e => (.error e, { w with n := w.n + 1 })
        | .ok (r, db') =>
          if w.fault = some (w.n, .exitAfter) then (.error .exit, { w with n := w.n + 1, db := db' })
          else (.ok r, { w with n := w.n + 1, db := db' }) := by
  unfold stmt
  simp only [exec_bind, exec_get, exec_set]
  -- `injected` is the inner `match` of `stmt`, by unfolding
  show exec (match injected w.fault w.n with | some e => throw e | none => _) _ = _
  cases injected w.fault w.n with
  | some e => rfl
  | none =>
    simp only
    cases body w.db with
    | error e => rfl
    | ok p =>
      simp only [exec_bind, exec_modify]
      split <;> rfl


/-! ### fault-free runs -/

lemma exec_stmt_none {β} (body : Db → Except SqlErr (β × Db)) (db : Db) (mem : Mem) (n : Nat) :
    exec (stmt body) ⟨db, mem, n, none⟩ =
      match body db with
      | .error e => (.error e, ⟨db, mem, n + 1, none⟩)
      | .ok (r, db') => (.ok r, ⟨db', mem, n + 1, none⟩) := by
  rw [exec_stmt]
  have : injected none n = none := rfl
  simp only [this]
  cases body db with
  | error e => rfl
  | ok p => obtain ⟨r, d⟩ := p; simp

@[simp] lemma exec_readStmt_none {β} (g : Db → β) (db : Db) (mem : Mem) (n : Nat) :
    exec (readStmt g) ⟨db, mem, n, none⟩ = (.ok (g db), ⟨db, mem, n + 1, none⟩) := by
  unfold readStmt; rw [exec_stmt_none]

lemma exec_writeStmt_none (f : Db → Except SqlErr Db) (db : Db) (mem : Mem) (n : Nat) :
    exec (writeStmt f) ⟨db, mem, n, none⟩ =
      match f db with
      | .error e => (.error e, ⟨db, mem, n + 1, none⟩)
      | .ok d => (.ok (), ⟨d, mem, n + 1, none⟩) := by
  unfold writeStmt; rw [exec_stmt_none]
  cases f db <;> rfl

lemma exec_writeStmt_ok {f : Db → Except SqlErr Db} {db d : Db} (h : f db = .ok d) (mem : Mem) (n : Nat) :
    exec (writeStmt f) ⟨db, mem, n, none⟩ = (.ok (), ⟨d, mem, n + 1, none⟩) := by
  rw [exec_writeStmt_none, h]

/-! ### a small relational program logic -/

/-- Two runs of the same program from `R`-related states: either the first run fails with an error allowed to escape (`E e`),
or both runs return the same result in `R`-related states.  (`E := fun _ => False`: strict.  An invariant of one
run that concerns the fault plan or the statement counter, which `Inv` below does not see, is the relation `w = w' ∧ P w`:
`notYet` in Props/C09.) -/
def Rel (E : SqlErr → Prop) (R : Work → Work → Prop) {β : Type} (p : Sql β) : Prop :=
  ∀ w w', R w w' →
    (∃ e, E e ∧ (exec p w).1 = .error e) ∨ ((exec p w).1 = (exec p w').1 ∧ R (exec p w).2 (exec p w').2)

namespace Rel
variable {E : SqlErr → Prop} {R : Work → Work → Prop}

lemma pure {β} (a : β) : Rel E R (Pure.pure a : Sql β) := fun _ _ h => Or.inr ⟨rfl, h⟩
lemma throw {β} (e : SqlErr) : Rel E R (throw e : Sql β) := fun _ _ h => Or.inr ⟨rfl, h⟩
lemma raise {β} (e : SqlErr) : Rel E R (raise e : Sql β) := fun _ _ h => Or.inr ⟨rfl, h⟩

lemma bind {α β} {p : Sql α} {f : α → Sql β} (hp : Rel E R p) (hf : ∀ a, Rel E R (f a)) : Rel E R (p >>= f) := by
  intro w w' h
  rcases hp w w' h with ⟨e, hE, he⟩ | ⟨h1, h2⟩
  · exact Or.inl ⟨e, hE, by rw [exec_bind_of_error f he]⟩
  · rcases hr : (exec p w).1 with e | a
    · rw [exec_bind_of_error f hr, exec_bind_of_error f (h1 ▸ hr)]
      exact Or.inr ⟨rfl, h2⟩
    · rw [exec_bind_of_ok f hr, exec_bind_of_ok f (h1 ▸ hr)]
      exact hf a _ _ h2

lemma ite {β} {c : Prop} [Decidable c] {p q : Sql β} (hp : Rel E R p) (hq : Rel E R q) :
    Rel E R (if c then p else q) := by
  split <;> assumption

lemma forIn {α β} (l : List α) (f : α → β → Sql (ForInStep β)) (hf : ∀ a b, Rel E R (f a b)) (b : β) :
    Rel E R (forIn l b f) := by
  induction l generalizing b with
  | nil => rw [List.forIn_nil]; exact pure b
  | cons a l ih =>
    rw [List.forIn_cons]
    refine bind (hf a b) ?_
    intro r
    cases r with
    | done b => exact pure b
    | yield b => exact ih b

end Rel

/-- structural decomposition of a `do` block into its statements -/
macro "sql_struct" hs:ident hm:ident : tactic => `(tactic|
  repeat (first
    | with_reducible exact Rel.pure _ | with_reducible exact Rel.throw _ | with_reducible exact Rel.raise _
    | with_reducible exact $hs _ | with_reducible exact $hm _
    | with_reducible apply Rel.bind | with_reducible apply Rel.ite | with_reducible apply Rel.forIn
    | with_reducible intro _
    | (split)
    | dsimp only))

/-! ### unary invariants of fault-free runs -/

/-- postcondition of a statement function: `P` of the new content, or an error allowed to escape -/
def okP (P : Db → Prop) (E : SqlErr → Prop) : Except SqlErr Db → Prop
  | .ok d => P d
  | .error e => E e

@[simp] lemma okP_ok {P : Db → Prop} {E : SqlErr → Prop} (d : Db) : okP P E (.ok d) = P d := rfl
@[simp] lemma okP_error {P : Db → Prop} {E : SqlErr → Prop} (e : SqlErr) : okP P E (.error e) = E e := rfl

abbrev anyErr : SqlErr → Prop := fun _ => True

lemma okP_guard {P : Db → Prop} {c : Prop} [Decidable c] {d' : Db} {e : SqlErr} (hc : c → P d') :
    okP P anyErr (if c then .ok d' else .error e) := by
  split
  · exact hc ‹_›
  · trivial

lemma okP_refuse {P : Db → Prop} {c : Prop} [Decidable c] {d' : Db} {e : SqlErr} (hc : ¬c → P d') :
    okP P anyErr (if c then .error e else .ok d') := by
  split
  · trivial
  · exact hc ‹_›


/-- Fault-free Hoare judgement with one invariant: from a state without fault plan whose working copy satisfies `P`, the
program either fails with an error satisfying `E`, or returns normally in a state without fault plan whose working copy
satisfies `P`. -/
def Inv (E : SqlErr → Prop) (P : Db → Prop) {β : Type} (p : Sql β) : Prop :=
  ∀ w, w.fault = none → P w.db →
    (∃ e, E e ∧ (exec p w).1 = .error e) ∨
      (∃ a, (exec p w).1 = .ok a ∧ (exec p w).2.fault = none ∧ P (exec p w).2.db)

namespace Inv
variable {E : SqlErr → Prop} {P : Db → Prop}

lemma pure {β} (a : β) : Inv E P (Pure.pure a : Sql β) := fun _ h1 h2 => Or.inr ⟨a, rfl, h1, h2⟩
lemma throw {β} (e : SqlErr) (he : E e) : Inv E P (throw e : Sql β) := fun _ _ _ => Or.inl ⟨e, he, rfl⟩
lemma raise {β} (e : SqlErr) (he : E e) : Inv E P (raise e : Sql β) := fun _ _ _ => Or.inl ⟨e, he, rfl⟩

lemma bind {α β} {p : Sql α} {f : α → Sql β} (hp : Inv E P p) (hf : ∀ a, Inv E P (f a)) : Inv E P (p >>= f) := by
  intro w h1 h2
  rcases hp w h1 h2 with ⟨e, hE, he⟩ | ⟨a, ha, h3, h4⟩
  · exact Or.inl ⟨e, hE, by rw [exec_bind_of_error f he]⟩
  · rw [exec_bind_of_ok f ha]
    exact hf a _ h3 h4

lemma stmt {β} (body : Db → Except SqlErr (β × Db))
    (h : ∀ d, P d → match body d with | .ok (_, d') => P d' | .error e => E e) : Inv E P (stmt body) := by
  rintro ⟨db, mem, n, f⟩ hf hP
  simp only at hf hP
  subst hf
  rw [exec_stmt_none]
  have := h db hP
  cases hb : body db with
  | error e => rw [hb] at this; exact Or.inl ⟨e, this, rfl⟩
  | ok p => obtain ⟨r, d⟩ := p; rw [hb] at this; exact Or.inr ⟨r, rfl, rfl, this⟩

lemma readStmt {β} (g : Db → β) : Inv E P (readStmt g) := stmt _ fun _ h => h

lemma writeStmt (f : Db → Except SqlErr Db) (h : ∀ d, P d → okP P E (f d)) : Inv E P (writeStmt f) := by
  refine stmt _ fun d hd => ?_
  have := h d hd
  cases hf : f d with
  | error e => rw [hf] at this; exact this
  | ok d' => rw [hf] at this; exact this

lemma modifyMem (f : Mem → Mem) : Inv E P (modifyMem f) := fun _ h1 h2 => Or.inr ⟨(), rfl, h1, h2⟩

end Inv

lemma Inv.bind_fails {α β : Type} {P : Db → Prop} {e₀ : SqlErr} {p : Sql α} {f : α → Sql β} (hp : Inv (· = e₀) P p)
    {w : Work} (hw : w.fault = none) (hP : P w.db)
    (hf : ∀ a w', w'.fault = none → P w'.db → (exec (f a) w').1 = .error e₀) : (exec (p >>= f) w).1 = .error e₀ := by
  rcases hp w hw hP with ⟨e, he, hr⟩ | ⟨a, hr, hf', hP'⟩
  · rw [exec_bind_of_error f hr, he]
  · rw [exec_bind_of_ok f hr]
    exact hf a _ hf' hP'

/-! ### the structure of the operation bodies -/

/-- A property of programs closed under what the store operations are written with: sequencing, reading the file, raising
the module's own `IntegrityError`, updating the in-memory lists.  (Branching and looping follow: `ite`, `forIn_mem`.) -/
structure Compositional (J : ∀ {β : Type}, Sql β → Prop) : Prop where
  pure {β : Type} (a : β) : J (pure a)
  bind {α β : Type} {p : Sql α} {f : α → Sql β} : J p → (∀ a, J (f a)) → J (p >>= f)
  raise {β : Type} : J (raise .integrity : Sql β)
  readStmt {β : Type} (g : Db → β) : J (readStmt g)
  modifyMem (f : Mem → Mem) : J (modifyMem f)

namespace Compositional
variable {J : ∀ {β : Type}, Sql β → Prop}

lemma ite {β} {c : Prop} [Decidable c] {p q : Sql β} (hp : c → J p) (hq : ¬c → J q) : J (if c then p else q) := by
  split
  · exact hp ‹_›
  · exact hq ‹_›

lemma forIn_mem (hJ : Compositional J) {α β} {l : List α} {f : α → β → Sql (ForInStep β)} {b : β}
    (hf : ∀ a ∈ l, ∀ b, J (f a b)) : J (forIn l b f) := by
  induction l generalizing b with
  | nil => rw [List.forIn_nil]; exact hJ.pure b
  | cons a l ih =>
    rw [List.forIn_cons]
    refine hJ.bind (hf a List.mem_cons_self b) fun r => ?_
    cases r with
    | done b => exact hJ.pure b
    | yield b => exact ih fun a' ha' => hf a' (List.mem_cons_of_mem _ ha')

end Compositional

/-! ### the operations as sequences of named parts -/

/-- the auto-insertion loop of `adsorbate_to_db` / `material_to_db`: a property type outside the snapshot `types` is inserted -/
def typeLoop (sel : Db → List (String × String × String)) (upd : Db → List (String × String × String) → Db)
    (types : List String) (props : List (String × List (Option String))) : Sql PUnit :=
  forIn props PUnit.unit fun x _ =>
    match x with
    | (t, _) =>
      if !types.contains t then do
        writeStmt (insType3 sel upd (some t) "" "")
        pure (ForInStep.yield PUnit.unit)
      else pure (ForInStep.yield PUnit.unit)

/-- the values of one property, one `INSERT` each -/
def valLoop (ins : Option String → Db → Except SqlErr Db) (vs : List (Option String)) : Sql PUnit :=
  forIn vs PUnit.unit fun v _ => do
    writeStmt (ins v)
    pure (ForInStep.yield PUnit.unit)

/-- the property-row loop of `adsorbate_to_db` / `material_to_db` -/
def propLoop (ins : String → Option String → Db → Except SqlErr Db) (props : List (String × List (Option String))) :
    Sql PUnit :=
  forIn props PUnit.unit fun x _ =>
    match x with
    | (t, vs) => do
      valLoop (ins t) vs
      pure (ForInStep.yield PUnit.unit)

/-- What adsorbates and materials have in common in the store: a table of names, a table of property rows, a table of property
types, their statements, and an in-memory list. -/
structure Item where
  names : Db → List String
  setNames : Db → List String → Db
  props : Db → List (String × String × String)
  setProps : Db → List (String × String × String) → Db
  types : Db → List (String × String × String)
  setTypes : Db → List (String × String × String) → Db
  insName : Option String → Db → Except SqlErr Db
  insProp : String → String → Option String → Db → Except SqlErr Db
  del : String → Db → Except SqlErr Db
  list : Mem → List String
  setList : Mem → List String → Mem

@[reducible] def Item.ads : Item where
  names := (·.ads)
  setNames d l := { d with ads := l }
  props := (·.adsProps)
  setProps d l := { d with adsProps := l }
  types := (·.adsTypes)
  setTypes d l := { d with adsTypes := l }
  insName := insAds
  insProp := insAdsProp
  del := delAds
  list := (·.adsList)
  setList m l := { m with adsList := l }

@[reducible] def Item.mat : Item where
  names := (·.mats)
  setNames d l := { d with mats := l }
  props := (·.matProps)
  setProps d l := { d with matProps := l }
  types := (·.matTypes)
  setTypes d l := { d with matTypes := l }
  insName := insMat
  insProp := insMatProp
  del := delMat
  list := (·.matList)
  setList m l := { m with matList := l }

namespace Item
variable (k : Item)

/-- `DELETE` of the property rows of `nm` -/
def clear (nm : String) (db : Db) : Except SqlErr Db := .ok (k.setProps db ((k.props db).filter (·.1 != nm)))

/-- `adsorbate_to_db` / `material_to_db` -/
def toDb (name : Option String) (props : List (String × List (Option String))) (autoinsert overwrite : Bool) : Sql Unit := do
  let nm := name.getD ""
  if overwrite then
    let ex ← readStmt fun db => (k.names db).contains nm
    if !ex then raise .integrity
    writeStmt (k.clear nm)
  else
    writeStmt (k.insName name)
  if autoinsert then
    let types ← readStmt fun db => (k.types db).map (·.1)
    typeLoop k.types k.setTypes types props
  propLoop (k.insProp nm) props
  if overwrite then
    modifyMem fun m => k.setList m ((k.list m).erase nm)
  modifyMem fun m => k.setList m (k.list m ++ [nm])

/-- `adsorbate_delete_db` / `material_delete_db` -/
def delete (name : String) : Sql Unit := do
  let ex ← readStmt fun db => (k.names db).contains name
  if !ex then raise .integrity
  writeStmt (k.clear name)
  writeStmt (k.del name)
  modifyMem fun m => k.setList m ((k.list m).erase name)

/-- the write statements of `toDb`: the `DELETE` of old property rows belongs to an overwrite only, the `INSERT` of the name to a
first upload only -/
inductive Writes (n : Option String) (o : Bool) : (Db → Except SqlErr Db) → Prop
  | clear : o = true → Writes n o (k.clear (n.getD ""))
  | insName : ¬o = true → Writes n o (k.insName n)
  | insType (t) : Writes n o (insType3 k.types k.setTypes (some t) "" "")
  | insProp (t v) : Writes n o (k.insProp (n.getD "") t v)

inductive DelWrites (n : String) : (Db → Except SqlErr Db) → Prop
  | clear : DelWrites n (k.clear n)
  | del : DelWrites n (k.del n)

end Item

-- `adsToDb`, `matToDb`, `adsDelete`, `matDelete` of the model are `Item.ads.toDb`, `Item.mat.toDb`, `Item.ads.delete`,
-- `Item.mat.delete` by `rfl`; `body_comp` and the computations of Props/C08 use them in that form.

/-- unfolds a write statement of the model (through `Item.ads` / `Item.mat` where it is an item's) down to its guards and splits
along them: every goal that remains is about a success `.ok d'` or a refusal `.error e` -/
macro "stmt_split" : tactic => `(tactic|
  (try simp only [Item.clear, insAds, insMat, insName, insAdsProp, insMatProp, insType3, updType3, insIsoType, updIsoType, delAds, delMat,
     delAdsType, delMatType, delIsoType, insIso, insIsoProp, insIsoData, Bool.false_eq_true, if_true, if_false]
   repeat' split))

/-- `Writes op f`: the operation `op` may issue the write statement `f`.  The list is as fine as the invariants need it: an isotherm
property row carries its membership in `i.props`; `isotherm_to_db` inherits the statements of the two auto-insertions. -/
inductive Writes : Op → (Db → Except SqlErr Db) → Prop
  | ads {n p a o f} : Item.ads.Writes n o f → Writes (.adsToDb n p a o) f
  | mat {n p a o f} : Item.mat.Writes n o f → Writes (.matToDb n p a o) f
  | adsDel {n f} : Item.ads.DelWrites n f → Writes (.adsDelete n) f
  | matDel {n f} : Item.mat.DelWrites n f → Writes (.matDelete n) f
  | typeAds {tb t u d o} : Writes (.typeToDb tb t u d o)
      ((if o then updType3 else insType3) (·.adsTypes) (fun db l => { db with adsTypes := l }) t u d)
  | typeMat {tb t u d o} : Writes (.typeToDb tb t u d o)
      ((if o then updType3 else insType3) (·.matTypes) (fun db l => { db with matTypes := l }) t u d)
  | typeIso {tb t u d o} : Writes (.typeToDb tb t u d o) ((if o then updIsoType else insIsoType) t d)
  | typeDelAds {tb t} : Writes (.typeDelete tb t) (delAdsType t)
  | typeDelMat {tb t} : Writes (.typeDelete tb t) (delMatType t)
  | typeDelIso {tb t} : Writes (.typeDelete tb t) (delIsoType t)
  | isoRow {i am aa} : Writes (.isoToDb i am aa) (insIso i.id i.isoType i.material i.adsorbate i.temperature)
  | isoProp {i am aa t v} : (t, v) ∈ i.props → Writes (.isoToDb i am aa) (insIsoProp i.id t v)
  | isoData {i am aa} (t dt d) : Writes (.isoToDb i am aa) (insIsoData i.id t dt d)
  | isoMat {i am aa f} : Writes (.matToDb i.material i.matProps true false) f → Writes (.isoToDb i am aa) f
  | isoAds {i am aa f} : Writes (.adsToDb i.adsorbate i.adsProps true false) f → Writes (.isoToDb i am aa) f
  | isoDelData {id} : Writes (.isoDelete id) fun db => .ok { db with isoData := db.isoData.filter (·.1 != id) }
  | isoDelProps {id} : Writes (.isoDelete id) fun db => .ok { db with isoProps := db.isoProps.filter (·.1 != id) }
  | isoDelRow {id} : Writes (.isoDelete id) fun db => .ok { db with isos := db.isos.filter (·.1 != id) }
  | noTable {w} : Writes (.isoPropTypeOp w) fun _ => .error .operational

/-- the property-row loop of `isotherm_to_db` -/
def isoPropLoop (id : String) (props : List (String × PVal)) : Sql PUnit :=
  forIn props PUnit.unit fun x _ =>
    match x with
    | (t, v) => do
      writeStmt (insIsoProp id t v)
      pure (ForInStep.yield PUnit.unit)

/-- the data-row loop of `isotherm_to_db` -/
def isoDataLoop (id : String) (data : List (String × String × String)) : Sql PUnit :=
  forIn data PUnit.unit fun x _ =>
    match x with
    | (t, dt, d) => do
      writeStmt (insIsoData id t dt d)
      pure (ForInStep.yield PUnit.unit)

/-- the tail of `isotherm_to_db`: the isotherm row, its property rows, its data rows -/
def isoTail (i : IsoIn) : Sql Unit := do
  writeStmt (insIso i.id i.isoType i.material i.adsorbate i.temperature)
  isoPropLoop i.id i.props
  isoDataLoop i.id i.data
  pure ()

/-- the adsorbate auto-insertion step followed by the tail -/
def isoAdsPart (i : IsoIn) (autoAds : Bool) : Sql Unit :=
  if autoAds then do
    let known ← readStmt fun db => db.ads.contains (i.adsorbate.getD "")
    if !known then do
      adsToDb i.adsorbate i.adsProps true false
      isoTail i
    else isoTail i
  else isoTail i

lemma isoToDb_eq (i : IsoIn) (autoMat autoAds : Bool) :
    isoToDb i autoMat autoAds =
      if autoMat then do
        let known ← readStmt fun db => db.mats.contains (i.material.getD "")
        if !known then do
          matToDb i.material i.matProps true false
          isoAdsPart i autoAds
        else isoAdsPart i autoAds
      else isoAdsPart i autoAds := by
  rfl

section body
variable {J : ∀ {β : Type}, Sql β → Prop} (hJ : Compositional J)
include hJ

lemma typeLoop_comp {sel upd} (types props) (h : ∀ t, J (writeStmt (insType3 sel upd (some t) "" ""))) :
    J (typeLoop sel upd types props) :=
  hJ.forIn_mem fun _ _ _ => Compositional.ite (fun _ => hJ.bind (h _) fun _ => hJ.pure _) fun _ => hJ.pure _

lemma propLoop_comp {ins} (props) (h : ∀ t v, J (writeStmt (ins t v))) : J (propLoop ins props) :=
  hJ.forIn_mem fun _ _ _ => hJ.bind (hJ.forIn_mem fun _ _ _ => hJ.bind (h _ _) fun _ => hJ.pure _) fun _ => hJ.pure _

/-- `_delete_by_id` and its kin: `SELECT`, raise `IntegrityError` if there is no row, else go on -/
lemma checked_comp {g : Db → Bool} {rest : Sql Unit} (hrest : J rest) :
    J (do
      let ex ← readStmt g
      if !ex then raise .integrity
      rest) :=
  hJ.bind (hJ.readStmt _) fun _ => Compositional.ite (fun _ => hJ.bind hJ.raise fun _ => hrest) fun _ => hrest

/-- the body of `toDb`, read from the end: the in-memory lists, the property rows, the auto-insertion, the name -/
lemma Item.toDb_comp (k : Item) (n p a o) (hw : ∀ f, k.Writes n o f → J (writeStmt f)) : J (k.toDb n p a o) :=
  have hmem : J _ := Compositional.ite (fun _ => hJ.bind (hJ.modifyMem _) fun _ => hJ.modifyMem _) fun _ => hJ.modifyMem _
  have hrows : J _ := hJ.bind (propLoop_comp hJ p fun t v => hw _ (.insProp t v)) fun _ => hmem
  have hauto : J _ := Compositional.ite
    (fun _ => hJ.bind (hJ.readStmt _) fun types => hJ.bind (typeLoop_comp hJ types p fun t => hw _ (.insType t)) fun _ => hrows)
    fun _ => hrows
  Compositional.ite
    (fun ho => checked_comp hJ (hJ.bind (hw _ (.clear ho)) fun _ => hauto))
    fun ho => hJ.bind (hw _ (.insName ho)) fun _ => hauto

lemma Item.delete_comp (k : Item) (n) (hw : ∀ f, k.DelWrites n f → J (writeStmt f)) : J (k.delete n) :=
  checked_comp hJ (hJ.bind (hw _ .clear) fun _ => hJ.bind (hw _ .del) fun _ => hJ.modifyMem _)

lemma isoTail_comp (i am aa) (hw : ∀ f, Writes (.isoToDb i am aa) f → J (writeStmt f)) : J (isoTail i) :=
  hJ.bind (hw _ .isoRow) fun _ =>
    hJ.bind (hJ.forIn_mem fun _ hm _ => hJ.bind (hw _ (.isoProp hm)) fun _ => hJ.pure _) fun _ =>
      hJ.bind (hJ.forIn_mem fun _ _ _ => hJ.bind (hw _ (.isoData _ _ _)) fun _ => hJ.pure _) fun _ => hJ.pure _

lemma autoInsert_comp {auto : Bool} {known : Db → Bool} {p c : Sql Unit} (hp : J p) (hc : J c) :
    J (if auto then do
        let k ← readStmt known
        if !k then do p; c else c
      else c) :=
  Compositional.ite (fun _ => hJ.bind (hJ.readStmt _) fun _ => Compositional.ite (fun _ => hJ.bind hp fun _ => hc) fun _ => hc)
    fun _ => hc

/-- every operation body is built from its write statements `Writes op` by sequencing, branching on values read from the file,
looping, raising `IntegrityError` and updating the in-memory lists -/
lemma body_comp (op : Op) (hw : ∀ f, Writes op f → J (writeStmt f)) : J op.body := by
  cases op with
  | adsToDb n p a o => exact Item.ads.toDb_comp hJ n p a o fun f h => hw f (.ads h)
  | matToDb n p a o => exact Item.mat.toDb_comp hJ n p a o fun f h => hw f (.mat h)
  | adsDelete n => exact Item.ads.delete_comp hJ n fun f h => hw f (.adsDel h)
  | matDelete n => exact Item.mat.delete_comp hJ n fun f h => hw f (.matDel h)
  | typeToDb tb t u d o =>
    show J (typeToDb tb t u d o)
    unfold typeToDb
    split <;> exact hw _ (by constructor)
  | typeDelete tb t =>
    refine checked_comp hJ ?_
    split <;> exact hw _ (by constructor)
  | isoDelete id =>
    exact checked_comp hJ (hJ.bind (hw _ .isoDelData) fun _ => hJ.bind (hw _ .isoDelProps) fun _ => hw _ .isoDelRow)
  | isoPropTypeOp w => exact hw (fun _ => .error .operational) .noTable
  | isoToDb i am aa =>
    exact autoInsert_comp hJ (Item.mat.toDb_comp hJ i.material i.matProps true false fun f h => hw f (.isoMat (.mat h)))
      (autoInsert_comp hJ (Item.ads.toDb_comp hJ i.adsorbate i.adsProps true false fun f h => hw f (.isoAds (.ads h)))
        (isoTail_comp hJ i am aa hw))
end body


/-! ### the two logics on operation bodies -/

lemma Rel.compositional {E : SqlErr → Prop} {R : Work → Work → Prop}
    (hs : ∀ {β : Type} (body : Db → Except SqlErr (β × Db)), Rel E R (stmt body)) (hm : ∀ f, Rel E R (modifyMem f)) :
    Compositional fun {β} (p : Sql β) => Rel E R p :=
  ⟨Rel.pure, Rel.bind, Rel.raise _, fun _ => hs _, hm⟩

lemma Inv.compositional {E : SqlErr → Prop} {P : Db → Prop} (hE : E .integrity) :
    Compositional fun {β} (p : Sql β) => Inv E P p :=
  ⟨Inv.pure, Inv.bind, Inv.raise _ hE, Inv.readStmt, Inv.modifyMem⟩

lemma Inv.opBody {E : SqlErr → Prop} {P : Db → Prop} (hE : E .integrity) (op : Op)
    (hw : ∀ f, Writes op f → ∀ d, P d → okP P E (f d)) : Inv E P op.body :=
  body_comp (Inv.compositional hE) op fun f hf => Inv.writeStmt f (hw f hf)

section ops
variable {E : SqlErr → Prop} {R : Work → Work → Prop}
  (hs : ∀ {β : Type} (body : Db → Except SqlErr (β × Db)), Rel E R (stmt body))
  (hm : ∀ f, Rel E R (modifyMem f))
include hs hm

lemma rel_opBody (op : Op) : Rel E R op.body :=
  body_comp (Rel.compositional hs hm) op fun _ _ => hs _

/-- the program `runOp` runs: the PRAGMA statement, then the body -/
def prog (op : Op) : Sql Unit := do
  writeStmt fun d => .ok d
  op.body

lemma rel_prog (op : Op) : Rel E R (prog op) := by
  unfold prog writeStmt
  exact Rel.bind (hs _) fun _ => rel_opBody hs hm op

end ops

/-! ### `runOp` in terms of `exec` -/

/-- what `with_connection` does with the body's result -/
def finish (db : Db) (mem : Mem) (fault : Option (Nat × FaultKind)) (rw : Except SqlErr Unit × Work) : Result :=
  match rw.1 with
  | .ok _ =>
    if fault = some (rw.2.n, .exitBefore) then ⟨db, mem, .died, rw.2.n⟩
    else if fault = some (rw.2.n, .exitAfter) then ⟨rw.2.db, mem, .died, rw.2.n⟩
    else ⟨rw.2.db, rw.2.mem, .ok, rw.2.n⟩
  | .error .integrity => ⟨db, rw.2.mem, .parsingError, rw.2.n⟩
  | .error .interface => ⟨db, rw.2.mem, .parsingError, rw.2.n⟩
  | .error .operational => ⟨db, rw.2.mem, .otherError, rw.2.n⟩
  | .error .foreign => ⟨db, rw.2.mem, .otherError, rw.2.n⟩
  | .error .exit => ⟨db, mem, .died, rw.2.n⟩

lemma runOp_eq (db : Db) (mem : Mem) (op : Op) (fault : Option (Nat × FaultKind)) :
    runOp db mem op fault = finish db mem fault (exec (prog op) ⟨db, mem, 0, fault⟩) := by
  unfold runOp finish exec prog
  rcases h : StateT.run (ExceptT.run (do writeStmt fun d => Except.ok d; op.body)) ⟨db, mem, 0, fault⟩ with ⟨r, w⟩
  simp only [h]
  rcases r with e | a
  · cases e <;> rfl
  · rfl


/-! ### `finish`: the commit / rollback / propagate step of `with_connection` -/

/-- the outcome `with_connection` reports for a body result, when no death is planted at the commit -/
def outcomeOf : Except SqlErr Unit → Outcome
  | .ok _ => .ok
  | .error .integrity => .parsingError
  | .error .interface => .parsingError
  | .error .operational => .otherError
  | .error .foreign => .otherError
  | .error .exit => .died

section finish
variable (db : Db) (mem : Mem) (f : Option (Nat × FaultKind)) {rw : Except SqlErr Unit × Work}

lemma finish_error {e : SqlErr} (h : rw.1 = .error e) :
    (finish db mem f rw).db = db ∧ (finish db mem f rw).out = outcomeOf (.error e) := by
  unfold finish
  rw [h]
  cases e <;> exact ⟨rfl, rfl⟩

lemma outcomeOf_error_ne_ok (e : SqlErr) : outcomeOf (.error e) ≠ .ok := by
  cases e <;> simp [outcomeOf]

lemma finish_ok (h : rw.1 = .ok ()) :
    finish db mem f rw =
      if f = some (rw.2.n, .exitBefore) then ⟨db, mem, .died, rw.2.n⟩
      else if f = some (rw.2.n, .exitAfter) then ⟨rw.2.db, mem, .died, rw.2.n⟩
      else ⟨rw.2.db, rw.2.mem, .ok, rw.2.n⟩ := by
  unfold finish
  rw [h]

lemma finish_none_ok (h : rw.1 = .ok ()) : finish db mem none rw = ⟨rw.2.db, rw.2.mem, .ok, rw.2.n⟩ := by
  rw [finish_ok _ _ _ h]
  simp

lemma finish_congr (mem' : Mem) {rw' : Except SqlErr Unit × Work}
    (h1 : rw.1 = rw'.1) (h2 : rw.2.db = rw'.2.db) (h3 : rw.2.n = rw'.2.n) :
    (finish db mem f rw).db = (finish db mem' f rw').db ∧ (finish db mem f rw).out = (finish db mem' f rw').out ∧
      (finish db mem f rw).stmts = (finish db mem' f rw').stmts := by
  unfold finish
  rw [← h1, ← h2, ← h3]
  rcases rw.1 with e | a
  · cases e <;> exact ⟨rfl, rfl, rfl⟩
  · simp only
    split
    · exact ⟨rfl, rfl, rfl⟩
    · split <;> exact ⟨rfl, rfl, rfl⟩

end finish

lemma stmtCount_eq (db : Db) (mem : Mem) (op : Op) :
    stmtCount db mem op = (exec (prog op) ⟨db, mem, 0, none⟩).2.n := by
  unfold stmtCount
  rw [runOp_eq]
  unfold finish
  rcases (exec (prog op) ⟨db, mem, 0, none⟩).1 with e | a
  · cases e <;> rfl
  · simp

/-- the fault-free call: the PRAGMA is statement 0, the body starts at counter 1 -/
lemma runOp_none (db : Db) (mem : Mem) (op : Op) :
    (runOp db mem op none).out = outcomeOf (exec op.body ⟨db, mem, 1, none⟩).1 ∧
    (runOp db mem op none).db =
      (match (exec op.body ⟨db, mem, 1, none⟩).1 with
        | .ok _ => (exec op.body ⟨db, mem, 1, none⟩).2.db
        | .error _ => db) := by
  rw [runOp_eq]
  unfold prog
  rw [exec_bind, exec_writeStmt_none]
  simp only
  unfold finish outcomeOf
  rcases (exec op.body ⟨db, mem, 1, none⟩).1 with e | a
  · cases e <;> exact ⟨rfl, rfl⟩
  · simp


/-! ### a relation between runs: the in-memory lists are never read -/

def memR (w w' : Work) : Prop := w.db = w'.db ∧ w.n = w'.n ∧ w.fault = w'.fault

lemma memR_stmt {β : Type} (body : Db → Except SqlErr (β × Db)) : Rel (fun _ => False) memR (stmt body) := by
  rintro ⟨db, mem, n, f⟩ ⟨db', mem', n', f'⟩ ⟨h1, h2, h3⟩
  simp only at h1 h2 h3
  subst h1 h2 h3
  right
  rw [exec_stmt, exec_stmt]
  simp only
  cases injected f n with
  | some e => exact ⟨rfl, rfl, rfl, rfl⟩
  | none =>
    simp only
    cases body db with
    | error e => exact ⟨rfl, rfl, rfl, rfl⟩
    | ok p =>
      obtain ⟨r, d⟩ := p
      simp only
      split <;> exact ⟨rfl, rfl, rfl, rfl⟩

lemma memR_modifyMem (f : Mem → Mem) : Rel (fun _ => False) memR (modifyMem f) := by
  rintro w w' ⟨h1, h2, h3⟩
  exact Or.inr ⟨rfl, h1, h2, h3⟩

/-! ### a relation between runs: a faulty run against the fault-free run -/

def faultR (k : Nat) (kind : FaultKind) (w w' : Work) : Prop :=
  w.db = w'.db ∧ w.n = w'.n ∧ w.mem = w'.mem ∧ w.fault = some (k, kind) ∧ w'.fault = none

/-- the faulty run leaves the fault-free run only by the injected exception or by dying after the statement; `E` says which
errors those may be -/
lemma faultR_stmt {E : SqlErr → Prop} (k : Nat) (kind : FaultKind) (hinj : ∀ n e, injected (some (k, kind)) n = some e → E e)
    (hexit : kind = .exitAfter → E .exit) {β : Type} (body : Db → Except SqlErr (β × Db)) :
    Rel E (faultR k kind) (stmt body) := by
  rintro ⟨db, mem, n, f⟩ ⟨db', mem', n', f'⟩ ⟨h1, h2, h3, h4, h5⟩
  simp only at h1 h2 h3 h4 h5
  subst h1 h2 h3 h4 h5
  rw [exec_stmt, exec_stmt]
  simp only
  cases hi : injected (some (k, kind)) n with
  | some e => exact Or.inl ⟨e, hinj n e hi, rfl⟩
  | none =>
    have h0 : injected none n = none := rfl
    rw [h0]
    simp only
    cases body db with
    | error e => exact Or.inr ⟨rfl, rfl, rfl, rfl, rfl, rfl⟩
    | ok p =>
      obtain ⟨r, d⟩ := p
      simp only
      split
      · rename_i hc
        exact Or.inl ⟨_, hexit (Prod.mk.inj (Option.some.inj hc)).2, rfl⟩
      · exact Or.inr ⟨rfl, rfl, rfl, rfl, rfl, rfl⟩

lemma faultR_modifyMem {E : SqlErr → Prop} (k : Nat) (kind : FaultKind) (f : Mem → Mem) :
    Rel E (faultR k kind) (modifyMem f) := by
  rintro w w' ⟨h1, h2, h3, h4, h5⟩
  refine Or.inr ⟨rfl, h1, h2, ?_, h4, h5⟩
  simp only [exec_modifyMem, h3]

/-! ### a run whose fault is never hit coincides with the fault-free run -/

/-- If the body, run with the fault plan `(k, kind)`, returns normally, then its final working state
(working copy, statement counter, in-memory lists) is exactly the one of the fault-free run. -/
lemma exec_fault_not_hit (db : Db) (mem : Mem) (op : Op) (k : Nat) (kind : FaultKind)
    (h : (exec (prog op) ⟨db, mem, 0, some (k, kind)⟩).1 = .ok ()) :
    (exec (prog op) ⟨db, mem, 0, none⟩).1 = .ok () ∧
      faultR k kind (exec (prog op) ⟨db, mem, 0, some (k, kind)⟩).2 (exec (prog op) ⟨db, mem, 0, none⟩).2 := by
  rcases rel_prog (E := fun _ => True) (fun b => faultR_stmt k kind (fun _ _ _ => trivial) (fun _ => trivial) b)
      (faultR_modifyMem k kind) op
      ⟨db, mem, 0, some (k, kind)⟩ ⟨db, mem, 0, none⟩ ⟨rfl, rfl, rfl, rfl, rfl⟩ with ⟨e, _, he⟩ | ⟨h1, h2⟩
  · rw [h] at he; cases he
  · exact ⟨h1 ▸ h, h2⟩

/-- Atomicity: whatever statement a fault hits and whatever its kind, the committed file content afterwards is either
the content before the call or the content the fault-free call commits. -/
lemma runOp_atomic (db : Db) (mem : Mem) (op : Op) (k : Nat) (kind : FaultKind) :
    (runOp db mem op (some (k, kind))).db = db ∨
      (runOp db mem op (some (k, kind))).db = (runOp db mem op none).db := by
  rw [runOp_eq, runOp_eq]
  rcases hr : (exec (prog op) ⟨db, mem, 0, some (k, kind)⟩).1 with e | a
  · exact Or.inl (finish_error _ _ _ hr).1
  · obtain ⟨h0, h1, _⟩ := exec_fault_not_hit db mem op k kind hr
    rw [finish_none_ok _ _ h0, finish_ok _ _ _ hr]
    split
    · exact Or.inl rfl
    · split <;> exact Or.inr h1

lemma runOp_mem_irrelevant (db : Db) (mem₁ mem₂ : Mem) (op : Op) (f : Option (Nat × FaultKind)) :
    (runOp db mem₁ op f).db = (runOp db mem₂ op f).db ∧ (runOp db mem₁ op f).out = (runOp db mem₂ op f).out ∧
      (runOp db mem₁ op f).stmts = (runOp db mem₂ op f).stmts := by
  rw [runOp_eq, runOp_eq]
  rcases rel_prog (fun b => memR_stmt b) memR_modifyMem op ⟨db, mem₁, 0, f⟩ ⟨db, mem₂, 0, f⟩ ⟨rfl, rfl, rfl⟩ with
    ⟨_, h, _⟩ | ⟨h1, h2, h3, _⟩
  · exact h.elim
  · exact finish_congr db mem₁ f mem₂ h1 h2 h3

/-! ### from an invariant of the body to the call -/

lemma Inv.call_none {E : SqlErr → Prop} {P : Db → Prop} {op : Op} (h : Inv E P op.body) (db : Db) (mem : Mem) (hP : P db) :
    ((runOp db mem op none).out = .ok ∧ P (runOp db mem op none).db) ∨
      ∃ e, E e ∧ (runOp db mem op none).out = outcomeOf (.error e) ∧ (runOp db mem op none).db = db := by
  obtain ⟨h1, h2⟩ := StoreL.runOp_none db mem op
  rw [h1, h2]
  rcases h ⟨db, mem, 1, none⟩ rfl hP with ⟨e, he, hr⟩ | ⟨a, hr, _, hk⟩
  · rw [hr]; exact Or.inr ⟨e, he, rfl, rfl⟩
  · rw [hr]; exact Or.inl ⟨rfl, hk⟩

/-- by atomicity, an invariant of the body holds of the committed content after the call, whatever the fault -/
lemma Inv.call {E : SqlErr → Prop} {P : Db → Prop} {op : Op} (h : Inv E P op.body) (db : Db) (mem : Mem) (hP : P db)
    (fault : Option (Nat × FaultKind)) : P (runOp db mem op fault).db := by
  have none_case : P (runOp db mem op none).db := by
    rcases h.call_none db mem hP with ⟨_, h'⟩ | ⟨_, _, _, h'⟩
    · exact h'
    · rw [h']; exact hP
  rcases fault with _ | ⟨k, kind⟩
  · exact none_case
  · rcases runOp_atomic db mem op k kind with h' | h' <;> rw [h']
    · exact hP
    · exact none_case

end PgVerif.StoreL
