/-
The root selected by the code's quadratic-formula inverses (BET, GAB, DSLangmuir, Quadratic).

Everything rests on one observation: at a root `p` of `x q² + y q + c` the discriminant is the square of the derivative
`2 x p + y` (`disc_of_root`), so `√D = |2 x p + y|` and the `-√` formula returns the root at which the derivative is `≤ 0`,
the `+√` formula the one at which it is `≥ 0`.  A model file only has to supply the root equation (its defining relation
multiplied out) and the sign.
-/
import Mathlib.Analysis.SpecialFunctions.Sqrt
import Mathlib.Tactic

namespace PgVerif.Quad

lemma disc_of_root {x y c p : ℝ} (h : x * p ^ 2 + y * p + c = 0) : y ^ 2 - 4 * x * c = (2 * x * p + y) ^ 2 := by
  linear_combination (-4 * x) * h

lemma minus_of_root {x y c p : ℝ} (hx : x ≠ 0) (h : x * p ^ 2 + y * p + c = 0) (hsel : 2 * x * p + y ≤ 0) :
    (-y - Real.sqrt (y ^ 2 - 4 * x * c)) / (2 * x) = p := by
  rw [disc_of_root h, Real.sqrt_sq_eq_abs, abs_of_nonpos hsel, div_eq_iff (mul_ne_zero two_ne_zero hx)]
  ring

/-- the `+√` formula is DSLangmuir's -/
lemma plus_of_root {x y c p : ℝ} (hx : x ≠ 0) (h : x * p ^ 2 + y * p + c = 0) (hsel : 0 ≤ 2 * x * p + y) :
    (-y + Real.sqrt (y ^ 2 - 4 * x * c)) / (2 * x) = p := by
  rw [disc_of_root h, Real.sqrt_sq_eq_abs, abs_of_nonneg hsel, div_eq_iff (mul_ne_zero two_ne_zero hx)]
  ring

/-! ### The cancellation-free form of the same roots (what the inverses compute since finding S51-C10a/b was repaired)

`(-y - √D) / (2x)` with `D = y² - 4 x c` loses every digit when `y < 0` and `|4 x c| ≪ y²` (low loading: `-y` and `√D` agree to all
digits) and is `0/0` when `x = 0`.  Multiplying numerator and denominator by `√D - y` gives `2c / (√D - y)`: for `y < 0` a sum of two
non-negative numbers in the denominator.  It is the SAME root (`stable_minus_eq`), not a choice between the two; for `y ≥ 0` the
textbook form is already free of cancellation and is the one computed (there `√D - y` is the difference that cancels). -/

theorem stable_minus_eq (x y c : ℝ) (hx : x ≠ 0) (hD : 0 ≤ y ^ 2 - 4 * x * c) :
    (if y < 0 then 2 * c else -y - Real.sqrt (y ^ 2 - 4 * x * c)) / (if y < 0 then Real.sqrt (y ^ 2 - 4 * x * c) - y else 2 * x)
      = (-y - Real.sqrt (y ^ 2 - 4 * x * c)) / (2 * x) := by
  by_cases hy : y < 0
  · have hs := Real.sqrt_nonneg (y ^ 2 - 4 * x * c)
    rw [if_pos hy, if_pos hy, div_eq_div_iff (by linarith) (mul_ne_zero two_ne_zero hx)]
    linear_combination Real.mul_self_sqrt hD
  · rw [if_neg hy, if_neg hy]

/-- when the leading coefficient vanishes (BET with `N = C`, GAB with `C = 1`, Quadratic with `Kb = 0`) and `y < 0`, the branch form is
the root `-c / y` of the linear equation `y q + c = 0` that is left -/
theorem stable_minus_linear (x y c : ℝ) (hx : x = 0) (hy : y < 0) :
    (if y < 0 then 2 * c else -y - Real.sqrt (y ^ 2 - 4 * x * c)) / (if y < 0 then Real.sqrt (y ^ 2 - 4 * x * c) - y else 2 * x)
      = -c / y := by
  subst hx
  rw [if_pos hy, if_pos hy, show y ^ 2 - 4 * 0 * c = (-y) ^ 2 by ring, Real.sqrt_sq (by linarith),
    div_eq_div_iff (by linarith) hy.ne]
  ring

lemma stable_minus_of_root {x y c p : ℝ} (h : x * p ^ 2 + y * p + c = 0) (hsel : 2 * x * p + y ≤ 0)
    (hnd : x ≠ 0 ∨ y < 0) :
    (if y < 0 then 2 * c else -y - Real.sqrt (y ^ 2 - 4 * x * c)) / (if y < 0 then Real.sqrt (y ^ 2 - 4 * x * c) - y else 2 * x) = p := by
  by_cases hx : x = 0
  · have hy := hnd.resolve_left (not_not.mpr hx)
    rw [stable_minus_linear x y c hx hy, div_eq_iff hy.ne]
    subst hx
    linear_combination -h
  · rw [stable_minus_eq x y c hx (by rw [disc_of_root h]; positivity)]
    exact minus_of_root hx h hsel

/-- the form the model files use: for `p > 0` and `c > 0` the derivative at the root `p` has the sign of `x p² - c`, and a vanishing
leading coefficient forces `y < 0` -/
lemma stable_minus_of_root_pos {x y c p : ℝ} (hp : 0 < p) (hc : 0 < c) (h : x * p ^ 2 + y * p + c = 0)
    (hsel : x * p ^ 2 ≤ c) :
    (if y < 0 then 2 * c else -y - Real.sqrt (y ^ 2 - 4 * x * c)) / (if y < 0 then Real.sqrt (y ^ 2 - 4 * x * c) - y else 2 * x) = p := by
  refine stable_minus_of_root h (nonpos_of_mul_nonpos_left (b := p) ?_ hp) ?_
  · linarith [show (2 * x * p + y) * p = x * p ^ 2 - c by linear_combination h]
  · by_contra hnd
    obtain ⟨hx, hy⟩ := not_or.mp hnd
    have : 0 ≤ y * p := mul_nonneg (not_lt.mp hy) hp.le
    rw [not_not.mp hx] at h
    linarith

/-- the `+√` root (DSLangmuir: `x q² + y q - n = 0`) in its branch form: for `y > 0` the quotient `2n / (y + √D)` -/
theorem stable_plus_eq (x y n : ℝ) (hx : x ≠ 0) (hD : 0 ≤ y ^ 2 - 4 * x * (-n)) :
    (if y > 0 then 2 * n else -y + Real.sqrt (y ^ 2 - 4 * x * (-n))) / (if y > 0 then y + Real.sqrt (y ^ 2 - 4 * x * (-n)) else 2 * x)
      = (-y + Real.sqrt (y ^ 2 - 4 * x * (-n))) / (2 * x) := by
  by_cases hy : y > 0
  · have hs := Real.sqrt_nonneg (y ^ 2 - 4 * x * (-n))
    rw [if_pos hy, if_pos hy, div_eq_div_iff (by linarith) (mul_ne_zero two_ne_zero hx)]
    linear_combination -Real.mul_self_sqrt hD
  · rw [if_neg hy, if_neg hy]

lemma stable_plus_of_root_pos {x y n p : ℝ} (hx : x ≠ 0) (hp : 0 < p) (h : x * p ^ 2 + y * p + -n = 0)
    (hsel : -n ≤ x * p ^ 2) :
    (if y > 0 then 2 * n else -y + Real.sqrt (y ^ 2 - 4 * x * (-n))) / (if y > 0 then y + Real.sqrt (y ^ 2 - 4 * x * (-n)) else 2 * x) = p := by
  rw [stable_plus_eq x y n hx (by rw [disc_of_root h]; positivity)]
  refine plus_of_root hx h (nonneg_of_mul_nonneg_left (b := p) ?_ hp)
  linarith [show (2 * x * p + y) * p = x * p ^ 2 - -n by linear_combination h]

end PgVerif.Quad
