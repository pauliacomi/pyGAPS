/-
Lemmas about `Model/Construct`: first the Python-dictionary operations on association lists (look-up through a key filter, deleting
a list of keys, the defaults loop) and their behaviour under permutation of a dictionary with distinct keys; then each stage of
`construct` in closed form as a consequence of those; then `to_dict` and the way back.
-/
import Mathlib.Tactic
import PgVerif.Model.Construct

set_option linter.unusedSimpArgs false

namespace PgVerif.Model.Construct
open PgVerif.Gen PgVerif.Gen.IsoParams

variable {α β : Type}

def keys (d : List (String × β)) : List String := d.map (·.1)

@[simp] lemma keys_nil : keys ([] : List (String × β)) = [] := rfl
@[simp] lemma keys_cons (kv : String × β) (d : List (String × β)) : keys (kv :: d) = kv.1 :: keys d := rfl
@[simp] lemma keys_append (d e : List (String × β)) : keys (d ++ e) = keys d ++ keys e := by simp [keys]

lemma lookup_cons_ne {k k' : String} (h : k ≠ k') (v : β) (d : List (String × β)) : ((k', v) :: d).lookup k = d.lookup k := by
  rw [List.lookup_cons, beq_false_of_ne h]

lemma lookup_filter_key (d : List (String × β)) (p : String → Bool) (k : String) :
    (d.filter fun kv => p kv.1).lookup k = if p k then d.lookup k else none := by
  induction d with
  | nil => simp
  | cons kv t ih =>
    obtain ⟨a, b⟩ := kv
    by_cases hka : k = a
    · subst hka
      cases hp : p k <;> simp [hp, ih]
    · cases hp : p a <;> simp [hp, lookup_cons_ne hka, ih]

lemma foldl_del (d : List (String × β)) (ks : List String) : ks.foldl del d = d.filter fun kv => !ks.contains kv.1 := by
  induction ks generalizing d with
  | nil => exact (List.filter_true d).symm
  | cons k ks ih =>
    rw [List.foldl_cons, ih, del, List.filter_filter]
    refine List.filter_congr fun kv _ => ?_
    rw [List.contains_cons, Bool.not_or, Bool.and_comm]
    rfl

lemma lookup_del (d : List (String × β)) (k k' : String) : (del d k').lookup k = if k = k' then none else d.lookup k := by
  rw [del, lookup_filter_key d (· != k') k]
  by_cases h : k = k' <;> simp [h]

lemma lookup_del_self (d : List (String × β)) (k : String) : (del d k).lookup k = none := by
  rw [lookup_del, if_pos rfl]

lemma mem_keys_iff (d : List (String × β)) (k : String) : k ∈ keys d ↔ (d.lookup k).isSome = true := by
  rw [List.lookup_isSome_iff, keys, List.mem_map]
  exact ⟨fun ⟨p, hp, h⟩ => ⟨p, hp, beq_iff_eq.2 h.symm⟩, fun ⟨p, hp, h⟩ => ⟨p, hp, (beq_iff_eq.1 h).symm⟩⟩

lemma lookup_none_of_not_mem {d : List (String × β)} {k : String} (h : k ∉ keys d) : d.lookup k = none :=
  Option.not_isSome_iff_eq_none.1 (mt (mem_keys_iff d k).2 h)

lemma nodup_keys_filter {d : List (String × β)} (h : (keys d).Nodup) (p : String × β → Bool) : (keys (d.filter p)).Nodup :=
  h.sublist (List.filter_sublist.map _)

lemma mem_keys_filter (d : List (String × β)) (p : String → Bool) (k : String) :
    k ∈ keys (d.filter fun kv => p kv.1) ↔ k ∈ keys d ∧ p k = true := by
  unfold keys
  simp only [List.mem_map, List.mem_filter]
  constructor
  · rintro ⟨kv, ⟨hm, hp⟩, rfl⟩
    exact ⟨⟨kv, hm, rfl⟩, hp⟩
  · rintro ⟨⟨kv, hm, rfl⟩, hp⟩
    exact ⟨kv, ⟨hm, hp⟩, rfl⟩

lemma lookup_eq_some_iff_mem {d : List (String × β)} (hn : (keys d).Nodup) (k : String) (v : β) :
    d.lookup k = some v ↔ (k, v) ∈ d := by
  induction d with
  | nil => simp
  | cons kv t ih =>
    obtain ⟨a, b⟩ := kv
    obtain ⟨ha, hn⟩ := List.nodup_cons.1 hn
    by_cases hka : k = a
    · subst hka
      have : (k, v) ∉ t := fun h => ha (List.mem_map_of_mem (f := (·.1)) h)
      simp [this, eq_comm]
    · simp [lookup_cons_ne hka, ih hn, hka]

lemma perm_keys {d₁ d₂ : List (String × β)} (hp : d₁.Perm d₂) : (keys d₁).Perm (keys d₂) := hp.map _

lemma perm_nodup_keys {d₁ d₂ : List (String × β)} (hp : d₁.Perm d₂) (hn : (keys d₁).Nodup) : (keys d₂).Nodup :=
  (perm_keys hp).nodup_iff.1 hn

lemma perm_lookup {d₁ d₂ : List (String × β)} (hp : d₁.Perm d₂) (hn : (keys d₁).Nodup) (k : String) :
    d₁.lookup k = d₂.lookup k :=
  Option.ext fun v => by rw [lookup_eq_some_iff_mem hn, lookup_eq_some_iff_mem (perm_nodup_keys hp hn), hp.mem_iff]

lemma perm_has {d₁ d₂ : List (String × β)} (hp : d₁.Perm d₂) (hn : (keys d₁).Nodup) (k : String) : has d₁ k = has d₂ k := by
  unfold has; rw [perm_lookup hp hn]

lemma perm_del {d₁ d₂ : List (String × β)} (hp : d₁.Perm d₂) (k : String) : (del d₁ k).Perm (del d₂ k) := hp.filter _

/-! ### the defaults loop -/

lemma addDefaults_cons (kd : String × String) (t : List (String × String)) (kw : Args α) :
    addDefaults (kd :: t) kw = addDefaults t (if has kw kd.1 then kw else kw ++ [(kd.1, Val.str kd.2)]) := rfl

lemma lookup_addDefaults (ds : List (String × String)) (kw : Args α) (k : String) :
    (addDefaults ds kw).lookup k = (kw.lookup k).or ((ds.lookup k).map Val.str) := by
  induction ds generalizing kw with
  | nil => simp [addDefaults]
  | cons kd t ih =>
    obtain ⟨k0, d0⟩ := kd
    rw [addDefaults_cons, ih]
    by_cases hk : k = k0
    · subst hk
      unfold has
      cases hl : kw.lookup k <;> simp [hl, List.lookup_append]
    · split_ifs <;> simp [List.lookup_append, lookup_cons_ne hk]

lemma filter_addDefaults (ds : List (String × String)) (kw : Args α) (p : String → Bool) (h : ∀ kd ∈ ds, p kd.1 = false) :
    (addDefaults ds kw).filter (fun kv => p kv.1) = kw.filter (fun kv => p kv.1) := by
  induction ds generalizing kw with
  | nil => rfl
  | cons kd t ih =>
    rw [addDefaults_cons, ih _ fun kd hkd => h kd (List.mem_cons_of_mem _ hkd)]
    split_ifs
    · rfl
    · simp [List.filter_append, h kd List.mem_cons_self]

lemma perm_addDefaults (ds : List (String × String)) {kw₁ kw₂ : Args α} (hp : kw₁.Perm kw₂) (hn : (keys kw₁).Nodup) :
    (addDefaults ds kw₁).Perm (addDefaults ds kw₂) ∧ (keys (addDefaults ds kw₁)).Nodup := by
  induction ds generalizing kw₁ kw₂ with
  | nil => exact ⟨hp, hn⟩
  | cons kd t ih =>
    rw [addDefaults_cons, addDefaults_cons, ← perm_has hp hn kd.1]
    split_ifs with hh
    · exact ih hp hn
    · refine ih (hp.append_right _) ?_
      rw [keys_append]
      refine hn.append (List.nodup_singleton _) fun k hk hk' => hh ?_
      obtain rfl : k = kd.1 := List.mem_singleton.1 hk'
      exact (mem_keys_iff _ _).1 hk

lemma put_of_not_mem {d : List (String × β)} {k : String} (h : k ∉ keys d) (v : β) : put d k v = d ++ [(k, v)] := by
  unfold put has
  rw [lookup_none_of_not_mem h]
  simp

lemma update_disjoint (d e : List (String × β)) (hd : ∀ k ∈ keys e, k ∉ keys d) (hn : (keys e).Nodup) : update d e = d ++ e := by
  unfold update
  induction e generalizing d with
  | nil => simp
  | cons kv t ih =>
    obtain ⟨k, v⟩ := kv
    have hk : k ∉ keys d := hd k (by simp)
    have hn' := List.nodup_cons.1 hn
    simp only [List.foldl_cons]
    rw [put_of_not_mem hk, ih (d ++ [(k, v)]) _ hn'.2]
    · simp
    · intro k' hk' hmem
      rw [keys_append, List.mem_append] at hmem
      rcases hmem with hmem | hmem
      · exact hd k' (by simp [hk']) hmem
      · simp [keys] at hmem
        subst hmem
        exact hn'.1 hk'

/-! ### closed form of the shorthand loop after Python's binding -/

/-- the value a named parameter ends up with: the shorthand's value unless that is absent or `None` -/
def pick (o : Option (Val α)) (d : Val α) : Val α :=
  if (o.getD .none).isNone then d else o.getD .none

lemma pick_absent {d : Val α} : pick (none : Option (Val α)) d = d := rfl

lemma pick_None {d : Val α} : pick (some (Val.none : Val α)) d = d := rfl

lemma pick_some {v d : Val α} (hv : v.isNone = false) : pick (some v) d = v := by
  rw [pick, Option.getD_some, hv]
  rfl

/-- the call as the checks see it -/
def prepCall (a : Args α) : Call α := applyShorthands (bind a)

/-- keys the constructor takes out of the keyword dictionary before the unit parameters: its named parameters and the shorthands -/
def specialKeys : List String := initParams ++ shorthands.map (·.1)

lemma step_material (c : Call α) (s : String) :
    shorthandStep c (s, "material") = ⟨pick (c.kw.lookup s) c.material, c.adsorbate, c.temperature, del c.kw s⟩ := by
  unfold shorthandStep pick
  by_cases h : ((c.kw.lookup s).getD Val.none).isNone = true
  · simp [h]
  · simp [h, shorthandTargets, Call.set]

lemma step_adsorbate (c : Call α) (s : String) :
    shorthandStep c (s, "adsorbate") = ⟨c.material, pick (c.kw.lookup s) c.adsorbate, c.temperature, del c.kw s⟩ := by
  unfold shorthandStep pick
  by_cases h : ((c.kw.lookup s).getD Val.none).isNone = true
  · simp [h]
  · simp [h, shorthandTargets, Call.set]

lemma step_temperature (c : Call α) (s : String) :
    shorthandStep c (s, "temperature") = ⟨c.material, c.adsorbate, pick (c.kw.lookup s) c.temperature, del c.kw s⟩ := by
  unfold shorthandStep pick
  by_cases h : ((c.kw.lookup s).getD Val.none).isNone = true
  · simp [h]
  · simp [h, shorthandTargets, Call.set]

/-- the shorthand loop has taken out the shorthands, Python's binding the named parameters -/
lemma specialKeys_filter (a : Args α) :
    del (del (del (a.filter fun kv => !initParams.contains kv.1) "m") "t") "a" = a.filter fun kv => !specialKeys.contains kv.1 := by
  refine (foldl_del _ ["m", "t", "a"]).trans ?_
  rw [List.filter_filter]
  refine List.filter_congr fun kv _ => ?_
  rw [specialKeys, List.contains_append, Bool.not_or, Bool.and_comm]
  rfl

lemma prepCall_eq (a : Args α) : prepCall a =
    ⟨pick (a.lookup "m") ((a.lookup "material").getD .none), pick (a.lookup "a") ((a.lookup "adsorbate").getD .none),
     pick (a.lookup "t") ((a.lookup "temperature").getD .none), a.filter fun kv => !specialKeys.contains kv.1⟩ := by
  unfold prepCall applyShorthands
  simp only [shorthands, List.foldl_cons, List.foldl_nil, step_material, step_adsorbate, step_temperature, bind, lookup_del,
    String.reduceEq, ↓reduceIte, lookup_filter_key a (fun k => !initParams.contains k), specialKeys_filter]
  rfl

/-! ### closed form of the label stage -/

/-- the value of a unit parameter after the defaults loop -/
def eff (kw : Args α) (k : String) : Val α := (kw.lookup k).getD (Val.str ((unitParams.lookup k).getD ""))

/-- every unit parameter has a default: after the defaults loop its key is there -/
lemma lookup_addDefaults_eff (kw : Args α) : ∀ k ∈ unitPops, (addDefaults unitParams kw).lookup k = some (eff kw k) := by
  intro k hk
  obtain ⟨d, hd⟩ := Option.isSome_iff_exists.1 ((mem_keys_iff unitParams k).1 hk)
  rw [lookup_addDefaults, eff, hd]
  cases kw.lookup k <;> rfl

/-- the seven pops have taken out the unit parameters, given or defaulted -/
lemma unitKeys_filter (kw : Args α) :
    del (del (del (del (del (del (del (addDefaults unitParams kw) "pressure_mode") "pressure_unit") "material_basis") "material_unit")
      "loading_basis") "loading_unit") "temperature_unit" = kw.filter fun kv => !unitPops.contains kv.1 := by
  have h := foldl_del (addDefaults unitParams kw) unitPops
  simp only [unitPops, List.foldl_cons, List.foldl_nil] at h
  rw [h]
  exact filter_addDefaults unitParams kw (fun k => !unitPops.contains k) (by decide +kernel)

/-- the label checks on the unit parameters of a keyword dictionary, given or defaulted -/
def checked (kw : Args α) : Except CErr (LabelVals α) :=
  checkLabels (eff kw "pressure_mode") (eff kw "pressure_unit") (eff kw "loading_basis") (eff kw "loading_unit")
    (eff kw "material_basis") (eff kw "material_unit") (eff kw "temperature_unit")

lemma labelStage_eq (kw : Args α) : labelStage kw =
    (checked kw).bind
    fun l => .ok (l, kw.filter fun kv => !unitPops.contains kv.1) := by
  have h := lookup_addDefaults_eff kw
  simp only [unitPops, List.forall_mem_cons] at h
  obtain ⟨h1, h2, h3, h4, h5, h6, h7, -⟩ := h
  unfold labelStage checked
  simp only [popKey, lookup_del, String.reduceEq, ↓reduceIte, h1, h2, h3, h4, h5, h6, h7, Except.bind, unitKeys_filter]

/-! ### the label checks accept exactly what `validLabels` accepts -/

lemma require_ok_iff (t : Except CErr Bool) (k : Except CErr β) (x : β) : require t k = .ok x ↔ t = .ok true ∧ k = .ok x := by
  unfold require
  rcases t with e | b
  · simp
  · cases b <;> simp

lemma requireMsg_ok_iff (t : Except CErr Bool) (m : Except CErr Unit) (k : Except CErr β) (x : β) :
    requireMsg t m k = .ok x ↔ t = .ok true ∧ k = .ok x := by
  unfold requireMsg
  rcases t with e | b
  · simp
  · cases b
    · rcases m with e | u <;> simp
    · simp

lemma strOf_eq_some (v : Val α) (s : String) : strOf v = some s ↔ v = .str s := by
  unfold strOf Val.str
  rcases v with sc | l | d | ⟨n, p⟩
  · cases sc <;> simp
  all_goals simp

lemma inTable_true_iff (t : List (String × β)) (v : Val α) :
    inTable t v = .ok true ↔ ∃ s, v = .str s ∧ (t.lookup s).isSome = true := by
  constructor
  · intro h
    unfold inTable at h
    split at h
    · exact ⟨_, rfl, Except.ok.inj h⟩
    all_goals cases h
  · rintro ⟨s, rfl, h⟩
    exact congrArg Except.ok h

/-- the two table tests as `validLabels` puts them: on a unit that is a string or nothing -/
lemma inTable_iff_match (t : List (String × β)) (v : Val α) :
    inTable t v = .ok true ↔ (match strOf v with | some u => (t.lookup u).isSome | none => false) = true := by
  cases hs : strOf v with
  | none =>
    refine ⟨fun h => ?_, fun h => nomatch h⟩
    obtain ⟨s, rfl, -⟩ := (inTable_true_iff t v).1 h
    cases (strOf_eq_some _ s).2 rfl ▸ hs
  | some u =>
    obtain rfl := (strOf_eq_some v u).1 hs
    exact ⟨fun h => Except.ok.inj h, fun h => congrArg Except.ok h⟩

lemma inUnitTable_iff_match (modes : List (String × Option String)) (b : String) (v : Val α) :
    inUnitTable modes b v = .ok true ↔
      (match strOf v, modes.lookup b with | some u, some (some t) => ((unitTable t).lookup u).isSome | _, _ => false) = true := by
  unfold inUnitTable
  rcases modes.lookup b with _ | (_ | t)
  · cases strOf v <;> simp
  · cases strOf v <;> simp
  · rw [inTable_iff_match]
    cases strOf v <;> rfl

lemma fracBases_contains (s : String) : fracBases.contains s = isFrac s := by
  simp [fracBases, isFrac]

/-- the pressure unit after `if self.pressure_mode.startswith('relative'): self.pressure_unit = None` -/
def forced (pms : String) (pu : Val α) : Val α := if hasPrefix relativePrefix pms then .none else pu

lemma strOf_str (s : String) : strOf (Val.str s : Val α) = some s := (strOf_eq_some _ _).2 rfl

lemma str_inj {a b : String} (h : (Val.str a : Val α) = Val.str b) : a = b := by
  unfold Val.str at h
  injection h with h
  injection h

lemma checkLabels_ok_iff (pm pu lb lu mb mu tu : Val α) (l : LabelVals α) :
    checkLabels pm pu lb lu mb mu tu = .ok l ↔
      ∃ pms lbs mbs tus, pm = .str pms ∧ lb = .str lbs ∧ mb = .str mbs ∧ tu = .str tus ∧
        l = ⟨pms, forced pms pu, lbs, lu, mbs, mu, tus⟩ ∧ validLabels l.labels = true := by
  constructor
  · intro h
    unfold checkLabels at h
    split at h
    · rename_i pms
      simp only [require_ok_iff, requireMsg_ok_iff, inTable_true_iff] at h
      obtain ⟨⟨s0, hs0, hpm⟩, ⟨lbs, rfl, hlb⟩, ⟨mbs, rfl, hmb⟩, h⟩ := h
      obtain rfl := str_inj hs0
      simp only [strOf_str, require_ok_iff, requireMsg_ok_iff, inTable_true_iff] at h
      obtain ⟨hpu, hlu, hmu, ⟨tus, rfl, htu⟩, h⟩ := h
      simp only [strOf_str, Except.ok.injEq] at h
      subst h
      refine ⟨pms, lbs, mbs, tus, rfl, rfl, rfl, rfl, rfl, ?_⟩
      unfold validLabels LabelVals.labels
      simp only [hpm, hlb, hmb, strOf_str, htu, Bool.true_and, Bool.and_true, Bool.and_eq_true, Bool.or_eq_true]
      refine ⟨?_, ?_⟩
      · by_cases ha : pms = "absolute"
        · rw [if_pos ha, inTable_iff_match] at hpu
          exact .inr hpu
        · exact .inl (by simpa using ha)
      · by_cases hf : isFrac lbs = true
        · exact .inl hf
        · rw [fracBases_contains, if_neg hf, inUnitTable_iff_match] at hlu hmu
          exact .inr ⟨hlu, hmu⟩
    · cases h
  · rintro ⟨pms, lbs, mbs, tus, rfl, rfl, rfl, rfl, rfl, hv⟩
    unfold validLabels LabelVals.labels at hv
    simp only [Bool.and_eq_true, Bool.or_eq_true, strOf_str] at hv
    obtain ⟨⟨⟨⟨⟨hpm, hlb⟩, hmb⟩, hpu⟩, hlu⟩, htu⟩ := hv
    show checkLabels (Val.sc (Sc.str pms)) pu (Val.str lbs) lu (Val.str mbs) mu (Val.str tus) = _
    unfold checkLabels
    simp only [strOf_str, require_ok_iff, requireMsg_ok_iff]
    refine ⟨congrArg Except.ok hpm, congrArg Except.ok hlb, congrArg Except.ok hmb, ?_, ?_, ?_, congrArg Except.ok htu, rfl⟩
    · by_cases ha : pms = "absolute"
      · rw [if_pos ha]
        exact (inTable_iff_match _ _).2 (hpu.resolve_left (by simp [ha]))
      · rw [if_neg ha]
    · rw [fracBases_contains]
      split_ifs with hf
      · rfl
      · exact (inUnitTable_iff_match _ _ _).2 (hlu.resolve_left hf).1
    · rw [fracBases_contains]
      split_ifs with hf
      · rfl
      · exact (inUnitTable_iff_match _ _ _).2 (hlu.resolve_left hf).2

/-! ### closed form of `construct` -/

lemma missingRequired_eq (c : Call α) : missingRequired c = (c.material.isNone || c.adsorbate.isNone || c.temperature.isNone) := by
  simp [missingRequired, requiredChecked, Call.get, Bool.or_assoc]

section
variable [Field α]

lemma construct_eq (w : World α) (a : Args α) : construct w a =
    if missingRequired (prepCall a) then .error .param
    else
      (setAdsorbate w (prepCall a).adsorbate).bind fun ads =>
      (toFloat (prepCall a).temperature).bind fun t =>
      (checked (prepCall a).kw).bind fun l =>
      .ok ⟨setMaterial w (prepCall a).material, ads, t, l, (prepCall a).kw.filter fun kv => !unitPops.contains kv.1⟩ := by
  unfold construct prep prepCall
  by_cases hm : missingRequired (applyShorthands (bind a)) = true
  · simp only [hm, if_true]
  · simp only [hm, if_false, Bool.false_eq_true]
    rcases h1 : setAdsorbate w (applyShorthands (bind a)).adsorbate with e | ads
    · rfl
    · rcases h2 : toFloat (applyShorthands (bind a)).temperature with e | t
      · rfl
      · simp only [labelStage_eq, Except.bind]
        rcases checked (applyShorthands (bind a)).kw with e | l <;> rfl

lemma construct_ok_iff (w : World α) (a : Args α) (i : Construct.Iso α) :
    construct w a = .ok i ↔
      missingRequired (prepCall a) = false ∧ setAdsorbate w (prepCall a).adsorbate = .ok i.adsorbate ∧
      toFloat (prepCall a).temperature = .ok i.temperature ∧
      checked (prepCall a).kw = .ok i.lab ∧
      i.material = setMaterial w (prepCall a).material ∧ i.properties = (prepCall a).kw.filter fun kv => !unitPops.contains kv.1 := by
  obtain ⟨mat, ads, t, l, props⟩ := i
  rw [construct_eq]
  cases missingRequired (prepCall a)
  · simp only [Bool.false_eq_true, if_false, true_and]
    rcases setAdsorbate w (prepCall a).adsorbate with e | ads'
    · exact ⟨fun h => (nomatch h), fun h => (nomatch h.1)⟩
    · rcases toFloat (prepCall a).temperature with e | t'
      · exact ⟨fun h => (nomatch h), fun h => (nomatch h.2.1)⟩
      · rcases checked (prepCall a).kw with e | l'
        · exact ⟨fun h => (nomatch h), fun h => (nomatch h.2.2.1)⟩
        · simp only [Except.bind, Except.ok.injEq, Iso.mk.injEq]
          exact ⟨fun ⟨h1, h2, h3, h4, h5⟩ => ⟨h2, h3, h4, h1.symm, h5.symm⟩, fun ⟨h2, h3, h4, h1, h5⟩ => ⟨h1.symm, h2, h3, h4, h5.symm⟩⟩
  · exact ⟨fun h => (nomatch h), fun h => (nomatch h.1)⟩

end

/-! ### `to_dict` and the way back -/

/-- the ten entries `to_dict` writes itself, in its order -/
def topDict (i : Construct.Iso α) (m : Val α) : Args α :=
  [("pressure_mode", .str i.lab.pmode), ("pressure_unit", i.lab.punit), ("material_basis", .str i.lab.mbasis),
   ("material_unit", i.lab.munit), ("loading_basis", .str i.lab.lbasis), ("loading_unit", i.lab.lunit),
   ("temperature_unit", .str i.lab.tunit), ("adsorbate", .str i.adsorbate), ("material", m), ("temperature", .sc (.num i.temperature))]

def topKeys : List String :=
  ["pressure_mode", "pressure_unit", "material_basis", "material_unit", "loading_basis", "loading_unit", "temperature_unit", "adsorbate",
   "material", "temperature"]

lemma keys_topDict (i : Construct.Iso α) (m : Val α) : keys (topDict i m) = topKeys := rfl

lemma topKeys_special_or_unit : ∀ k ∈ topKeys, k ∈ specialKeys ∨ k ∈ unitPops := by decide +kernel

lemma not_mem_topKeys {props : Args α} (hp : ∀ k ∈ keys props, k ∉ specialKeys ∧ k ∉ unitPops) : ∀ k ∈ keys props, k ∉ topKeys :=
  fun k hk hk' => (topKeys_special_or_unit k hk').elim (hp k hk).1 (hp k hk).2

lemma toDictBase_eq (i : Construct.Iso α) (m : Val α) (hm : matVal i.material = .ok m)
    (hp : ∀ k ∈ keys i.properties, k ∉ specialKeys ∧ k ∉ unitPops) (hn : (keys i.properties).Nodup) :
    toDictBase i = .ok (topDict i m ++ i.properties) := by
  unfold toDictBase toDict
  rw [hm]
  simp only [List.append_nil, List.cons_append, List.nil_append]
  have hf : List.filter (fun kv : String × Val α => !reservedBase.contains kv.1) (topDict i m) = topDict i m := by
    apply List.filter_eq_self.2
    intro kv hkv
    have hd : ∀ k ∈ topKeys, (!reservedBase.contains k) = true := by decide +kernel
    exact hd _ (keys_topDict i m ▸ List.mem_map_of_mem hkv)
  show Except.ok (update (List.filter _ (topDict i m)) i.properties) = _
  rw [hf, update_disjoint _ _ (by rw [keys_topDict]; exact not_mem_topKeys hp) hn]

lemma toDictBase_ok {i : Construct.Iso α} {d : Args α} (hd : toDictBase i = .ok d)
    (hp : ∀ k ∈ keys i.properties, k ∉ specialKeys ∧ k ∉ unitPops) (hn : (keys i.properties).Nodup) :
    ∃ m, matVal i.material = .ok m ∧ d = topDict i m ++ i.properties := by
  cases hm : matVal i.material with
  | error e => simp [toDictBase, toDict, hm] at hd
  | ok m => exact ⟨m, rfl, Except.ok.inj (hd.symm.trans (toDictBase_eq i m hm hp hn))⟩

lemma nodup_keys_toDict (i : Construct.Iso α) (m : Val α) (hp : ∀ k ∈ keys i.properties, k ∉ specialKeys ∧ k ∉ unitPops)
    (hn : (keys i.properties).Nodup) : (keys (topDict i m ++ i.properties)).Nodup := by
  rw [keys_append, keys_topDict, List.nodup_append]
  exact ⟨by decide +kernel, hn, fun x hx y hy hxy => not_mem_topKeys hp y hy (hxy ▸ hx)⟩

lemma matVal_not_none {mt : Mat α} {m : Val α} (h : matVal mt = .ok m) : m.isNone = false := by
  unfold matVal at h
  split at h <;> simp at h <;> subst h <;> rfl

/-- the first seven entries of `to_dict` -/
def unitPart (i : Construct.Iso α) : Args α :=
  [("pressure_mode", .str i.lab.pmode), ("pressure_unit", i.lab.punit), ("material_basis", .str i.lab.mbasis),
   ("material_unit", i.lab.munit), ("loading_basis", .str i.lab.lbasis), ("loading_unit", i.lab.lunit),
   ("temperature_unit", .str i.lab.tunit)]

lemma filter_eq_self_of_keys {props : Args α} {ks : List String} (hp : ∀ k ∈ keys props, k ∉ ks) :
    props.filter (fun kv => !ks.contains kv.1) = props :=
  List.filter_eq_self.2 fun kv hkv => by simpa using hp kv.1 (List.mem_map_of_mem hkv)

lemma filter_special_top (i : Construct.Iso α) (m : Val α) (props : Args α) (hp : ∀ k ∈ keys props, k ∉ specialKeys) :
    (topDict i m ++ props).filter (fun kv => !specialKeys.contains kv.1) = unitPart i ++ props := by
  rw [List.filter_append, filter_eq_self_of_keys hp]
  simp only [topDict, unitPart, specialKeys, initParams, shorthands, List.map_cons, List.map_nil, List.cons_append, List.nil_append,
    List.filter_cons, List.filter_nil, List.contains_cons, List.contains_nil, String.reduceBEq, Bool.or_false, Bool.or_true,
    Bool.not_true, Bool.not_false, Bool.false_eq_true, if_true, if_false]

lemma filter_unit_part (i : Construct.Iso α) (props : Args α) (hp : ∀ k ∈ keys props, k ∉ unitPops) :
    (unitPart i ++ props).filter (fun kv => !unitPops.contains kv.1) = props := by
  -- the keys of `unitPart` are the list `unitPops` itself
  rw [List.filter_append, filter_eq_self_of_keys hp, List.filter_eq_nil_iff.2, List.nil_append]
  intro kv hkv
  have h : kv.1 ∈ unitPops := List.mem_map_of_mem (f := (·.1)) hkv
  simpa using h

section
variable [Field α]

lemma construct_topDict (w' : World α) (i : Construct.Iso α) (m : Val α)
    (hm : matVal i.material = .ok m) (hm' : setMaterial w' m = i.material)
    (ha : (w'.adsFind i.adsorbate).getD i.adsorbate = i.adsorbate)
    (hl : validLabels i.lab.labels = true) (hf : forced i.lab.pmode i.lab.punit = i.lab.punit)
    (hp : ∀ k ∈ keys i.properties, k ∉ specialKeys ∧ k ∉ unitPops) :
    construct w' (topDict i m ++ i.properties) = .ok i := by
  have ln {k : String} (hk : k ∈ specialKeys) : i.properties.lookup k = none :=
    lookup_none_of_not_mem fun h => (hp k h).1 hk
  have hcall : prepCall (topDict i m ++ i.properties) = ⟨m, .str i.adsorbate, .sc (.num i.temperature), unitPart i ++ i.properties⟩ := by
    rw [prepCall_eq, filter_special_top i m _ fun k hk => (hp k hk).1]
    simp only [List.lookup_append, topDict, List.lookup_cons, List.lookup_nil, String.reduceBEq, Option.some_or, Option.none_or,
      ln (k := "m") (by decide +kernel), ln (k := "a") (by decide +kernel), ln (k := "t") (by decide +kernel), pick_absent,
      Option.getD_some]
  rw [construct_ok_iff, hcall, missingRequired_eq, matVal_not_none hm]
  refine ⟨rfl, ?_, rfl, ?_, hm'.symm, (filter_unit_part i _ fun k hk => (hp k hk).2).symm⟩
  · exact congrArg Except.ok ha
  · simp only [checked, eff, List.lookup_append, unitPart, List.lookup_cons, String.reduceBEq, Option.some_or, Option.getD_some]
    exact (checkLabels_ok_iff _ _ _ _ _ _ _ _).2 ⟨_, _, _, _, rfl, rfl, rfl, rfl, by rw [hf], hl⟩
end
lemma eff_perm {kw₁ kw₂ : Args α} (hp : kw₁.Perm kw₂) (hn : (keys kw₁).Nodup) (k : String) : eff kw₁ k = eff kw₂ k := by
  unfold eff; rw [perm_lookup hp hn]

lemma checked_perm {kw₁ kw₂ : Args α} (hp : kw₁.Perm kw₂) (hn : (keys kw₁).Nodup) : checked kw₁ = checked kw₂ := by
  simp only [checked, eff_perm hp hn]

lemma prepCall_perm {a₁ a₂ : Args α} (hp : a₁.Perm a₂) (hn : (keys a₁).Nodup) :
    (prepCall a₂).material = (prepCall a₁).material ∧ (prepCall a₂).adsorbate = (prepCall a₁).adsorbate ∧
    (prepCall a₂).temperature = (prepCall a₁).temperature ∧ (prepCall a₁).kw.Perm (prepCall a₂).kw ∧ (keys (prepCall a₁).kw).Nodup := by
  rw [prepCall_eq, prepCall_eq]
  simp only [perm_lookup hp hn]
  exact ⟨trivial, trivial, trivial, hp.filter _, nodup_keys_filter hn _⟩

section
variable [Field α]

/-- permuting the keyword arguments changes nothing but the order of the metadata -/
lemma construct_perm (w : World α) {a₁ a₂ : Args α} (hp : a₁.Perm a₂) (hn : (keys a₁).Nodup) :
    construct w a₂ = (construct w a₁).map (fun i => { i with properties := (prepCall a₂).kw.filter fun kv => !unitPops.contains kv.1 }) ∧
      ((prepCall a₁).kw.filter fun kv => !unitPops.contains kv.1).Perm ((prepCall a₂).kw.filter fun kv => !unitPops.contains kv.1) := by
  obtain ⟨h1, h2, h3, h4, h5⟩ := prepCall_perm hp hn
  refine ⟨?_, h4.filter _⟩
  rw [construct_eq, construct_eq, missingRequired_eq, missingRequired_eq, h1, h2, h3]
  rw [← checked_perm h4 h5]
  split_ifs
  · rfl
  · rcases setAdsorbate w (prepCall a₁).adsorbate with e | ads
    · rfl
    · rcases toFloat (prepCall a₁).temperature with e | t
      · rfl
      · rcases checked (prepCall a₁).kw with e | l <;> rfl
end
end PgVerif.Model.Construct
