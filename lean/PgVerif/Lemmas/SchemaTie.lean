/-
Definitions shared by the schema-tie theorems of C08 (`Props/C08/Schema.lean`) and C09 (`Props/C09/Schema.lean`): the generated
schema (`PgVerif.Gen.Schema`, regenerated from the current source on every run) flattened into the constraint vocabulary of
`PgVerif.Spec.Schema`.  Definitions only — the comparisons are theorems of `Lemmas/SchemaFacts.lean` and of the property files.  No Mathlib.
-/
import PgVerif.Gen.Schema
import PgVerif.Spec.Schema

namespace PgVerif.C08
open PgVerif.Spec.Schema (Constraint Relied relied notModelled)

namespace SchemaTie

/-- NOT NULL, UNIQUE / PRIMARY KEY and FOREIGN KEY constraints of one generated table -/
def constraintsOf (t : Gen.Schema.Table) : List Constraint :=
  ((t.columns.filter (·.notnull)).map fun c => Constraint.notNull t.name c.name) ++
  (t.uniques.map fun u => Constraint.unique t.name u) ++
  (t.fks.map fun f => Constraint.foreignKey t.name f.cols f.refTable f.refCols)

/-- every NOT NULL / UNIQUE / FOREIGN KEY constraint of the generated schema -/
def schemaConstraints : List Constraint := Gen.Schema.tables.flatMap constraintsOf

def reliedCs : List Constraint := relied.map (·.c)
def notModelledCs : List Constraint := notModelled.map (·.1)

def tableNames : List String := Gen.Schema.tables.map (·.name)

def columnsOf (t : Gen.Schema.Table) : List Spec.Schema.Col :=
  t.columns.map fun c => ⟨c.name, c.type, c.notnull, c.pk, c.dflt⟩

/-- the generated schema has, for `table.col`, a foreign key to `ref.refCol` without any ON DELETE / ON UPDATE action -/
def hasPlainFk (table col ref refCol : String) : Bool :=
  Gen.Schema.tables.any fun t => t.name == table &&
    t.fks.any fun f => f.cols == [col] && f.refTable == ref && f.refCols == [refCol] && f.onDelete == "NO ACTION" && f.onUpdate == "NO ACTION"

end SchemaTie

end PgVerif.C08
