/-
Lemmas about the unit converters of `Model/Units.lean` over the *generated* tables (`Gen.*`): what the table
lookups return, what each converter does on each branch of its decision chain (stated for arbitrary basis
strings, with the outcome of `_check_basis` as hypothesis), and from these the factor it multiplies by.
Property theorems live in `Props/C01.lean`, where the generated tables are tied to the SI tables.
-/
import PgVerif.Model.Units
import PgVerif.Spec.Units
import Mathlib.Tactic

set_option linter.unusedSectionVars false
set_option linter.unusedSimpArgs false
set_option linter.unusedTactic false
set_option linter.unusedVariables false
set_option linter.unreachableTactic false

namespace PgVerif.Units
open PgVerif.Model PgVerif.Gen
open PgVerif.Spec (LB MB Ads Mat gL gM PRep LRep MRep TRep physScale fac)
open PgVerif.Spec.LB PgVerif.Spec.MB

variable {α : Type} [Field α] [CharZero α]

theorem facOf_eq_fac (t : List (String × Nat × Nat)) (s : String) : (facOf t s : Option α) = fac t s := rfl

theorem lookup_all {β} (t : List (String × β)) (P : β → Bool) (hall : t.all (fun e => P e.2) = true)
    (s : String) (b : β) (h : t.lookup s = some b) : P b = true := by
  obtain ⟨l₁, l₂, rfl, -⟩ := List.lookup_eq_some_iff.mp h
  exact List.all_eq_true.mp hall (s, b) (List.mem_append_right _ List.mem_cons_self)

def tableOk (t : List (String × Nat × Nat)) : Bool := t.all fun e => decide (e.2.1 ≠ 0 ∧ e.2.2 ≠ 0)

theorem facOf_ne_zero (t : List (String × Nat × Nat)) (ht : tableOk t = true) (s : String) (f : α)
    (h : (facOf t s : Option α) = some f) : f ≠ 0 := by
  obtain ⟨e, hl, rfl⟩ := Option.map_eq_some_iff.mp h
  have := lookup_all t (fun e => decide (e.1 ≠ 0 ∧ e.2 ≠ 0)) ht s e hl
  simp only [decide_eq_true_eq] at this
  exact div_ne_zero (Nat.cast_ne_zero.mpr this.1) (Nat.cast_ne_zero.mpr this.2)

/-! ### `_check_unit`, `_check_basis`, `c_unit` -/

theorem checkUnit_of_fac (t) (u : String) (f : α) (hu : u ≠ "") (h : (facOf t u : Option α) = some f) :
    (checkUnit t (some u) : Except Err α) = .ok f := by
  simp only [checkUnit, hu, if_false, h]

lemma checkUnit_err (t : List (String × Nat × Nat)) (u : Option String) (e : Err)
    (h : (checkUnit t u : Except Err α) = .error e) : e = .param := by
  unfold checkUnit at h; split at h <;> (try split at h) <;> (try split at h) <;> simp_all

lemma checkBasis_err (modes : List (String × Option String)) (b : Option String) (e : Err)
    (h : checkBasis modes b = .error e) : e = .param := by
  unfold checkBasis at h
  split at h
  · exact (Except.error.inj h).symm
  · split_ifs at h
    · exact (Except.error.inj h).symm
    · split at h
      · cases h
      · exact (Except.error.inj h).symm

lemma checkBasis_some (modes : List (String × Option String)) (a : String) :
    (∃ e, checkBasis modes (some a) = .error e) ∨ ∃ t, checkBasis modes (some a) = .ok (a, t) := by
  unfold checkBasis
  dsimp only
  split_ifs
  · exact .inl ⟨_, rfl⟩
  · split
    · exact .inr ⟨_, rfl⟩
    · exact .inl ⟨_, rfl⟩

lemma lookup_ne_empty {β : Type} {t : List (String × β)} (h0 : t.lookup "" = none) {b : String}
    (h : (t.lookup b).isSome = true) : b ≠ "" := by
  rintro rfl; rw [h0] at h; cases h

lemma checkBasis_of_lookup {modes : List (String × Option String)} (h0 : modes.lookup "" = none) {b : String}
    (h : (modes.lookup b).isSome = true) : ∃ t, checkBasis modes (some b) = .ok (b, t) := by
  obtain ⟨t, ht⟩ := Option.isSome_iff_exists.mp h
  exact ⟨t, by simp [checkBasis, lookup_ne_empty h0 h, ht]⟩

lemma bind_refuses {β γ : Type} {x : Except Err β} {k : β → Except Err γ} (hx : ∀ e, x = .error e → e = .param)
    (hk : ∀ b, k b = .error .param) : x >>= k = .error .param := by
  cases x with
  | error e => rw [hx e rfl]; rfl
  | ok b => exact hk b

theorem cUnit_ok (t) (v : α) (uf ut : String) (ff ft : α) (sign : Int) (hf0 : uf ≠ "") (ht0 : ut ≠ "")
    (hf : (facOf t uf : Option α) = some ff) (ht : (facOf t ut : Option α) = some ft) :
    cUnit t v (some uf) (some ut) sign = .ok (v * (ff / ft) ^ sign) := by
  simp only [cUnit, checkUnit_of_fac t _ _ hf0 hf, checkUnit_of_fac t _ _ ht0 ht, bind, Except.bind, pure, Except.pure]

lemma truthy_some {u : String} (hu : u ≠ "") : truthy (some u) = true := by
  simpa [truthy] using hu

/-- the same-basis branch of the converters: with the same unit on both sides the code does nothing, which is
what `c_unit` would have done -/
lemma cUnit_or_same (t) (v : α) {uf ut : String} {ff ft : α} (sign : Int) (hf0 : uf ≠ "") (ht0 : ut ≠ "")
    (hf : (facOf t uf : Option α) = some ff) (ht : (facOf t ut : Option α) = some ft) (hn : ft ≠ 0) :
    (if truthy (some ut) && decide (some uf ≠ some ut) then cUnit t v (some uf) (some ut) sign else .ok v) =
      .ok (v * (ff / ft) ^ sign) := by
  rw [cUnit_ok t v uf ut ff ft sign hf0 ht0 hf ht, truthy_some ht0]
  by_cases hu : uf = ut
  · subst hu
    cases hf.symm.trans ht
    simp only [ne_eq, not_true_eq_false, decide_false, Bool.and_false, Bool.false_eq_true, ↓reduceIte, div_self hn, one_zpow,
      mul_one]
  · simp only [ne_eq, Option.some.injEq, hu, not_false_eq_true, decide_true, Bool.and_self, ↓reduceIte]

/-! ### `c_pressure` -/

theorem pa_fac : (facOf pressureUnits "Pa" : Option α) = some 1 := by
  simp [facOf, pressureUnits, List.lookup]

theorem scale_abs {u : String} {s : α} (h : (if u = "" then none else (facOf pressureUnits u : Option α)) = some s) :
    u ≠ "" ∧ (facOf pressureUnits u : Option α) = some s := by
  by_cases hu : u = "" <;> simp_all

theorem pressure_ok : tableOk pressureUnits = true := by decide

theorem satP (ps : α) (u : String) (f : α) (hu : u ≠ "") (hf : (facOf pressureUnits u : Option α) = some f) :
    cUnit pressureUnits ps (some "Pa") (some u) 1 = .ok (ps / f) := by
  rw [cUnit_ok pressureUnits ps "Pa" u 1 f 1 (by decide) hu pa_fac hf, zpow_one, mul_one_div]

lemma abs_basis : checkBasis pressureMode (some "absolute") = .ok ("absolute", some "pressure") := by rfl

lemma checkBasis_pressure (a : PRep) : ∃ t, checkBasis pressureMode (some a.mode) = .ok (a.mode, t) := by
  cases a <;> exact ⟨_, rfl⟩

section
variable (psat : Option α) (tempOk : Bool) (v : α) {mf mt : Option String} (uf ut : Option String)
  {s s1 s2 : String} {t1 t2 : Option String}

lemma cPressure_same (h1 : checkBasis pressureMode mf = .ok (s, t1)) (h2 : checkBasis pressureMode mt = .ok (s, t2)) :
    cPressure psat tempOk v mf mt uf ut =
      if truthy ut && s = "absolute" then cUnit pressureUnits v uf ut 1 else .ok v := by
  simp only [cPressure, h1, h2, bind, Except.bind, pure, Except.pure, ne_eq, not_true_eq_false, ↓reduceIte]

lemma cPressure_rel (h1 : checkBasis pressureMode mf = .ok (s1, t1)) (h2 : checkBasis pressureMode mt = .ok (s2, t2))
    (hne : s1 ≠ s2) (ha1 : s1 ≠ "absolute") (ha2 : s2 ≠ "absolute") :
    cPressure psat tempOk v mf mt uf ut = .ok (v * 100 ^ (if s2 = "relative%" then 1 else -1 : ℤ)) := by
  simp only [cPressure, h1, h2, bind, Except.bind, pure, Except.pure, ne_eq, hne, not_false_eq_true, ha1, ha2, or_self,
    ↓reduceIte]

/-- absolute ↔ relative or relative %: the unit of the absolute side is checked, then the saturation pressure
is asked for in that unit -/
lemma cPressure_abs (h1 : checkBasis pressureMode mf = .ok (s1, t1)) (h2 : checkBasis pressureMode mt = .ok (s2, t2))
    (hne : s1 ≠ s2) (ha : s1 = "absolute" ∨ s2 = "absolute") :
    cPressure psat tempOk v mf mt uf ut =
      (checkUnit pressureUnits (if s1 = "absolute" then uf else ut) : Except Err α) >>= fun _ =>
        if !tempOk then .error .param
        else match psat with
          | none => .error .calc
          | some ps =>
            cUnit pressureUnits ps (some "Pa") (if s1 = "absolute" then uf else ut) 1 >>= fun f0 =>
              .ok (v * (if s2 = "relative%" ∨ s1 = "relative%" then f0 / 100 else f0) ^
                (if s1 = "absolute" then -1 else 1 : ℤ)) := by
  rcases ha with rfl | rfl
  · simp only [cPressure, h1, h2, bind, Except.bind, pure, Except.pure, ne_eq, hne, not_false_eq_true, or_true,
      Ne.symm hne, ↓reduceIte]
    rfl
  · simp only [cPressure, h1, h2, bind, Except.bind, pure, Except.pure, ne_eq, hne, not_false_eq_true, true_or,
      ↓reduceIte]
    rfl

end

theorem cPressure_spec (ps v : α) (hps : ps ≠ 0) (a b : PRep) (sa sb : α)
    (ha : a.scale pressureUnits ps = some sa) (hb : b.scale pressureUnits ps = some sb) :
    cPressure (some ps) true v (some a.mode) (some b.mode) a.unit b.unit = .ok (v * sa / sb) := by
  obtain ⟨ta, hma⟩ := checkBasis_pressure a
  obtain ⟨tb, hmb⟩ := checkBasis_pressure b
  cases a <;> cases b <;> simp only [Spec.PRep.scale, PRep.mode, PRep.unit, Option.some.injEq] at ha hb hma hmb ⊢
  case abs.abs u1 u2 =>
    obtain ⟨hu1, hf1⟩ := scale_abs ha
    obtain ⟨hu2, hf2⟩ := scale_abs hb
    rw [cPressure_same _ _ _ _ _ hma hmb, cUnit_ok _ v u1 u2 sa sb 1 hu1 hu2 hf1 hf2]
    simp only [truthy_some hu2, decide_true, Bool.and_self, ↓reduceIte, zpow_one, mul_div_assoc]
  case rel.relp | relp.rel =>
    subst ha hb
    simp only [cPressure_rel _ _ _ _ _ hma hmb, ne_eq, String.reduceEq, not_false_eq_true, ↓reduceIte, zpow_one,
      zpow_neg_one]
    field_simp
  case rel.rel | relp.relp =>
    subst ha hb
    rw [cPressure_same _ _ _ _ _ hma hmb]
    simp only [String.reduceEq, decide_false, Bool.and_false, Bool.false_eq_true, ↓reduceIte]
    field_simp
  case abs.rel u _ | abs.relp u _ =>
    obtain ⟨hu, hf⟩ := scale_abs ha
    subst hb
    have hn := facOf_ne_zero _ pressure_ok _ _ hf
    simp only [cPressure_abs _ _ _ _ _ hma hmb, ne_eq, not_false_eq_true, String.reduceEq, or_self, true_or, ↓reduceIte, checkUnit_of_fac _ _ _ hu hf, satP ps _ _ hu hf, bind,
      Except.bind, Bool.not_true, Bool.false_eq_true, zpow_neg_one]
    field_simp
  case rel.abs _ u | relp.abs _ u =>
    obtain ⟨hu, hf⟩ := scale_abs hb
    subst ha
    have hn := facOf_ne_zero _ pressure_ok _ _ hf
    simp only [cPressure_abs _ _ _ _ _ hma hmb, ne_eq, not_false_eq_true, String.reduceEq, or_self, or_true, ↓reduceIte, checkUnit_of_fac _ _ _ hu hf, satP ps _ _ hu hf, bind,
      Except.bind, Bool.not_true, Bool.false_eq_true, zpow_one]
    field_simp

/-! ### `c_loading` -/

def envOf (a : Ads α) (m : Mat α) : Env α
  | .gasDensity => some a.rhoG | .liquidDensity => some a.rhoL | .molarMass => some a.M
  | .gasMolarDensity => some a.rhoGbar | .liquidMolarDensity => some a.rhoLbar
  | .matDensity => some m.density | .matMolarMass => some m.molarMass

theorem tables_ok : tableOk molarUnits = true ∧ tableOk massUnits = true ∧ tableOk volumeUnits = true := by decide

lemma LB.table_ok (b : LB) : tableOk (unitTable b.table) = true := by cases b <;> decide
lemma MB.table_ok (b : MB) : tableOk (unitTable b.table) = true := by cases b <;> decide

theorem physScale_inv {a : Ads α} {b : LB} {u : String} {s : α} (h : physScale unitTable a b u = some s) :
    u ≠ "" ∧ ∃ f : α, (facOf (unitTable b.table) u : Option α) = some f ∧ s = f * gL a b ∧ f ≠ 0 := by
  unfold physScale unitTable at h
  by_cases hu : u = ""
  · simp [hu] at h
  · simp only [hu, if_false, Option.map_eq_some_iff] at h
    obtain ⟨f, hf, rfl⟩ := h
    refine ⟨hu, f, hf, rfl, ?_⟩
    exact facOf_ne_zero _ (LB.table_ok b) _ _ hf

/-- the constant and sign the code's if-chain selects, as a function of the two physical bases -/
def specLeaf : LB → LB → ConstExpr × Int
  | .mass, .volGas => (.q .gasDensity, -1)
  | .mass, .volLiq => (.q .liquidDensity, -1)
  | .mass, .molar => (.q .molarMass, -1)
  | .volGas, .mass => (.q .gasDensity, 1)
  | .volGas, .molar => (.q .gasMolarDensity, 1)
  | .volGas, .volLiq => (.ratio .gasMolarDensity .liquidMolarDensity, 1)
  | .volLiq, .mass => (.q .liquidDensity, 1)
  | .volLiq, .molar => (.q .liquidMolarDensity, 1)
  | .volLiq, .volGas => (.ratio .gasMolarDensity .liquidMolarDensity, -1)
  | .molar, .mass => (.q .molarMass, 1)
  | .molar, .volGas => (.q .gasMolarDensity, -1)
  | .molar, .volLiq => (.q .liquidMolarDensity, -1)
  | _, _ => (.one, 1)

theorem loadingConst_lookup (b1 b2 : LB) :
    loadingConst.lookup (b1.name, b2.name) = if b1 = b2 then none else some (specLeaf b1 b2) := by
  cases b1 <;> cases b2 <;> rfl

/-- value of the selected constant raised to the selected sign -/
def leafVal (a : Ads α) (b1 b2 : LB) : α := gL a b1 / gL a b2

/-- the chain is evaluated on each of the sixteen pairs of bases; consistency ties the mass densities to the molar ones -/
theorem leaf_phys (a : Ads α) (mat : Mat α) (hc : a.Consistent) (hp : a.Pos) (b1 b2 : LB) :
    ∃ c : α, ∃ sg : Int, leaf loadingConst (envOf a mat) (some b1.name) (some b2.name) = .ok (c, sg)
      ∧ c ^ sg = gL a b1 / gL a b2 := by
  obtain ⟨hM, hL, hLb, hG, hGb⟩ := hp
  obtain ⟨cL, cG⟩ := hc
  cases b1 <;> cases b2 <;> refine ⟨_, _, rfl, ?_⟩ <;>
    simp only [gL, cL, cG, zpow_neg_one, zpow_one] <;> field_simp

theorem rawFac_phys (b : LB) (u : String) (f : α) (hf : (facOf (unitTable b.table) u : Option α) = some f) :
    (rawFac loadingMode (some b.name) (some u) : Except Err α) = .ok f := by
  cases b <;> simp [rawFac, loadingMode, List.lookup, LB.name, LB.table] at hf ⊢ <;> simp [hf]

lemma checkBasis_loading (b : LB) : checkBasis loadingMode (some b.name) = .ok (b.name, some b.table) := by
  cases b <;> rfl

theorem frac_basis : checkBasis loadingMode (some "fraction") = .ok ("fraction", none) := by rfl
theorem pct_basis : checkBasis loadingMode (some "percent") = .ok ("percent", none) := by rfl

lemma LB.name_inj {b1 b2 : LB} : b1.name = b2.name ↔ b1 = b2 := by
  cases b1 <;> cases b2 <;> simp [LB.name]

lemma LB.name_ne_percent (b : LB) : b.name ≠ "percent" := by
  cases b <;> simp only [LB.name, ne_eq, String.reduceEq, not_false_eq_true]
lemma LB.name_ne_fraction (b : LB) : b.name ≠ "fraction" := by
  cases b <;> simp only [LB.name, ne_eq, String.reduceEq, not_false_eq_true]
lemma isFrac_name (b : LB) : isFrac b.name = false := by cases b <;> rfl

def pct (s : String) : α := if s = "percent" then 1 / 100 else 1

lemma pct_ne_zero (s : String) : (pct s : α) ≠ 0 := by
  unfold pct; split <;> norm_num

/-- the factor of the code's `if`-chain on the two bases -/
lemma pct_div {s1 s2 : String} (hne : s1 ≠ s2) :
    (if s1 = "percent" then 1 / 100 else if s2 = "percent" then 100 else 1 : α) = pct s1 / pct s2 := by
  unfold pct
  split_ifs with e1 e2 <;> first | exact absurd (e1.trans e2.symm) hne | norm_num

/-- fraction ↔ percentage of the same quantity `q` -/
lemma pct_frac {s1 s2 : String} (h1 : isFrac s1 = true) (h2 : isFrac s2 = true) (hne : s1 ≠ s2) (v : α) {q : α}
    (hq : q ≠ 0) : (if s1 = "percent" then v / 100 else v * 100) = v * (q * pct s1) / (q * pct s2) := by
  simp only [isFrac, Bool.or_eq_true, decide_eq_true_eq] at h1 h2
  rcases h1 with rfl | rfl <;> rcases h2 with rfl | rfl
  · exact absurd rfl hne
  · simp only [pct, String.reduceEq, ↓reduceIte]; field_simp
  · simp only [pct, String.reduceEq, ↓reduceIte]; field_simp
  · exact absurd rfl hne

/-- the code accepts `(s, u)` as one side of a change of basis (`s` is a loading basis and, if it has a unit table,
`u` is one of its units) and measures it in the physical basis `c` with unit `w`: its own, or, for a fraction or
percentage, those of the material -/
def Side (α : Type) [Field α] (b : Option String) (s : String) (u bm um : Option String) (c : LB) (w : String) : Prop :=
  (checkBasis loadingMode b = .ok (s, none) ∨
    ∃ (x : String) (g : α), checkBasis loadingMode b = .ok (s, some x) ∧ checkUnit (unitTable x) u = .ok g) ∧
  (if isFrac s then (if bm = some "volume" then some "volume_liquid" else bm, um) else (some s, u)) = (some c.name, some w)

section
variable (env : Env α) (v : α) {bf bt : Option String} (uf ut bm um : Option String) {s s1 s2 : String}
  {t1 t2 : Option String}

lemma cLoading_same (h1 : checkBasis loadingMode bf = .ok (s, t1)) (h2 : checkBasis loadingMode bt = .ok (s, t2)) :
    cLoading env v bf bt uf ut bm um =
      if truthy ut && uf ≠ ut then
        match (generalizing := false) t1 with
        | some t => cUnit (unitTable t) v uf ut 1
        | none => .error .type
      else .ok v := by
  simp only [cLoading, h1, h2, bind, Except.bind, pure, Except.pure, ne_eq, not_true_eq_false, ↓reduceIte]
  split <;> rfl

end

section
variable {a : Ads α} {m : MRep} {r : LRep} {b : LB} {u : String} {p : α}

lemma gL_ne_zero (hp : a.Pos) (b : LB) : gL a b ≠ 0 := by
  obtain ⟨hM, hL, hLb, hG, hGb⟩ := hp
  cases b <;> simp [gL, *]

lemma physScale_ne_zero (hp : a.Pos) (h : physScale unitTable a b u = some p) : p ≠ 0 := by
  obtain ⟨_, f, _, rfl, hn⟩ := physScale_inv h
  exact mul_ne_zero hn (gL_ne_zero hp b)

lemma side_phys (h : physScale unitTable a b u = some p) (bm um : Option String) :
    Side α (some b.name) b.name (some u) bm um b u := by
  obtain ⟨hu, f, hf, -, -⟩ := physScale_inv h
  exact ⟨.inr ⟨_, f, checkBasis_loading b, checkUnit_of_fac _ _ _ hu hf⟩, by rw [isFrac_name]; rfl⟩

/-- every representation with a scale is an accepted side, measured physically, its scale that of the measured
side times the percentage factor -/
lemma rep_side (h : r.scale unitTable a m = some p) :
    ∃ (c : LB) (w : String) (q : α), Side α (some r.basis) r.basis r.unit (some m.b.name) (some m.u) c w ∧
      physScale unitTable a c w = some q ∧ p = q * pct r.basis := by
  cases r with
  | phys b u => exact ⟨b, u, p, side_phys h _ _, h, by rw [LRep.basis, pct, if_neg (LB.name_ne_percent b), mul_one]⟩
  | frac =>
    exact ⟨m.b.toLB, m.u, p, ⟨.inl frac_basis, by cases m.b <;> rfl⟩, h, by rw [LRep.basis, pct, if_neg (by decide), mul_one]⟩
  | pct =>
    obtain ⟨q, hq, rfl⟩ := Option.map_eq_some_iff.mp h
    exact ⟨m.b.toLB, m.u, q, ⟨.inl pct_basis, by cases m.b <;> rfl⟩, hq, by rw [LRep.basis, pct, if_pos rfl, mul_one_div]⟩

lemma scale_ne_zero (hp : a.Pos) (h : r.scale unitTable a m = some p) : p ≠ 0 := by
  obtain ⟨c, w, q, -, hq, rfl⟩ := rep_side h
  exact mul_ne_zero (physScale_ne_zero hp hq) (pct_ne_zero _)

end

/-- change of basis between accepted sides: the ratio of the scales of the two sides as measured, each with its
percentage factor -/
lemma cLoading_ne (a : Ads α) (mat : Mat α) (hc : a.Consistent) (hp : a.Pos) (v : α)
    {bf bt uf ut bm um : Option String} {s1 s2 w1 w2 : String} {c1 c2 : LB} {q1 q2 : α}
    (h1 : Side α bf s1 uf bm um c1 w1) (h2 : Side α bt s2 ut bm um c2 w2) (hne : s1 ≠ s2)
    (hq1 : physScale unitTable a c1 w1 = some q1) (hq2 : physScale unitTable a c2 w2 = some q2) :
    cLoading (envOf a mat) v bf bt uf ut bm um = .ok (v * (q1 * pct s1) / (q2 * pct s2)) := by
  obtain ⟨h1, hs1⟩ := h1
  obtain ⟨h2, hs2⟩ := h2
  simp only [apply_ite Prod.fst, apply_ite Prod.snd, Prod.ext_iff] at hs1 hs2
  have hn2 := physScale_ne_zero hp hq2
  by_cases hfr : isFrac s1 = true ∧ isFrac s2 = true
  · -- both fractional: the same measured side, the code multiplies or divides by 100
    simp only [hfr.1, hfr.2, ↓reduceIte] at hs1 hs2
    obtain rfl := LB.name_inj.mp (Option.some.inj (hs1.1.symm.trans hs2.1))
    obtain rfl := Option.some.inj (hs1.2.symm.trans hs2.2)
    cases hq1.symm.trans hq2
    rcases h1 with h1 | ⟨x1, g1, h1, e1⟩ <;> rcases h2 with h2 | ⟨x2, g2, h2, e2⟩ <;>
      simp only [cLoading, *, bind, Except.bind, pure, Except.pure, ne_eq, not_false_eq_true, Bool.and_self, ↓reduceIte]
    all_goals exact congrArg _ (pct_frac hfr.1 hfr.2 hne v hn2)
  · have hfr' : (isFrac s1 && isFrac s2) = false := by simpa using hfr
    obtain ⟨_, f1, hf1, rfl, -⟩ := physScale_inv hq1
    obtain ⟨_, f2, hf2, rfl, -⟩ := physScale_inv hq2
    obtain ⟨c, sg, hl, hcs⟩ := leaf_phys a mat hc hp c1 c2
    have key : v * f1 * (pct s1 / pct s2) * (gL a c1 / gL a c2) / f2 =
        v * (f1 * gL a c1 * pct s1) / (f2 * gL a c2 * pct s2) := by ring
    rcases h1 with h1 | ⟨x1, g1, h1, e1⟩ <;> rcases h2 with h2 | ⟨x2, g2, h2, e2⟩ <;>
      simp only [cLoading, *, bind, Except.bind, pure, Except.pure, ne_eq, not_false_eq_true, Bool.false_eq_true, ↓reduceIte,
        rawFac_phys c1 w1 f1 hf1, rawFac_phys c2 w2 f2 hf2, pct_div hne, key]

theorem cLoading_phys (a : Ads α) (mat : Mat α) (hc : a.Consistent) (hp : a.Pos) (v : α)
    (b1 b2 : LB) (u1 u2 : String) (bm um : Option String) (s1 s2 : α)
    (h1 : physScale unitTable a b1 u1 = some s1) (h2 : physScale unitTable a b2 u2 = some s2) :
    cLoading (envOf a mat) v (some b1.name) (some b2.name) (some u1) (some u2) bm um = .ok (v * s1 / s2) := by
  by_cases hb : b1 = b2
  · subst hb
    obtain ⟨hu1, f1, hf1, rfl, hn1⟩ := physScale_inv h1
    obtain ⟨hu2, f2, hf2, rfl, hn2⟩ := physScale_inv h2
    have hg := gL_ne_zero hp b1
    simp only [cLoading_same _ v _ _ bm um (checkBasis_loading b1) (checkBasis_loading b1),
      cUnit_or_same _ v 1 hu1 hu2 hf1 hf2 hn2, zpow_one]
    congr 1
    field_simp
  · rw [cLoading_ne a mat hc hp v (side_phys h1 bm um) (side_phys h2 bm um) (mt LB.name_inj.mp hb) h1 h2, pct,
      if_neg (LB.name_ne_percent b1), pct, if_neg (LB.name_ne_percent b2), mul_one, mul_one]

/-- for every pair of loading representations (physical basis with a unit,
fraction, percent; the last two relative to the material representation `m`) the code multiplies by
`scale(from)/scale(to)`, the ratio of the SI contents of the two representations. -/
theorem cLoading_spec (a : Ads α) (mat : Mat α) (hc : a.Consistent) (hp : a.Pos) (v : α) (m : MRep)
    (r1 r2 : LRep) (s1 s2 : α) (h1 : r1.scale unitTable a m = some s1) (h2 : r2.scale unitTable a m = some s2) :
    cLoading (envOf a mat) v (some r1.basis) (some r2.basis) r1.unit r2.unit (some m.b.name) (some m.u)
      = .ok (v * s1 / s2) := by
  by_cases hb : r1.basis = r2.basis
  · cases r1 <;> cases r2 <;>
      simp only [LRep.basis, LB.name_ne_fraction, LB.name_ne_percent, Ne.symm (LB.name_ne_fraction _),
        Ne.symm (LB.name_ne_percent _), String.reduceEq] at hb
    case phys.phys b1 u1 b2 u2 => exact cLoading_phys a mat hc hp v b1 b2 u1 u2 _ _ s1 s2 h1 h2
    case frac.frac =>
      cases h1.symm.trans h2
      rw [mul_div_cancel_right₀ v (scale_ne_zero hp h1)]
      exact cLoading_same _ v none none _ _ frac_basis frac_basis
    case pct.pct =>
      cases h1.symm.trans h2
      rw [mul_div_cancel_right₀ v (scale_ne_zero hp h1)]
      exact cLoading_same _ v none none _ _ pct_basis pct_basis
  · obtain ⟨c1, w1, q1, S1, hq1, rfl⟩ := rep_side h1
    obtain ⟨c2, w2, q2, S2, hq2, rfl⟩ := rep_side h2
    exact cLoading_ne a mat hc hp v S1 S2 hb hq1 hq2

/-! ### `c_material` -/

def Mat.Pos (m : Mat α) : Prop := m.density ≠ 0 ∧ m.molarMass ≠ 0

def specLeafM : MB → MB → ConstExpr × Int
  | .mass, .volume => (.q .matDensity, -1)
  | .mass, .molar => (.q .matMolarMass, -1)
  | .volume, .mass => (.q .matDensity, 1)
  | .volume, .molar => (.ratio .matDensity .matMolarMass, 1)
  | .molar, .mass => (.q .matMolarMass, 1)
  | .molar, .volume => (.ratio .matDensity .matMolarMass, -1)
  | _, _ => (.one, 1)

theorem materialConst_lookup (b1 b2 : MB) :
    materialConst.lookup (b1.name, b2.name) = if b1 = b2 then none else some (specLeafM b1 b2) := by
  cases b1 <;> cases b2 <;> rfl

/-- the constant selected by `c_material` for an environment that presents density `mat.density` and
molar mass `mat.molarMass` (whatever else it contains) -/
theorem leaf_mat_env (env : Env α) (mat : Mat α) (hp : Mat.Pos mat)
    (hd : env .matDensity = some mat.density) (hm : env .matMolarMass = some mat.molarMass) (b1 b2 : MB) :
    ∃ c : α, ∃ sg : Int, leaf materialConst env (some b1.name) (some b2.name) = .ok (c, sg)
      ∧ c ^ sg = gM mat b1 / gM mat b2 := by
  obtain ⟨hd0, hm0⟩ := hp
  simp only [leaf, materialConst_lookup]
  cases b1 <;> cases b2 <;>
    simp only [specLeafM, evalConst, evalQty, hd, hm, gM, bind, Except.bind, pure, Except.pure, reduceCtorEq, ↓reduceIte,
      Except.ok.injEq, Prod.mk.injEq] <;>
    exact ⟨_, _, ⟨rfl, rfl⟩, by field_simp⟩

theorem grams_inv {mat : Mat α} {r : MRep} {g : α} (hp : Mat.Pos mat) (h : r.grams unitTable mat = some g) :
    r.u ≠ "" ∧ ∃ f : α, (facOf (unitTable r.b.table) r.u : Option α) = some f ∧ g = f * gM mat r.b ∧ f ≠ 0 ∧ gM mat r.b ≠ 0 := by
  unfold MRep.grams at h
  by_cases hu : r.u = ""
  · simp [hu] at h
  · simp only [hu, if_false, Option.map_eq_some_iff] at h
    obtain ⟨f, hf, rfl⟩ := h
    refine ⟨hu, f, hf, rfl, ?_, ?_⟩
    · exact facOf_ne_zero _ (MB.table_ok r.b) _ _ hf
    · obtain ⟨hd, hm⟩ := hp; cases r.b <;> simp [gM, *]

lemma checkBasis_material (b : MB) : checkBasis materialMode (some b.name) = .ok (b.name, some b.table) := by
  cases b <;> rfl

lemma MB.name_inj {b1 b2 : MB} : b1.name = b2.name ↔ b1 = b2 := by
  cases b1 <;> cases b2 <;> simp [MB.name]

section
variable (env : Env α) (v : α) {bf bt : Option String} (uf ut : Option String) {s s1 s2 : String} {t1 t2 : Option String}

/-- a quantity *per* unit of material: the unit factor enters inverted -/
lemma cMaterial_same {tb : String} (h1 : checkBasis materialMode bf = .ok (s, some tb))
    (h2 : checkBasis materialMode bt = .ok (s, t2)) :
    cMaterial env v bf bt uf ut = if truthy ut && uf ≠ ut then cUnit (unitTable tb) v uf ut (-1) else .ok v := by
  simp only [cMaterial, h1, h2, bind, Except.bind, pure, Except.pure, ne_eq, not_true_eq_false, ↓reduceIte, Option.getD_some]

/-- change of basis: target unit, source unit, constant -/
lemma cMaterial_change (h1 : checkBasis materialMode bf = .ok (s1, t1)) (h2 : checkBasis materialMode bt = .ok (s2, t2))
    (hne : s1 ≠ s2) :
    cMaterial env v bf bt uf ut =
      (checkUnit (unitTable (t2.getD "")) ut : Except Err α) >>= fun f2 =>
        (checkUnit (unitTable (t1.getD "")) uf : Except Err α) >>= fun f1 =>
          leaf materialConst env (some s1) (some s2) >>= fun cs => .ok (v / f1 / cs.1 ^ cs.2 * f2) := by
  simp only [cMaterial, h1, h2, hne, bind, Except.bind, pure, Except.pure, ne_eq, not_false_eq_true, ↓reduceIte]

end

/-- `c_material` multiplies a quantity per unit of material by grams(to)/grams(from), for any environment
presenting the material's density and molar mass (e.g. the one a `Material` object presents) -/
theorem cMaterial_spec_env (env : Env α) (mat : Mat α) (hp : Mat.Pos mat)
    (hd : env .matDensity = some mat.density) (hm : env .matMolarMass = some mat.molarMass)
    (v : α) (r1 r2 : MRep) (g1 g2 : α)
    (h1 : r1.grams unitTable mat = some g1) (h2 : r2.grams unitTable mat = some g2) :
    cMaterial env v (some r1.b.name) (some r2.b.name) (some r1.u) (some r2.u) = .ok (v * g2 / g1) := by
  obtain ⟨hu1, f1, hf1, rfl, hn1, hg1⟩ := grams_inv hp h1
  obtain ⟨hu2, f2, hf2, rfl, hn2, hg2⟩ := grams_inv hp h2
  by_cases hb : r1.b = r2.b
  · rw [hb] at hf1 hg1 ⊢
    rw [cMaterial_same env v _ _ (checkBasis_material r2.b) (checkBasis_material r2.b),
      cUnit_or_same _ v (-1) hu1 hu2 hf1 hf2 hn2, zpow_neg_one]
    congr 1
    field_simp
  · obtain ⟨c, sg, hl, hcs⟩ := leaf_mat_env env mat hp hd hm r1.b r2.b
    rw [cMaterial_change env v _ _ (checkBasis_material r1.b) (checkBasis_material r2.b) (mt MB.name_inj.mp hb)]
    simp only [Option.getD_some, checkUnit_of_fac _ _ _ hu1 hf1, checkUnit_of_fac _ _ _ hu2 hf2, hl, bind, Except.bind, hcs]
    congr 1
    field_simp

theorem cMaterial_spec (a : Ads α) (mat : Mat α) (hp : Mat.Pos mat) (v : α) (r1 r2 : MRep) (g1 g2 : α)
    (h1 : r1.grams unitTable mat = some g1) (h2 : r2.grams unitTable mat = some g2) :
    cMaterial (envOf a mat) v (some r1.b.name) (some r2.b.name) (some r1.u) (some r2.u) = .ok (v * g2 / g1) :=
  cMaterial_spec_env (envOf a mat) mat hp rfl rfl v r1 r2 g1 g2 h1 h2

/-! ### `c_temperature` -/

/-- a Celsius spelling: non-empty and contains the letter c/C; `K` is Kelvin -/
def TRep.Valid : TRep → Prop
  | .K => True
  | .C s => s ≠ "" ∧ containsC s = true

theorem normTemp_label (t : TRep) (h : TRep.Valid t) :
    normTemp (some t.label) = some (match t with | .K => "K" | .C _ => "°C") := by
  cases t with
  | K => rfl
  | C s => simp [TRep.Valid] at h; simp [normTemp, TRep.label, h.1, h.2]

theorem cTemperature_spec (v : α) (a b : TRep) (ha : TRep.Valid a) (hb : TRep.Valid b) :
    cTemperature v (some a.label) (some b.label) = .ok (b.ofK (a.toK v)) := by
  unfold cTemperature
  rw [normTemp_label a ha, normTemp_label b hb]
  cases a <;> cases b <;>
    simp only [checkTemp, tempOffset, temperatureUnits, List.lookup, String.reduceEq, String.reduceBEq, BEq.rfl,
      ↓reduceIte, Option.map_some, Option.some.injEq, Int.reduceNeg, Int.cast_neg, Int.cast_ofNat, Nat.cast_ofNat, TRep.ofK,
      TRep.toK, bind, Except.bind, pure, Except.pure, Except.ok.injEq]
  all_goals ring

end PgVerif.Units
