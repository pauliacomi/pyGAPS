/-
What the schema tie of C08 (`Props/C08/Schema.lean`) and the fault model of C09 (`Props/C09/Schema.lean`) both say of the generated
schema (`PgVerif.Gen.Schema`): foreign keys are switched on, the referential clauses of `Db.wellFormed` are plain foreign keys, the
CREATE statements carry no further constraint machinery, the entry points address existing tables.  Finite table comparisons, decided
by kernel evaluation; the kernel compares string literals byte by byte, which is why each is evaluated in one place.  Only what C09
needs is here, so that a schema edit irrelevant to atomicity touches C08 alone.  The lemmas stand in `PgVerif.C08.SchemaTie`, the namespace
of the definitions they are about (`Lemmas/SchemaTie.lean`), which both property files already refer to.

No Mathlib.
-/
import PgVerif.Lemmas.SchemaTie

namespace PgVerif.C08.SchemaTie

theorem connPragma_issued : Spec.Schema.connPragma ∈ Gen.Schema.connPragmas := by decide +kernel

theorem wellFormedRefs_plainFk :
    ∀ r ∈ Spec.Schema.wellFormedRefs, hasPlainFk r.1 r.2.1 r.2.2.1 r.2.2.2 = true := by decide +kernel

theorem extras_as_modelled :
    Gen.Schema.tables.map (fun t => (t.name, t.extras)) = Spec.Schema.extras ∧ Gen.Schema.otherObjects = [] := by decide +kernel

theorem opTables_exist :
    ∀ e ∈ Gen.Schema.opTables, ∀ t ∈ e.2,
      t ∈ tableNames ∨ (e.1 ∈ Spec.Schema.isoPropTypeEntryPoints ∧ t = "isotherm_properties_type") := by decide +kernel

end PgVerif.C08.SchemaTie
