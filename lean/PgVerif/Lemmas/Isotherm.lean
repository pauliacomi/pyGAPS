/-
Two shapes shared by the isotherm models: the Langmuir coverage `x / (1 + x)` (Langmuir, its multi-site sums, Temkin;
over any ordered field, so that the executed rational reference can use it too), and the Henry limit of a loading
that vanishes at zero pressure like `p · g p`.
-/
import Mathlib.Analysis.SpecialFunctions.Pow.Real
import Mathlib.Tactic

namespace PgVerif

section Coverage
variable {α : Type} [Field α] [LinearOrder α] [IsStrictOrderedRing α] {x y : α}

lemma cov_nonneg (hx : 0 ≤ x) : 0 ≤ x / (1 + x) := by positivity

lemma cov_lt_one (hx : 0 ≤ x) : x / (1 + x) < 1 := by
  rw [div_lt_one (by positivity)]
  exact lt_one_add x

/-- `x / (1 + x) = 1 - 1 / (1 + x)` increases with `x` -/
lemma cov_lt_cov (hx : 0 ≤ x) (hxy : x < y) : x / (1 + x) < y / (1 + y) := by
  rw [div_lt_div_iff₀ (by positivity) (by linarith)]
  linarith

end Coverage

open Filter Topology

lemma tendsto_div_nhdsGT_zero {f g : ℝ → ℝ} {L : ℝ} (hg : ContinuousAt g 0) (hL : g 0 = L) (h : ∀ p, f p = p * g p) :
    Tendsto (fun p => f p / p) (𝓝[>] 0) (𝓝 L) := by
  refine ((hL ▸ hg.tendsto).mono_left nhdsWithin_le_nhds).congr' ?_
  filter_upwards [self_mem_nhdsWithin] with p hp
  rw [h, mul_div_cancel_left₀ _ (ne_of_gt hp)]

end PgVerif
